import Thanos.Model.CompactProto
import Thanos.Lemmas.CompactInv
import Thanos.Props.C34
import Thanos.Generated.Facts
/-
  C29 — Compaction never loses or invents data, even if it crashes.

  "Compacting a group of blocks produces blocks holding exactly the samples of the sources
   (overlapping identical samples appear once when vertical compaction is enabled).  If the
   compactor crashes at any point and is restarted, at every moment the blocks a store gateway would
   serve still contain every original sample, and once compaction finishes each sample is served
   exactly once."

  Protocol level (partial): the theorems are about `Model/CompactProto.lean`, where the samples of a
  block are its sources and a compaction result holds the union of its sources' samples — that TSDB's
  merge really produces that union (with identical overlapping samples once) is checked by the
  harness on real blocks, not proved.  A crash of the compactor is the end of a prefix of an action
  sequence; after a restart any enabled action may follow.  So "for every reachable state" is
  "at every moment, for every crash point and every number of restarts".  The real compactor's
  bucket history is validated against this model on every run (`cp.valid`).
-/
namespace Thanos.CompactProto

/-- the parameters of a compactor alone (no store gateway in the system) -/
def compactorOnly (deleteDelay : Nat) : Params :=
  { deleteDelay := deleteDelay, divisor := 2, ignoreDelay := 0, lag := 0, levelTie := true }

/-- every reachable state of the compactor-only system satisfies the invariant of `Lemmas/CompactInv.lean`
    (no condition on the delays is needed when no gateway holds blocks) -/
theorem C29_inv (deleteDelay : Nat) (acts : List Action) (s : State)
    (h : run (compactorOnly deleteDelay) (init 0) acts = some s) : Inv (compactorOnly deleteDelay) s :=
  (run_inv _ rfl acts (init 0) s (Or.inr rfl) (init_inv _ 0) h).1

/-- C29, "at every moment … still contain every original sample", bucket level: at every moment
    (every crash point, any number of restarts) every block — marked for deletion or not — has an
    unmarked block that holds all its samples. -/
theorem C29_cover (deleteDelay : Nat) (acts : List Action) (s : State)
    (h : run (compactorOnly deleteDelay) (init 0) acts = some s) :
    ∀ b ∈ s.blocks, ∃ u ∈ s.blocks, u.mark = none ∧ covers u b = true :=
  fun _ hb => live_cover (C29_inv deleteDelay acts s h) hb

/-- … and at the store gateway: whatever ignore delay the gateway uses, its filter chain
    (deletion-mark filter, then duplicate filter) shows a block for every sample of the bucket. -/
theorem C29_served (deleteDelay ignoreDelay : Nat) (acts : List Action) (s : State)
    (h : run (compactorOnly deleteDelay) (init 0) acts = some s) :
    ∀ b ∈ s.blocks, ∀ x ∈ b.sources, ∃ k ∈ filterChain true ignoreDelay s.now s.blocks, x ∈ k.sources :=
  fun b hb x hx =>
    chain_complete (compactorOnly deleteDelay) s (C29_inv deleteDelay acts s h) ignoreDelay x
      (mem_allSources.mpr ⟨b, hb, hx⟩)

/-- C29, "never loses": no step of the compactor (compaction, marking, garbage collection,
    cleaning) removes a sample from the bucket. -/
theorem C29_no_loss (P : Params) (s s' : State) (a : Action) (hi : Inv P s) (h : step P s a = some s') :
    ∀ x ∈ allSources s.blocks, x ∈ allSources s'.blocks := by
  intro x hx
  obtain ⟨b, hb, hxb⟩ := mem_allSources.mp hx
  cases step_sound h with
  | ship | compact => exact mem_allSources.mpr ⟨b, List.mem_append_left _ hb, hxb⟩
  | markSource | gc => exact mem_allSources_setMark.mpr hx
  | clean hbm hbt =>
    -- the sample survives in an unmarked block, and only a marked block is deleted
    obtain ⟨u, hu, hul, huc⟩ := live_cover hi hb
    refine mem_allSources.mpr ⟨u, List.mem_filter.mpr ⟨hu, bne_iff_ne.mpr fun hub => ?_⟩, covers_iff.mp huc hxb⟩
    rw [eq_of_id_eq hi.ids_nodup hu hbm hub, hbt] at hul
    cases hul
  | _ => exact hx

/-- C29, "never invents": only a newly shipped block brings a new sample; a compaction result
    holds nothing but samples of the blocks it was compacted from. -/
theorem C29_no_invention (P : Params) (s s' : State) (a : Action) (hns : a ≠ .ship)
    (h : step P s a = some s') : ∀ x ∈ allSources s'.blocks, x ∈ allSources s.blocks := by
  intro x hx
  cases step_sound h with
  | ship => exact absurd rfl hns
  | compact hplan =>
    obtain ⟨b', hb', hxb'⟩ := mem_allSources.mp hx
    rcases List.mem_append.mp hb' with hb' | hb'
    · exact mem_allSources.mpr ⟨b', hb', hxb'⟩
    · rw [List.mem_singleton.mp hb'] at hxb'
      obtain ⟨p, hp, hxp⟩ := mem_allSources.mp hxb'
      exact mem_allSources.mpr ⟨p, mem_of_mem_filterChain (hplan p hp), hxp⟩
  | markSource | gc => exact mem_allSources_setMark.mp hx
  | clean =>
    obtain ⟨b', hb', hxb'⟩ := mem_allSources.mp hx
    exact mem_allSources.mpr ⟨b', (List.mem_filter.mp hb').1, hxb'⟩
  | _ => exact hx

/-! ### the planner is not part of the model: ANY plan over the compactor's view is allowed -/

/-- The `compact` action is enabled for EVERY non-empty duplicate-free choice of blocks of the compactor's view.
    By `C30_subset` and `C30_no_excluded` every plan of the real planner is such a choice (a sublist of the group's
    metas, which are the compactor's view), so the theorems of this file, being about all action sequences, hold
    whatever the planner selects: single blocks, overlapping blocks, blocks with gaps between them, blocks already
    marked for deletion but still in view. -/
theorem C29_any_plan (P : Params) (s : State) (ids : List Nat) (hne : ids ≠ []) (hnd : ids.Nodup)
    (hview : ∀ i ∈ ids, ∃ b ∈ compactorView P s, b.id = i) :
    ∃ s', step P s (.compact ids) = some s' := by
  obtain ⟨plan, hp, hl⟩ := mapM_find_some (view := compactorView P s) ids hview
  simp only [step, hnd, if_true, hp]
  cases plan with
  | nil => exact absurd (List.length_eq_zero_iff.mp hl.symm) hne
  | cons a l => exact ⟨_, rfl⟩

/-- A failed read of a meta.json or of a marker during a sync never changes the bucket: what it may do is abort the
    iteration (block family, `C33_classify`: which read outcomes make the view incomplete, and that an incomplete view
    leads to no write).  In particular it may not make a complete block look like an aborted upload to
    `BestEffortCleanAbortedPartialUploads`. -/
theorem C29_readFault_no_change (P : Params) (s : State) : step P s .readFault = some s := rfl

/-- the last clause in the model: in a reachable state where nothing is marked or hidden (`Quiescent`) no sample is
    in two different blocks of the gateway's view -/
def C29_once_full : Prop :=
  ∀ (deleteDelay ignoreDelay : Nat) (acts : List Action) (s : State),
    run (compactorOnly deleteDelay) (init 0) acts = some s → Quiescent (compactorOnly deleteDelay) s →
    ∀ a ∈ filterChain true ignoreDelay s.now s.blocks, ∀ b ∈ filterChain true ignoreDelay s.now s.blocks,
      ∀ x, x ∈ a.sources → x ∈ b.sources → a = b

/-- C29, "once compaction finishes each sample is served exactly once": `view_disjoint` at the reachable states of
    the compactor alone. -/
theorem C29_once : C29_once_full := by
  intro dd ig acts s hrun hq
  have ⟨hi, hl⟩ := run_inv (compactorOnly dd) rfl acts (init 0) s (Or.inr rfl) (init_inv _ 0) hrun
  exact view_disjoint _ s hi (hl ⟨by simp [init], by simp [init]⟩) hq ig

/-- non-vacuity of `C29_once`: the run below ends quiescent with two disjoint blocks -/
example : (run (compactorOnly 100) (init 0)
    [.ship, .ship, .ship, .compact [1, 2], .markSource 1 4, .gc 2, .tick 101, .clean 1, .clean 2]).map
      (fun s => decide (∀ b ∈ s.blocks, b.mark = none) && (duplicates true 50 s.now s.blocks).isEmpty) = some true := by decide +kernel

/-! non-vacuity: a crash between upload and marking, a restart that garbage-collects, cleaning -/
example : (run (compactorOnly 100) (init 0)
    [.ship, .ship, .ship, .compact [1, 2], .markSource 1 4, /- crash, restart -/ .gc 2, .tick 101, .clean 1, .clean 2]).map
      (fun s => s.blocks.map (fun b => (b.id, b.sources, b.mark))) = some [(3, [3], none), (4, [1, 2], none)] := by decide +kernel

/-! ## Regenerated facts: the order of the bucket-changing steps -/

/-- `Group.compact` uploads the result before it marks the sources (`markSource` needs the result in
    the bucket); the earlier `deleteBlock` is the branch for a compaction that produced no block and
    only touches sources without samples.  `deleteBlock` marks, it never deletes. -/
theorem C29_fact_compact_order :
    Thanos.Facts.groupCompactOrder = ["CompactWithBlockPopulator", "deleteBlock", "Upload", "deleteBlock"] ∧
    Thanos.Facts.deleteBlockMarks = ["MarkForDeletion"] := ⟨rfl, rfl⟩

/-- the upload's error reaches the check in front of the marking loop (shared with C34, where the
    skeleton `marksReached` is defined): marks are placed only after the result upload returned nil -/
theorem C29_fact_marks_only_after_upload :
    marksReached Thanos.Facts.groupCompactUploadGuard true = false := C34_fact_marks_only_after_upload.2.1

/-- the full iteration of cmd/thanos/compact.go the harness replays: (definition of cleanPartialMarked with
    BestEffortCleanAbortedPartialUploads over `sy.Partial()`), then in compactMainFn: compactor.Compact,
    retention, cleanPartialMarked; cleanPartialMarked once more as the periodic cleanup -/
theorem C29_fact_main_fn :
    Thanos.Facts.compactMainFnOrder = ["BestEffortCleanAbortedPartialUploads", "compactor.Compact",
      "ApplyRetentionPolicyByResolution", "cleanPartialMarked", "cleanPartialMarked"] ∧
    Thanos.Facts.cleanPartialArg = "sy.Partial()" := ⟨rfl, rfl⟩

/-- `loadMeta` reads the whole object before it parses: a failed READ is an error of the sync
    (incomplete view, nothing is written), only a failed PARSE makes the block "partial" — and
    partial blocks older than 48 h are what the cleaner deletes.  This is the implementation side of
    `C29_readFault_no_change`. -/
theorem C29_fact_load_meta : Thanos.Facts.loadMetaDecode = ["io.ReadAll", "json.Unmarshal"] := rfl

/-- What happens under a fault OUTSIDE the property's quantifier (recorded, not claimed): C29 ranges
    over block sets and crash points of the bucket operation sequence; the object store is trusted
    to be consistent (DESIGN §5).  If a store transiently answers "not found" for the meta.json of a
    complete 72 h old block, the fetcher takes the block for an aborted upload and the partial-upload
    cleaner deletes it although it was never marked — and once the only block holding a sample is
    deleted unmarked, the cover is gone.  No action of the model does this. -/
theorem C29_unmarked_delete_breaks_cover :
    let s : State := { now := 0, blocks := [{ id := 1, level := 1, sources := [1], mark := none }], gws := [], nextId := 2 }
    (∃ b ∈ s.blocks, 1 ∈ b.sources) ∧ ¬ (∃ b ∈ (s.blocks.filter (fun c => c.id != 1)), 1 ∈ b.sources) := by decide

/-- one iteration of `BucketCompactor.Compact`: sync, clean, garbage-collect, then plan -/
theorem C29_fact_loop_order :
    Thanos.Facts.compactLoopOrder = ["SyncMetas", "DeleteMarkedBlocks", "GarbageCollect", "Groups"] := rfl

end Thanos.CompactProto
