import Thanos.Model.LazyReader
import Thanos.Lemmas.LazyReader
import Thanos.Lemmas.ReaderPool
import Thanos.Generated.Facts
/-
  C16 — Lazy index headers stay correct under concurrent idle unloading.

  The theorems quantify over every number and mix of threads (readers calling Reader methods,
  unloaders = unloadIfIdleSince / Close / the pool's closeIdleReaders, idle probes) and over every
  schedule (list of thread ids) of the lock skeleton of lazy_binary_reader.go.  The skeleton is the
  one the extractor finds in the source (facts below).
  `C16_full recheckNil alias` is the property for two switches: it holds for the code as it is
  (`true`, `false`: `C16_no_use_after_close`, with the invariants `C16_rw_excl` and
  `C16_using_loaded` of the reachable states) and fails with answers that alias the mmapped header
  (F16, `C16_alias_false`) or without the nil re-check in `load` (`C16_norecheck_false`).  Then
  failing loads: nothing half-initialised is installed and the error is final (`C16_load_errors`,
  `C16_load_error_sticky`); and the bookkeeping of `ReaderPool.lazyReaders` under NewBinaryReader /
  Close / closeIdleReaders (`C16_pool_*`).
-/
namespace Thanos.LazyReader

/-- C16: whatever threads there are and whatever the schedule is,
    no call dereferences a nil reader, uses a closed header, or hands out an answer that is read
    after its header was closed (each of these sets `bad`).  How a call ends — with an answer of a header that was
    loaded and open during the whole call, or with the clean error errUnloadedWhileLoading — is in the `log`, which
    only the `example`s below look at. -/
def C16_full (recheckNil alias : Bool) : Prop :=
  ∀ (kinds : List Kind) (schedule : List Nat), (run recheckNil alias (init kinds) schedule).bad = false

/-- The code as it is (load re-checks `r.reader == nil`; every answer is a value or a copy):
    holds for all thread sets and all schedules. -/
theorem C16_no_use_after_close : C16_full true false :=
  fun kinds schedule => (inv_run (inv_init kinds) schedule).bad

/-- reader/writer exclusion of the modelled RWMutex in every reachable state: the holder of the
    write lock (a loading reader or an unloader) is the only lock holder -/
theorem C16_rw_excl (kinds : List Kind) (schedule : List Nat) (i j : Nat) (ti tj : Thread)
    (hi : (run true false (init kinds) schedule).threads[i]? = some ti)
    (hj : (run true false (init kinds) schedule).threads[j]? = some tj) (hij : i ≠ j)
    (hw : holdsW ti.pc = true) : holdsW tj.pc = false ∧ holdsR tj.pc = false :=
  (inv_run (inv_init kinds) schedule).excl i j ti tj hi hj hij hw

/-- in every reachable state the loaded reader is not closed, and a thread inside
    `r.reader.X()` is using exactly the loaded reader -/
theorem C16_using_loaded (kinds : List Kind) (schedule : List Nat) (i : Nat) (t : Thread) (g : Nat)
    (hi : (run true false (init kinds) schedule).threads[i]? = some t) (hu : t.pc = .inUse g) :
    (run true false (init kinds) schedule).reader = some g ∧
    (run true false (init kinds) schedule).closed.contains g = false := by
  have hI := inv_run (inv_init kinds) schedule
  have hr := (hI.known i t hi).2.1 g hu
  exact ⟨hr, hI.shared.open_ g hr⟩

/-- F16: if LabelValues returns strings that point into the mmapped header, one reader and
    one unloader suffice: the reader loads, answers and releases the read lock; the unloader
    closes the header; the caller then reads its answer. -/
theorem C16_alias_false : ¬ C16_full true true := fun h =>
  absurd (h [.reader, .unloader true] [0, 0, 0, 0, 0, 0, 0, 0, 0, 1, 1, 1, 0]) (by decide)

/-- without the re-check of `r.reader == nil` in `load`, an unload between the write unlock and
    the second read lock makes the caller dereference a nil reader -/
theorem C16_norecheck_false : ¬ C16_full false false := fun h =>
  absurd (h [.reader, .unloader true] [0, 0, 0, 0, 0, 1, 1, 1, 0, 0, 0]) (by decide)

/-- C16 with failing loads: whichever attempts of NewBinaryReader fail, whatever the threads and
    the schedule — nothing is dereferenced that is nil or closed; after a failed load there is no
    reader at all (no half-initialised reader is installed); and a thread that got past `load()`
    holds a loaded reader, so no call proceeds on a failed load (that it ends with the load error is shown on the
    `example`s below, not stated). -/
theorem C16_load_errors (kinds : List Kind) (failAt : List Nat) (schedule : List Nat) :
    (run true false (initF kinds failAt) schedule).bad = false ∧
    ((run true false (initF kinds failAt) schedule).readerErr = true →
      (run true false (initF kinds failAt) schedule).reader = none) ∧
    ∀ (i : Nat) (t : Thread), (run true false (initF kinds failAt) schedule).threads[i]? = some t →
      (t.pc = .fast ∨ ∃ g, t.pc = .inUse g) →
      (run true false (initF kinds failAt) schedule).reader.isSome = true ∧
      (run true false (initF kinds failAt) schedule).readerErr = false := by
  have hI := inv_run (inv_initF kinds failAt) schedule
  exact ⟨hI.bad, hI.shared.errNil, fun _ _ => hI.past_load⟩

/-- a failed load is final: from a reachable state with `readerErr` set, whatever happens next,
    the error stays, NewBinaryReader is never attempted again (load counters frozen) and no reader
    appears — so a later call can only end with the stored error (that it does is shown on the `example`s below, not
    stated here) -/
theorem C16_load_error_sticky (kinds : List Kind) (failAt : List Nat) (before after : List Nat)
    (h : (run true false (initF kinds failAt) before).readerErr = true) :
    (run true false (run true false (initF kinds failAt) before) after).readerErr = true ∧
    (run true false (run true false (initF kinds failAt) before) after).loads =
      (run true false (initF kinds failAt) before).loads ∧
    (run true false (run true false (initF kinds failAt) before) after).loadFails =
      (run true false (initF kinds failAt) before).loadFails ∧
    (run true false (run true false (initF kinds failAt) before) after).reader = none := by
  have hs := err_sticky_run true false after _ h
  have hI := inv_run (inv_run (inv_initF kinds failAt) before) after
  exact ⟨hs.1, hs.2.1, hs.2.2, hI.shared.errNil hs.1⟩

-- the first load fails: the loading call and the next one both end with the load error; one attempt
example : ((run true false (initF [.reader] [0]) [0, 0, 0, 0, 0, 0, 0, 0, 0]).log,
           (run true false (initF [.reader] [0]) [0, 0, 0, 0, 0, 0, 0, 0, 0]).loads,
           (run true false (initF [.reader] [0]) [0, 0, 0, 0, 0, 0, 0, 0, 0]).loadFails)
    = ([(0, .loadErr), (0, .loadErr)], 1, 1) := by decide
-- load, unload, then the reload (attempt 1) fails while a second reader waits for the write lock
example : (run true false (initF [.reader, .unloader true, .reader] [1])
    [0, 0, 0, 0, 0, 0, 0, 0, 0, 1, 1, 1, 0, 2, 0, 2, 0, 0, 0, 0, 0, 2, 2, 2, 2, 2]).log
    = [(0, .ok 0), (1, .unloaded 0), (0, .loadErr), (2, .loadErr)] := by decide +kernel

/-- bookkeeping of ReaderPool.lazyReaders for every sequence of NewBinaryReader / Reader calls /
    Close / closeIdleReaders: the map has no duplicates and only holds readers the pool handed
    out; a reader is removed at most once (`removals` has no duplicates), a removed reader is not
    in the map, and — when the pool sweeps — every reader is either tracked or was removed:
    removed exactly once, by its Close. -/
theorem C16_pool_bookkeeping (tracking : Bool) (ops : List ReaderPool.Op) :
    ReaderPool.PInv (ReaderPool.run (ReaderPool.init tracking) ops) :=
  ((ReaderPool.run_ok ops _).acct (ReaderPool.acct_init tracking)).pinv

/-- Close removes the reader from the map, and it never comes back: after the Close of a reader
    the pool handed out, whatever happens next (further calls on it, which reload it; sweeps;
    other readers created and closed; a second Close), the map does not hold it -/
theorem C16_pool_close_final (tracking : Bool) (before after : List ReaderPool.Op) (i : Nat)
    (hex : i < (ReaderPool.run (ReaderPool.init tracking) before).readers.length) :
    i ∉ (ReaderPool.run (ReaderPool.step (ReaderPool.run (ReaderPool.init tracking) before) (.close i)) after).tracked :=
  fun hm => ((ReaderPool.run_ok after _).fresh i hm).elim (ReaderPool.close_untracks hex).2
    (Nat.not_le.mpr (ReaderPool.close_untracks hex).1)

/-- closeIdleReaders removes nothing from the map; it unloads exactly the tracked readers that are
    loaded and were not used within the idle timeout — a reader used recently stays loaded, and a
    reader the pool no longer tracks (closed by its consumer, then used again against the contract)
    is never unloaded by a sweep -/
theorem C16_pool_sweep (p : ReaderPool.Pool) :
    (ReaderPool.step p .sweep).tracked = p.tracked ∧ (ReaderPool.step p .sweep).removals = p.removals ∧
    ∀ k r, p.readers[k]? = some r →
      (ReaderPool.step p .sweep).readers[k]? =
        some (if ReaderPool.idle p k r then { r with loaded := false } else r) := by
  refine ⟨rfl, rfl, ?_⟩
  intro k r hk
  have := ReaderPool.sweepFrom_get p 0 p.readers k r hk
  simpa [ReaderPool.step] using this

-- create two readers, use both, one ages, sweep: only the aged one is unloaded; both stay tracked;
-- closing the first removes it once, a second Close changes nothing
example : (ReaderPool.run (ReaderPool.init true) [.new, .new, .use 0, .use 1, .age 1, .sweep]).readers
    = [⟨true, true⟩, ⟨false, false⟩] := by decide
example : (ReaderPool.run (ReaderPool.init true) [.new, .new, .use 0, .use 1, .age 1, .sweep, .close 0, .close 0]).tracked
    = [1] := by decide
example : (ReaderPool.run (ReaderPool.init true) [.new, .new, .use 0, .close 0, .close 0, .use 0, .age 0, .sweep]).removals
    = [0] := by decide
-- a closed reader that is used again is reloaded and then never swept (documented contract: do not)
example : (ReaderPool.run (ReaderPool.init true) [.new, .close 0, .use 0, .age 0, .sweep]).readers
    = [⟨true, false⟩] := by decide

/-- every Reader method: RLock, deferred RUnlock, load(), then the call on r.reader
    (PCs idle → rl1 → … → fast → inUse → idle) -/
theorem C16_method_skeleton_fact :
    Thanos.Facts.lazyMethodSkeletons =
      ["IndexVersion: RLock defer( RUnlock ) load use",
       "PostingsOffsets: RLock defer( RUnlock ) load use",
       "PostingsOffset: RLock defer( RUnlock ) load use",
       "LookupSymbol: RLock defer( RUnlock ) load use",
       "LabelValues: RLock defer( RUnlock ) load use",
       "LabelNames: RLock defer( RUnlock ) load use"] := rfl

/-- load(): first test (rl1), RUnlock (→ wantW), Lock (→ w), [deferred: Unlock (→ wantR2), RLock
    (→ recheck), the nil re-check], second test, NewBinaryReader, assignment (w → wDone) -/
theorem C16_load_skeleton_fact :
    Thanos.Facts.lazyLoadSkeleton =
      ["if(r.reader != nil)", "RUnlock", "Lock", "defer(", "Unlock", "RLock",
       "if(returnErr == nil && r.reader == nil)", ")", "if(r.reader != nil)", "NewBinaryReader",
       "reader=reader"] := rfl

/-- unloadIfIdleSince(): Lock (→ uW), deferred Unlock, nil test, Close, `r.reader = nil` (→ uDone) -/
theorem C16_unload_skeleton_fact :
    Thanos.Facts.lazyUnloadSkeleton =
      ["Lock", "defer(", "Unlock", ")", "if(r.reader == nil)", "Close", "reader=nil"] ∧
    Thanos.Facts.lazyIsIdleSkeleton = ["RLock", "RUnlock"] := ⟨rfl, rfl⟩

/-- the one method whose BinaryReader result points into the mmapped header (LabelValues) does
    not hand that result out as it is (it returns copies): `alias = false` is the code -/
theorem C16_no_alias_fact :
    "LabelValues" ∉ Thanos.Facts.lazyDirectReturns ∧
    Thanos.Facts.lazyLabelValuesReturns = ["nil", "nil", "copyStrings(values)"] := ⟨by decide +kernel, rfl⟩

/-- load(): both tests are made twice (before and under the write lock), a failed NewBinaryReader
    stores the error and installs no reader, a successful one installs the reader -/
theorem C16_load_error_fact :
    Thanos.Facts.lazyLoadStmts =
      ["if:r.reader != nil {", "return nil", "}", "if:r.readerErr != nil {", "return r.readerErr", "}",
       "if:r.reader != nil {", "return nil", "}", "if:r.readerErr != nil {", "return r.readerErr", "}",
       "reader, err := NewBinaryReader(r.ctx, r.logger, r.bkt, r.dir, r.id, r.postingOffsetsInMemSampling, r.binaryReaderMetrics)",
       "if:err != nil {", "r.metrics.loadFailedCount.Inc()", "r.readerErr = err",
       "return errors.Wrapf(err, \"lazy load index-header for block %s\", r.id)", "}",
       "r.reader = reader", "return nil"] := rfl

/-- the pool: readers are put into the map only when the pool sweeps; the sweep unloads the idle
    ones and deletes nothing; the only delete is onLazyReaderClosed, which Close defers -/
theorem C16_pool_fact :
    Thanos.Facts.poolTrackingStmts =
      ["NewBinaryReader: if:p.lazyReaderEnabled && p.lazyReaderIdleTimeout > 0 {",
       "NewBinaryReader: p.lazyReaders[reader.(*LazyBinaryReader)] = struct{}{}",
       "closeIdleReaders: range:_,r in p.getIdleReadersSince(idleTimeoutAgo) {",
       "closeIdleReaders: if:err := r.unloadIfIdleSince(idleTimeoutAgo); err != nil && !errors.Is(err, errNotIdle) {",
       "getIdleReadersSince: range:r,unknown in p.lazyReaders {",
       "getIdleReadersSince: if:r.isIdleSince(ts) {",
       "onLazyReaderClosed: delete(p.lazyReaders, r)"] ∧
    Thanos.Facts.lazyCloseStmts =
      ["if:r.onClosed != nil {", "defer r.onClosed(r)", "}", "return r.unloadIfIdleSince(0)"] := ⟨rfl, rfl⟩

-- a reader is unloaded between its write unlock and its second read lock: clean error, no use
example : (run true false (init [.reader, .unloader true]) [0, 0, 0, 0, 0, 1, 1, 1, 0, 0, 0, 0]).log
    = [(1, .unloaded 0), (0, .errUnloaded)] := by decide
-- an unloader is blocked while a reader holds the read lock, the reader answers
example : (run true false (init [.reader, .unloader true]) [0, 0, 0, 0, 0, 0, 1, 1, 1, 0, 0, 0]).log
    = [(0, .ok 0)] := by decide
-- reload after unload gives a new generation
example : (run true false (init [.reader, .unloader true])
    [0, 0, 0, 0, 0, 0, 0, 0, 0, 1, 1, 1, 0, 0, 0, 0, 0, 0, 0, 0, 0]).log
    = [(0, .ok 0), (1, .unloaded 0), (0, .ok 1)] := by decide

end Thanos.LazyReader
