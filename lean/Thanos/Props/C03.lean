import Thanos.Model.Merge
import Thanos.Lemmas.Chain
import Thanos.Lemmas.Proxy
import Thanos.Lemmas.DedupOnce
import Thanos.Lemmas.KMerge
import Thanos.Lemmas.SortSpec
import Thanos.Lemmas.ProxyAnswer
import Thanos.Lemmas.LoserTreeFrames
import Thanos.Lemmas.Ring
import Thanos.Lemmas.ChunkOrder
import Thanos.Generated.Facts
/-
  C03 — StoreAPI fan-out merge returns each series once, sorted, with all chunks.

  Model: `Model/Merge.lean` (receivers, `sortWithoutLabels`, loser-tree `less`, the response
  deduplicator, `chainSeriesAndRemIdenticalChunks`, the batching server, the response loop) and
  `Model/LoserTree.lean` (pkg/losertree).  `fixed` selects `chainSeriesAndRemIdenticalChunks` before
  (`false`) / after (`true`) the repair of the chunk map key.
  The chunks of one merged series: `C03_chunks`, and what the unrepaired key loses (both keys through
  `chain_of_keyed`, `Lemmas/Chain.lean`).  Response batching: `C03_batch_independent`.  End to end, for any merge
  meeting `MergeSpec` and so for the loser tree (`losertree_refines`, `*_tree`): what a client reads is `answerOf`, a
  function of the set of delivered series (`Lemmas/ProxyAnswer.lean`) — sorted, each label set once, exactly the
  delivered chunks (`C03_sorted_once`, `C03_exact`), literally the same list for lazy and eager retrieval and any
  batch size (`C03_config_independent`).  The lazy ring buffer is a FIFO queue of any capacity (`C03_ring_fifo`); why
  the re-sort after stripping replica labels cannot be skipped (`rmLabels_not_monotone`).
-/
namespace Thanos.Merge

/-! ### chunks of one merged series (`chainSeriesAndRemIdenticalChunks`) -/

/-- C03, chunk part, at full strength: the merged series carries exactly the distinct chunks the
    stores returned for it — each once — ordered by (MinTime, MaxTime), under the first label set -/
def C03_chunks_full (fixed : Bool) : Prop :=
  ∀ (first : Series) (rest : List Series),
    let all := (first :: rest).flatMap (·.chunks)
    KeyInj all → Populated all →
      (chain fixed first rest).lbls = first.lbls ∧
      (chain fixed first rest).chunks.Nodup ∧
      (∀ c, c ∈ (chain fixed first rest).chunks ↔ c ∈ all) ∧
      (chain fixed first rest).chunks.Pairwise timeLe

/-- The repaired deduplicator (one map key per chunk, made of all populated fields). -/
theorem C03_chunks : C03_chunks_full true := by
  intro first rest all hinj hpop
  obtain ⟨hnd, hmem, hs⟩ := chain_of_keyed true keyOf first rest (dedupMap_fixed _) hinj hpop
  exact ⟨chain_lbls true first rest, hnd, hmem, hs.imp timeLe_of_chunkLe⟩

/-- The unrepaired code keeps an aggregated chunk once per populated field: the same chunk
    (Count + Sum populated) delivered by two stores comes out twice. -/
theorem C03_chunks_unfixed_false : ¬ C03_chunks_full false := by
  intro h
  let a : Chunk := { mint := 0, maxt := 10, raw := none, count := some ⟨0, [1, 1], 11⟩,
                     sum := some ⟨0, [2, 2], 22⟩, min := none, max := none, counter := none }
  have := (h { lbls := [], chunks := [a] } [{ lbls := [], chunks := [a] }]
    (by unfold KeyInj; decide) (by unfold Populated; decide)).2.1
  revert this
  decide

/-- … and loses a chunk all of whose field hashes already are keys of *other* chunks: with
    B = (Count x, Max y) before A = (Count x), A is dropped although it is a different chunk. -/
theorem C03_chunks_unfixed_loses :
    ∃ (first : Series) (rest : List Series) (c : Chunk),
      KeyInj ((first :: rest).flatMap (·.chunks)) ∧ Populated ((first :: rest).flatMap (·.chunks)) ∧
      c ∈ (first :: rest).flatMap (·.chunks) ∧ c ∉ (chain false first rest).chunks := by
  let a : Chunk := { mint := 60, maxt := 75, raw := none, count := some ⟨0, [1, 1], 11⟩,
                     sum := none, min := none, max := none, counter := none }
  let b : Chunk := { mint := 40, maxt := 40, raw := none, count := some ⟨0, [1, 1], 11⟩,
                     sum := none, min := none, max := some ⟨2, [3, 3], 33⟩, counter := none }
  refine ⟨{ lbls := [], chunks := [b] }, [{ lbls := [], chunks := [a] }], a, ?_, ?_, by decide, by decide⟩
  · unfold KeyInj; decide
  · unfold Populated; decide

/-- What the unrepaired code does guarantee: for chunks with exactly one populated field (raw
    chunks, or a single requested aggregate) whose hashes tell them apart, the same conclusion. -/
theorem C03_chunks_unfixed_partial (first : Series) (rest : List Series)
    (hs : SingleField ((first :: rest).flatMap (·.chunks)))
    (hinj : ∀ c ∈ (first :: rest).flatMap (·.chunks), ∀ d ∈ (first :: rest).flatMap (·.chunks), key1 c = key1 d → c = d) :
    (chain false first rest).chunks.Nodup ∧
    (∀ c, c ∈ (chain false first rest).chunks ↔ c ∈ (first :: rest).flatMap (·.chunks)) ∧
    (chain false first rest).chunks.Pairwise timeLe := by
  have hpop : ∀ c ∈ (first :: rest).flatMap (·.chunks), key1 c ≠ [] := by
    intro c hc
    obtain ⟨i, f, hf⟩ := hs c hc
    simp [key1, hf]
  obtain ⟨hnd, hmem, hs⟩ := chain_of_keyed false key1 first rest (dedupMap_unfixed_single _ [] hs) hinj hpop
  exact ⟨hnd, hmem, hs.imp timeLe_of_chunkLe⟩

/-! ### response batching (`batchableServer`) -/

/-- **Batch size independence.**  Whatever `ResponseBatchSize` is, a client that unpacks the
    batches reads the same series in the same order as without batching (and nothing is left in
    the server's buffer: the final `Flush`). -/
theorem C03_batch_independent (batchSize : Nat) (sent : List Frame) (h : NoBatch sent) :
    flatten (serverOut batchSize true sent) = seriesOf sent :=
  flatten_serverOut batchSize sent h

/-! ### end to end: sorted, each label set once, exactly the delivered chunks

  The k-way merge enters as a parameter with the specification `MergeSpec` (`Lemmas/KMerge.lean`); that
  pkg/losertree meets it is `losertree_refines` (`Lemmas/LoserTreeFrames.lean`). -/

/-- **C03, sorted and once.**  For any number of stores that each stream label-sorted series
    (split over frames, batched, duplicated across stores, warnings / hints interleaved, some of
    them failing mid-stream), lazy or eager retrieval, any buffer and batch size, with or without
    replica-label removal and re-sort: the proxied answer lists the series strictly increasing by
    labels — sorted, each label set once. -/
theorem C03_sorted_once (merge : List (List Frame) → List Frame) (hm : MergeSpec merge)
    (rq : Request) (stores : List Store) (hab : rq.abort = false) (hlim : rq.limit = 0)
    (hd : rq.dedup = true) (hs : StoresSorted rq stores) :
    (flatten (proxySeriesWith merge rq stores).1).Pairwise (fun a b => cmpLabels a.lbls b.lbls = .lt) := by
  rw [flatten_proxy_warn merge (mergeMem_of_spec hm) rq stores hab hlim, answerOf, respsOf, if_pos hd]
  refine dedup_sorted _ ((hm _).sorted fun set hset => ?_)
  obtain ⟨st, hst, rfl⟩ := List.mem_map.mp hset
  exact respSet_sorted rq st (hs st (List.mem_filter.mp hst).1)

/-- **C03, exactly the delivered chunks.**  With the repaired deduplicator and chunk keys that tell
    the delivered chunks apart: (a) every delivered series is represented by an answer series with
    the same labels that carries all of its chunks; (b) every answer series has the labels of a
    delivered series, and its chunks are without repetition, ordered by (MinTime, MaxTime), and each
    of them was delivered by some store for these labels. -/
theorem C03_exact (merge : List (List Frame) → List Frame) (hm : MergeMem merge)
    (rq : Request) (stores : List Store) (hab : rq.abort = false) (hlim : rq.limit = 0)
    (hd : rq.dedup = true) (hfix : rq.fixedDedup = true)
    (hkeys : ∀ ss : List Series, (∀ s ∈ ss, Delivered rq stores s) →
      KeyInj (ss.flatMap (·.chunks)) ∧ Populated (ss.flatMap (·.chunks))) :
    (∀ s, Delivered rq stores s → ∃ o ∈ flatten (proxySeriesWith merge rq stores).1,
        cmpLabels o.lbls s.lbls = .eq ∧ ∀ c ∈ s.chunks, c ∈ o.chunks) ∧
    (∀ o ∈ flatten (proxySeriesWith merge rq stores).1,
        o.chunks.Nodup ∧ o.chunks.Pairwise timeLe ∧
        (∃ s, Delivered rq stores s ∧ o.lbls = s.lbls) ∧
        (∀ c ∈ o.chunks, ∃ s, Delivered rq stores s ∧ cmpLabels o.lbls s.lbls = .eq ∧ c ∈ s.chunks)) := by
  have e := exactOf_proxy merge hm rq stores hab hlim hd hfix hkeys
  exact ⟨e.complete, fun o ho =>
    ⟨e.nodup o ho, (e.chunksSorted o ho).imp timeLe_of_chunkLe, e.lbls o ho, e.sound o ho⟩⟩

/-- **Configuration independence (batch size).**  Two requests that differ only in
    `ResponseBatchSize` give a client that unpacks batches the very same list of series. -/
theorem C03_batch_size_independent (merge : List (List Frame) → List Frame) (hm : MergeMem merge)
    (rq : Request) (b1 b2 : Nat) (stores : List Store) (hab : rq.abort = false) (hlim : rq.limit = 0) :
    flatten (proxySeriesWith merge { rq with batchSize := b1 } stores).1 =
    flatten (proxySeriesWith merge { rq with batchSize := b2 } stores).1 := by
  rw [flatten_proxy_warn merge hm { rq with batchSize := b1 } stores hab hlim,
    flatten_proxy_warn merge hm { rq with batchSize := b2 } stores hab hlim]
  rfl

/-- **Configuration independence (retrieval strategy).**  Lazy and eager retrieval deliver the same
    series responses to the merge (eager only permutes a store's responses), so `C03_sorted_once`
    and `C03_exact` describe the answer of both in the same terms; the lazy buffer size does not
    occur in the model at all (the ring buffer is a FIFO). -/
theorem C03_delivered_lazy_eager (rq : Request) (stores : List Store) (s : Series) :
    Delivered { rq with lazy := true } stores s ↔ Delivered { rq with lazy := false } stores s := by
  apply delivered_congr
  · rfl
  · rfl

/-- `C03_sorted_once` for `proxySeries`, the loser tree as the merge (the driver runs it against the real
    `ProxyStore.Series` on `stores.map Store.seen`, to which the theorem applies as it stands) -/
theorem C03_sorted_once_tree (rq : Request) (stores : List Store) (hab : rq.abort = false)
    (hlim : rq.limit = 0) (hd : rq.dedup = true) (hs : StoresSorted rq stores) :
    (flatten (proxySeries rq stores).1).Pairwise (fun a b => cmpLabels a.lbls b.lbls = .lt) :=
  C03_sorted_once treeMerge losertree_refines rq stores hab hlim hd hs

/-- `C03_exact` for `proxySeries` -/
theorem C03_exact_tree (rq : Request) (stores : List Store) (hab : rq.abort = false) (hlim : rq.limit = 0)
    (hd : rq.dedup = true) (hfix : rq.fixedDedup = true)
    (hkeys : ∀ ss : List Series, (∀ s ∈ ss, Delivered rq stores s) →
      KeyInj (ss.flatMap (·.chunks)) ∧ Populated (ss.flatMap (·.chunks))) :
    (∀ s, Delivered rq stores s → ∃ o ∈ flatten (proxySeries rq stores).1,
        cmpLabels o.lbls s.lbls = .eq ∧ ∀ c ∈ s.chunks, c ∈ o.chunks) ∧
    (∀ o ∈ flatten (proxySeries rq stores).1,
        o.chunks.Nodup ∧ o.chunks.Pairwise timeLe ∧
        (∃ s, Delivered rq stores s ∧ o.lbls = s.lbls) ∧
        (∀ c ∈ o.chunks, ∃ s, Delivered rq stores s ∧ cmpLabels o.lbls s.lbls = .eq ∧ c ∈ s.chunks)) :=
  C03_exact treeMerge (mergeMem_of_spec losertree_refines) rq stores hab hlim hd hfix hkeys

/-! ### literal configuration independence

  `AggrChunk.Compare` is a total order on the visible content of a chunk (`Lemmas/ChunkOrder.lean`), so the
  sorted chunk list of an answer series is determined by its set.  The buffer size is covered by `C03_ring_fifo`. -/

/-- every answer series carries its chunks in the full `Compare` order -/
theorem C03_chunks_sortedFull (merge : List (List Frame) → List Frame) (hm : MergeMem merge)
    (rq : Request) (stores : List Store) (hab : rq.abort = false) (hlim : rq.limit = 0)
    (hd : rq.dedup = true) (hfix : rq.fixedDedup = true)
    (hkeys : ∀ ss : List Series, (∀ s ∈ ss, Delivered rq stores s) →
      KeyInj (ss.flatMap (·.chunks)) ∧ Populated (ss.flatMap (·.chunks))) :
    ∀ o ∈ flatten (proxySeriesWith merge rq stores).1, o.chunks.Pairwise chunkLe :=
  (exactOf_proxy merge hm rq stores hab hlim hd hfix hkeys).chunksSorted

def DeliveredChunk (rq : Request) (stores : List Store) (c : Chunk) : Prop :=
  ∃ s, Delivered rq stores s ∧ c ∈ s.chunks

/-- **C03, configuration independence, literally.**  Two requests that differ only in the retrieval
    strategy and the response batch size are answered with the very same list of series — same
    order, same labels, same chunk lists — provided the delivered chunks are told apart by their
    keys (`KeyInj`) and by their visible content (`ckey`: equal time range, encodings and data ⇒
    equal hashes, i.e. the hash is a function of the data). -/
theorem C03_config_independent (merge : List (List Frame) → List Frame) (hm : MergeSpec merge)
    (rq1 rq2 : Request) (stores : List Store)
    (hab1 : rq1.abort = false) (hlim1 : rq1.limit = 0) (hd1 : rq1.dedup = true) (hfix1 : rq1.fixedDedup = true)
    (hab2 : rq2.abort = false) (hlim2 : rq2.limit = 0) (hd2 : rq2.dedup = true) (hfix2 : rq2.fixedDedup = true)
    (hsh : rq1.sharded = rq2.sharded) (hwo : rq1.without = rq2.without)
    (hs1 : StoresSorted rq1 stores) (hs2 : StoresSorted rq2 stores)
    (hkeys : ∀ ss : List Series, (∀ s ∈ ss, Delivered rq1 stores s) →
      KeyInj (ss.flatMap (·.chunks)) ∧ Populated (ss.flatMap (·.chunks)))
    (hvis : ∀ c d, DeliveredChunk rq1 stores c → DeliveredChunk rq1 stores d → ckey c = ckey d → c = d) :
    flatten (proxySeriesWith merge rq1 stores).1 = flatten (proxySeriesWith merge rq2 stores).1 := by
  have hmm := mergeMem_of_spec hm
  have hD : Delivered rq2 stores = Delivered rq1 stores :=
    funext fun s => propext (delivered_congr hsh.symm hwo.symm stores s)
  exact answer_unique
    ⟨exactOf_proxy merge hmm rq1 stores hab1 hlim1 hd1 hfix1 hkeys, C03_sorted_once merge hm rq1 stores hab1 hlim1 hd1 hs1⟩
    ⟨hD ▸ exactOf_proxy merge hmm rq2 stores hab2 hlim2 hd2 hfix2 (hD ▸ hkeys),
      C03_sorted_once merge hm rq2 stores hab2 hlim2 hd2 hs2⟩
    hvis

/-- … for the merge the proxy uses -/
theorem C03_config_independent_tree (rq1 rq2 : Request) (stores : List Store)
    (hab1 : rq1.abort = false) (hlim1 : rq1.limit = 0) (hd1 : rq1.dedup = true) (hfix1 : rq1.fixedDedup = true)
    (hab2 : rq2.abort = false) (hlim2 : rq2.limit = 0) (hd2 : rq2.dedup = true) (hfix2 : rq2.fixedDedup = true)
    (hsh : rq1.sharded = rq2.sharded) (hwo : rq1.without = rq2.without)
    (hs1 : StoresSorted rq1 stores) (hs2 : StoresSorted rq2 stores)
    (hkeys : ∀ ss : List Series, (∀ s ∈ ss, Delivered rq1 stores s) →
      KeyInj (ss.flatMap (·.chunks)) ∧ Populated (ss.flatMap (·.chunks)))
    (hvis : ∀ c d, DeliveredChunk rq1 stores c → DeliveredChunk rq1 stores d → ckey c = ckey d → c = d) :
    flatten (proxySeries rq1 stores).1 = flatten (proxySeries rq2 stores).1 :=
  C03_config_independent treeMerge losertree_refines rq1 rq2 stores hab1 hlim1 hd1 hfix1 hab2 hlim2 hd2 hfix2
    hsh hwo hs1 hs2 hkeys hvis

/-! ### the lazy buffer -/

/-- **Any lazy buffer size.**  The ring buffer between a lazy receiver and the merge
    (`lazyRetrievalMaxBufferedResponses` slots) is a FIFO queue of that capacity under every
    interleaving of producer and consumer steps (a producer step on a full buffer / a consumer step
    on an empty one is not enabled: the goroutine waits on the condition variable).  Hence a lazy
    response set hands the merge the store's responses in arrival order whatever the buffer size —
    the reason the buffer size does not occur in `respSet`. -/
theorem C03_ring_fifo {α : Type} (maxBuffered : Nat) (ops : List (Ring.Op α)) :
    (Ring.run (Ring.Ring.new maxBuffered) ops).1 = (Ring.runQueue maxBuffered [] ops).1 :=
  (Ring.run_refines maxBuffered ops (Ring.Ring.new maxBuffered) [] (Ring.rep_new maxBuffered)).1

/-! ### why the re-sort after stripping replica labels is unconditional

  A store that cannot strip replica labels streams its series in `labels.Compare` order *with*
  the replica label.  "Dropping a label that every series carries with the same value keeps the
  order" is the lemma an optimisation that skips the sort for a constant replica value would
  need.  It is false: `rmLabels` is not monotone for `labels.Compare`, because a proper-prefix pair
  is ordered by the *name* that follows the common prefix — `{job, path, replica}` comes before
  `{job, replica}` (path < replica) but `{job}` comes before `{job, path}`. -/

private def lJob : Bytes × Bytes := ([106, 111, 98], [97, 112, 105])          -- job="api"
private def lPath : Bytes × Bytes := ([112, 97, 116, 104], [47, 120])         -- path="/x"
private def lReplica : Bytes × Bytes := ([114, 101, 112, 108, 105, 99, 97], [114, 49])  -- replica="r1"
private def lZone : Bytes × Bytes := ([122, 111, 110, 101], [97])             -- zone="a"

/-- refutation of the monotonicity lemma, for a single replica label with a constant value -/
theorem rmLabels_not_monotone :
    ¬ (∀ (a b : Labels) (names : List Bytes),
        (∀ n ∈ names, a.lookup n ≠ none ∧ a.lookup n = b.lookup n) →
        cmpLabels a b = .lt → cmpLabels (rmLabels a names) (rmLabels b names) ≠ .gt) := by
  intro h
  have := h [lJob, lPath, lReplica] [lJob, lReplica] [lReplica.1] (by decide) (by decide)
  revert this
  decide

/-- when the extra label sorts *after* the replica label the pair keeps its order — the shape of
    the label sets, not the replica value, decides -/
example : cmpLabels [lJob, lReplica] [lJob, lReplica, lZone] = .lt ∧
    cmpLabels (rmLabels [lJob, lReplica] [lReplica.1]) (rmLabels [lJob, lReplica, lZone] [lReplica.1]) = .lt := by decide

/-- the model's `sortWithoutLabels` on the witness: the stream arrives in store order and leaves
    re-ordered; stripping alone would hand an unsorted stream to the merge -/
theorem sortWithoutLabels_reorders_constant_replica :
    sortWithoutLabels [.series ⟨[lJob, lPath, lReplica], []⟩, .series ⟨[lJob, lReplica], []⟩] [lReplica.1]
      = [.series ⟨[lJob], []⟩, .series ⟨[lJob, lPath], []⟩] ∧
    cmpLabels (rmLabels [lJob, lPath, lReplica] [lReplica.1]) (rmLabels [lJob, lReplica] [lReplica.1]) = .gt := by decide

/-! ### regenerated facts -/

/-- the order in which `chainSeriesAndRemIdenticalChunks` walks the fields (`dedupFields`) -/
theorem C03_fact_field_order :
    Thanos.Facts.chainFieldOrder = ["chk.Raw", "chk.Count", "chk.Max", "chk.Min", "chk.Sum", "chk.Counter"] := rfl

/-- the comparator handed to `sort.Slice` (`chunkBefore`) -/
theorem C03_fact_sort : Thanos.Facts.chainSortLess = "finalChunks[i].Compare(finalChunks[j]) > 0" := rfl

/-- `batchableServer.Send` flushes at `len(b.series) >= b.batchSize` (`rebatch`) and the response
    loop of `Series` stops at `r.Limit > 0 && i > int(r.Limit)` (`respLoop`) -/
theorem C03_fact_batch_limit :
    Thanos.Facts.batchFlushCond = "len(b.series) >= b.batchSize" ∧
    Thanos.Facts.seriesLimitCond = "r.Limit > 0 && i > int(r.Limit)" := ⟨rfl, rfl⟩

/-- `sortWithoutLabels` in the sources: the strip loop, then `sort.Slice`, nothing else at top level
    and no return statement outside the comparator — the sort is unconditional -/
theorem C03_fact_resort_unconditional :
    Thanos.Facts.sortWithoutLabelsShape = ["range set", "call sort.Slice"] ∧
    Thanos.Facts.sortWithoutLabelsReturns = "0" := ⟨rfl, rfl⟩

/-! ### non-vacuity -/

private def rawChunk (mint maxt : Int) (d h : Nat) : Chunk :=
  { mint := mint, maxt := maxt, raw := some ⟨0, [d, d], h⟩, count := none, sum := none, min := none, max := none, counter := none }

-- three stores deliver overlapping chunk sets of one series; hypotheses of C03_chunks are met
example : (chain true ⟨[([97], [49])], [rawChunk 10 20 1 101, rawChunk 0 5 2 102]⟩
    [⟨[([97], [49])], [rawChunk 10 20 1 101]⟩, ⟨[([97], [49])], [rawChunk 30 40 3 103, rawChunk 0 5 2 102]⟩]).chunks
    = [rawChunk 0 5 2 102, rawChunk 10 20 1 101, rawChunk 30 40 3 103] := rfl
example : flatten (serverOut 2 true [.series ⟨[], []⟩, .warning [1], .series ⟨[], []⟩, .series ⟨[], []⟩, .series ⟨[], []⟩])
    = [⟨[], []⟩, ⟨[], []⟩, ⟨[], []⟩, ⟨[], []⟩] := rfl
example : serverOut 2 true [.series ⟨[], []⟩, .warning [1], .series ⟨[], []⟩, .series ⟨[], []⟩, .series ⟨[], []⟩]
    = [.batch [⟨[], []⟩], .warning [1], .batch [⟨[], []⟩, ⟨[], []⟩], .batch [⟨[], []⟩]] := rfl

-- the loser tree on three concrete response sets (a failing store's warning at the end of its
-- stream, duplicates across stores): what `losertree_refines` talks about
private def sr (b : Nat) (cs : List Chunk) : Frame := .series ⟨[([98], [b])], cs⟩
example : treeMerge [[sr 1 [], sr 3 []], [sr 2 [], .warning [7]], [sr 1 [], sr 4 []]]
    = [sr 1 [], sr 1 [], sr 2 [], .warning [7], sr 3 [], sr 4 []] := by decide +kernel
-- end to end: three stores, one of them unsorted but re-sorted by the proxy because it cannot strip the
-- replica label "a" (= [97]); the hypotheses of `C03_sorted_once_tree` are met and the answer is what it says
private def stOK (sw : Bool) (fs : List Frame) : Store :=
  { supportsSharding := true, supportsWithout := sw, openErr := false, failure := .none,
    frames := fs.map (·, true), recvMsg := [1], timeoutMsg := [2], openMsg := [3] }
private def rq0 : Request :=
  { fixedDedup := true, lazy := true, batchSize := 2, limit := 0, abort := false, dedup := true, sharded := false, without := [[97]] }
private def storesEx : List Store :=
  [stOK true [sr 1 [rawChunk 0 5 1 101], sr 3 []],
   stOK false [.series ⟨[([97], [49]), ([98], [2])], []⟩, .series ⟨[([97], [50]), ([98], [1])], [rawChunk 10 20 2 102, rawChunk 0 5 1 101]⟩],
   stOK true [.batch [⟨[([98], [2])], [rawChunk 0 5 3 103]⟩, ⟨[([98], [3])], []⟩]]]
private theorem answerEx : flatten (proxySeries rq0 storesEx).1
    = [⟨[([98], [1])], [rawChunk 0 5 1 101, rawChunk 10 20 2 102]⟩, ⟨[([98], [2])], [rawChunk 0 5 3 103]⟩, ⟨[([98], [3])], []⟩] := by decide +kernel
example : flatten (proxySeries rq0 storesEx).1
    = [⟨[([98], [1])], [rawChunk 0 5 1 101, rawChunk 10 20 2 102]⟩, ⟨[([98], [2])], [rawChunk 0 5 3 103]⟩, ⟨[([98], [3])], []⟩] := answerEx
example : StoresSorted rq0 storesEx := by
  unfold StoresSorted lblLe
  decide

-- configuration independence on the concrete stores above: eager retrieval with batches of 64
-- gives literally the list lazy retrieval with batches of 2 gives
example : flatten (proxySeries { rq0 with lazy := false, batchSize := 64 } storesEx).1
    = flatten (proxySeries rq0 storesEx).1 := by rw [answerEx]; decide +kernel

end Thanos.Merge
