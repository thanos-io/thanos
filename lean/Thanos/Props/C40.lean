import Thanos.Model.ChunkMerge
import Thanos.Lemmas.ChunkMerge
import Thanos.Lemmas.ChunkHeap
import Thanos.Lemmas.ChunkFuel
import Thanos.Generated.Facts
import Thanos.Lemmas.ListFacts
/-
  C40 — Offline deduplication of downsampled chunks keeps every aggregate sample.

  About `NewChunkSeriesMerger` of pkg/dedup/chunk_iter.go (model `chunkMerge`, Model/ChunkMerge.lean);
  `C40_full chunkFixed split` is the property for the `toChunk` selected by `chunkFixed` and output
  chunks of `split` samples, throughout over the repaired `dedupSeriesIterator.Seek` of F01 (`chunkMerge true …`); its
  input domain `seriesWF` and its predicate `chunkComplete` stand at the head of Lemmas/ChunkMerge.lean.  F40: the
  unrepaired `toChunk` loses the first sample of every window but the first — a two-series witness
  (`C40_full_orig_false`).  For the repaired
  one: merged chunks stay well-formed (`C40_wf_preserved`), hence `C40_fixed` for every `split ≥ 1`,
  and the merger ends without panic on well-formed input (`C40_fixed_total`).
-/
namespace Thanos.Dedup

/-- C40 at full strength for the `toChunk` selected by `chunkFixed` and chunks of `split` samples (`seekFixed` is
    `true`: the dedup node has the repaired `Seek` of F01) -/
def C40_full (chunkFixed : Bool) (split : Nat) : Prop :=
  ∀ (series : List (List AggrChk)), series.all seriesWF = true →
    ∀ out, chunkMerge true chunkFixed split series = some out → out.all chunkComplete = true

/-! ### F40: the witness -/

/-- `n` aggregated samples on the grid `t0, t0+step, …` in one chunk -/
def gridChunk (t0 step : Int) (n : Nat) : AggrChk :=
  let ts := (List.range n).map fun (i : Nat) => t0 + step * (Int.ofNat i)
  let mk := fun (v : Int) => ts.map fun t => (⟨t, v⟩ : Sample)
  let last := t0 + step * ((n : Int) - 1)
  { mint := t0, maxt := last,
    aggr := [some (mk 1), some (mk 2), some (mk 3), some (mk 4), some (mk 5 ++ [⟨last, 5⟩])] }

/-- two overlapping series of one 122-sample chunk each, half a step apart -/
def f40Witness : List (List AggrChk) := [[gridChunk 1000 1000 122], [gridChunk 1500 1000 122]]

def aggrLens (r : Option (List AggrChk)) : Option (List (List (Option Nat))) :=
  r.map fun cs => cs.map fun c => c.aggr.map fun a => a.map List.length

theorem f40Witness_wf : f40Witness.all seriesWF = true := by decide +kernel

example : f40Witness.all seriesWF = true := f40Witness_wf

/-- The unrepaired `toChunk` on the witness, evaluated once: the merge succeeds, its 122 count samples
    are cut into windows of 120 and 2, and the last chunk has 2 count samples but only 1 sum/min/max
    sample — and violates the property. -/
theorem C40_witness_orig : ∃ out, chunkMerge true false 120 f40Witness = some out ∧
    aggrLens (some out) =
      some [[some 120, some 120, some 120, some 120, some 121], [some 2, some 1, some 1, some 1, some 2]] ∧
    out.getLast?.map chunkComplete = some false := by
  have w : (chunkMerge true false 120 f40Witness).map
      (fun out => (aggrLens (some out), out.getLast?.map chunkComplete)) =
      some (some [[some 120, some 120, some 120, some 120, some 121], [some 2, some 1, some 1, some 1, some 2]],
        some false) := by
    decide +kernel
  obtain ⟨out, ho, hf⟩ := Option.map_eq_some_iff.mp w
  exact ⟨out, ho, (Prod.mk.inj hf).1, (Prod.mk.inj hf).2⟩

theorem C40_witness_lens : aggrLens (chunkMerge true false 120 f40Witness) =
    some [[some 120, some 120, some 120, some 120, some 121], [some 2, some 1, some 1, some 1, some 2]] := by
  obtain ⟨out, ho, hl, _⟩ := C40_witness_orig
  rw [ho]
  exact hl

theorem C40_full_orig_false : ¬ C40_full false 120 := by
  intro h
  obtain ⟨out, ho, _, hc⟩ := C40_witness_orig
  have hall := List.all_eq_true.mp (h f40Witness f40Witness_wf out ho)
  obtain ⟨c, hl, hcf⟩ := Option.map_eq_some_iff.mp hc
  rw [hall c (List.mem_of_getLast? hl)] at hcf
  cases hcf

/-- the repaired `toChunk` on the same witness: the second window keeps its first sample -/
theorem C40_witness_fixed : aggrLens (chunkMerge true true 120 f40Witness) =
    some [[some 120, some 120, some 120, some 120, some 121], [some 2, some 2, some 2, some 2, some 3]] := by
  decide +kernel

/-- **Well-formedness is preserved.**  Merging well-formed downsampled series (any number of
    series, any chunk cuts, any chunk size `split ≥ 1`) yields only well-formed chunks (`chunkWF`) —
    whether the chunk passed through unchanged, came out of `aggrChunkIterator`, or was merged again
    with later chunks. -/
theorem C40_wf_preserved (split : Nat) (hsp : 0 < split) (series : List (List AggrChk))
    (hwf : series.all seriesWF = true) (out : List AggrChk)
    (hm : chunkMerge true true split series = some out) : ∀ c ∈ out, chunkWF c = true :=
  dcDrain_wf hsp _ _ out
    (initHeap_spec series [] (List.forall_mem_nil _) (List.forall_mem_nil _) (seriesWF_chunks hwf)).1 hm

/-- **C40 holds for the repaired code**, for every chunk size `split ≥ 1` (Prometheus uses 120). -/
theorem C40_fixed (split : Nat) (hsp : 0 < split) : C40_full true split := by
  intro series hwf out hm
  apply List.all_eq_true.mpr
  intro c hc
  exact complete_of_wf (C40_wf_preserved split hsp series hwf out hm c hc)

/-- **The repaired merger terminates and never panics on well-formed input**: the model's fuel for
    the outer drain loop (`totalSamples + heapChunks + 2`) always suffices, because every `Next`
    removes at least one count sample from the heap.  Together with `C40_wf_preserved` this makes
    the C40 statement unconditional: the output EXISTS and every chunk of it is complete. -/
theorem C40_fixed_total (split : Nat) (hsp : 0 < split) (series : List (List AggrChk))
    (hwf : series.all seriesWF = true) :
    ∃ out, chunkMerge true true split series = some out ∧ out.all chunkComplete = true := by
  have hs := seriesWF_chunks hwf
  obtain ⟨k1, k2, k3⟩ := initHeap_spec series [] (List.forall_mem_nil _) (List.forall_mem_nil _) hs
  have hle : cntHeap series ≤ totalSamples series :=
    sum_map_le fun s hs' => sum_map_le fun c hc => cnt_le_samples (hs s hs' c hc)
  have hc0 : cntHeap [] = 0 := rfl
  obtain ⟨out, ho⟩ := dcDrain_total hsp
    (totalSamples series + heapChunks (series.foldl (fun h s => if s.isEmpty then h else hpush h s) []) + 2)
    _ k1 k2 (by omega)
  exact ⟨out, ho, C40_fixed split hsp series hwf out ho⟩

/-! Regenerated facts: the source has the loop the model (`toChunkFixed`) transliterates. -/

theorem C40_fact_loop : Thanos.Facts.aggrToChunkLoop =
    "valType := it.Seek(minTime); valType != chunkenc.ValNone && it.AtT() <= maxTime; valType = it.Next()" :=
  rfl

theorem C40_fact_finish :
    Thanos.Facts.aggrToChunkEmptyTest = "lastT == 0 && lastV == 0" ∧
    Thanos.Facts.aggrToChunkCounterArgs = ["lastT, lastV", "lastT, lastV"] := ⟨rfl, rfl⟩

end Thanos.Dedup
