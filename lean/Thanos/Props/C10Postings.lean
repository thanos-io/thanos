import Thanos.Model.Postings
import Thanos.Lemmas.Postings
import Thanos.Lemmas.PostingGroups
/-
  C10 (code-level kernel) — the posting-group algebra of the store gateway is sound:
  `toPostingGroup`, `mergeKeys`, `matchersToPostingGroups` and the set algebra of
  `ExpandedPostings` / `mergeFetchedPostings` select exactly the series whose stored labels satisfy
  every matcher (an absent label counts as the empty value).

  What a matcher answers is a hypothesis (`Consistent`): the few facts about Prometheus matchers the code
  relies on — `.*` matches everything, `SetMatches()` lists exactly the accepted values of a set matcher,
  `=`/`!=` compare with `Value`, an empty pattern accepts exactly the empty string, `.+` exactly the
  non-empty ones — over the values that can occur (the empty value and the label's values in the block).

  The steps, in the order of the code, are in Lemmas/PostingGroups.lean (`toPostingGroup_sound`, `mergeKeys_sound`,
  `mergeAll_sound`, `selects_eq_all`, `go_sound`); here the whole of `matchersToPostingGroups`, evaluated by that set
  algebra (`postingGroups_sound`).
-/
namespace Thanos.Postings

/-- **posting groups are sound**: for every non-empty list of matchers (any number per label, repeats allowed) the
    groups `matchersToPostingGroups` builds, evaluated as `ExpandedPostings` evaluates them, keep exactly the
    series whose stored labels every matcher accepts; "no postings" (`nil`) is reported only when no series
    can qualify.  `hne`: with no matcher the model answers `some []`, and `selects []` is `false`.  `hsame`:
    `dedupMatchers` keeps one of two matchers with the same `String()` (`sameMatcher`: name, type, pattern), so the
    two must have the same truth table `ok`. -/
theorem postingGroups_sound (lvals : Nat → List Nat) (ms : List PMatcher) (get : Nat → Nat)
    (hv : ∀ n, ValsOK (lvals n)) (hc : ∀ m ∈ ms, Consistent (lvals m.name) m)
    (hu : ∀ n, InUniverse (lvals n) (get n))
    (hsame : ∀ a ∈ ms, ∀ b ∈ ms, sameMatcher a b = true → a.ok = b.ok) (hne : ms ≠ []) :
    (match matchersToPostingGroups lvals ms with
     | some groups => selects groups get
     | none => false) = ms.all (fun m => m.accepts (get m.name)) := by
  have hP : (dedupMatchers ms).all (fun m => m.accepts (get m.name)) = ms.all fun m => m.accepts (get m.name) := by
    refine dedup_all _ ms fun a ha b hb hs => ?_
    have hn : a.name = b.name := by
      unfold sameMatcher at hs
      simp only [Bool.and_eq_true, beq_iff_eq] at hs
      exact hs.1.1
    simp only [PMatcher.accepts, hsame a ha b hb hs, hn]
  have hnames := go_sound lvals hv get hu (dedupMatchers ms)
    (fun m hm => hc m ((dedupMatchers_sublist ms).subset hm))
    (distinctNames (dedupMatchers ms)) fun n hn => (mem_distinctNames _ n).mp hn
  have hdn : distinctNames (dedupMatchers ms) ≠ [] := by
    cases hd : dedupMatchers ms with
    | nil => exact absurd hd (dedup_ne_nil ms hne)
    | cons x xs => exact List.cons_ne_nil _ _
  rw [all_by_name, hP] at hnames
  unfold matchersToPostingGroups
  simp only
  generalize matchersToPostingGroups.go lvals (dedupMatchers ms) (distinctNames (dedupMatchers ms)) = r at hnames
  match r with
  | none => exact hnames.symm
  | some gs =>
    obtain ⟨h1, h2, h3⟩ := hnames
    exact (selects_eq_all gs get (h3 hdn) h2).trans h1

end Thanos.Postings
