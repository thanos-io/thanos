import Thanos.Lemmas.DownsampleAggr
import Thanos.Lemmas.DownsampleAggrLoop
import Thanos.Props.C36
import Thanos.Generated.Facts
/-
  C38 — Re-downsampling aggregates conserves totals.
  Model: Model/Downsample.lean (`genericAggregate`, `floatAggrBatch`, `aggrLoop`,
  `downsampleAggrLoop`), a transliteration of downsampleAggrLoop / downsampleFloatAggrBatch /
  genericAggregate / downsampleBatch.
-/
namespace Thanos.Downsample

/-- the loop returns for every positive `numChunks` (`clamp` selects how `batchSize` is computed) -/
def C38_terminates (clamp : Bool) : Prop :=
  ∀ (chks : List Chunk) (r : Int) (nc : Nat), 0 < nc → downsampleAggrLoop clamp chks r nc ≠ .hang

/-- `batchSize := len(chks) / numChunks` (F38): with more target chunks than input
    chunks `batchSize` is 0, downsampleFloatAggrBatch of no chunks returns the range [0, 0] (every
    genericAggregate returns `0, 0`), the "invalid range" test does not fire and the loop never
    consumes a chunk. -/
theorem C38_terminates_unclamped_false : ¬ C38_terminates false := by
  intro h
  exact h [{ mint := 49, maxt := 49, count := [(49, 2)], sum := [(49, 4)], min := [(49, 1)], max := [(49, 3)],
             counter := [(10, 1), (49, 3), (49, 3)] }] 100 2 (by decide) (by decide)

/-- … exactly when `numChunks` exceeds the number of chunks -/
theorem C38_unclamped_hangs (chks : List Chunk) (r : Int) (nc : Nat) (h : chks.length < nc) (hne : chks ≠ []) :
    downsampleAggrLoop false chks r nc = .hang := by
  rw [downsampleAggrLoop_pos (Nat.zero_lt_of_lt h), aggrBatchSize_false, Nat.div_eq_of_lt h]
  exact aggrLoop_zero_hang r _ chks hne

theorem C38_terminates_unclamped_partial (chks : List Chunk) (r : Int) (nc : Nat) (h0 : 0 < nc) (h : nc ≤ chks.length) :
    downsampleAggrLoop false chks r nc ≠ .hang := by
  rw [downsampleAggrLoop_pos h0, aggrBatchSize_false]
  exact aggrLoop_progress r _ (Nat.div_pos h h0) _ chks (Nat.le_refl _)

/-- with `batchSize` kept at least 1 the loop always returns -/
theorem C38_terminates_clamped : C38_terminates true := by
  intro chks r nc h0
  rw [downsampleAggrLoop_pos h0, aggrBatchSize_true]
  exact aggrLoop_progress r _ (Nat.le_max_left _ _) _ chks (Nat.le_refl _)

/-- **downsampleBatch, as genericAggregate calls it, conserves the totals of its input samples.**  `buf` is what was
    expanded from the sub-chunks of one aggregate (timestamps above MinInt64, the last one the largest, finite values;
    that well-formed chunks give such a buffer is `genericAggregate_wf`):
    the emitted samples' Σ of window sums is Σ buf (used for the sum aggregate and, over count
    samples, for the count aggregate), the least window minimum is min buf, the greatest window
    maximum is max buf, and the emitted timestamps strictly increase inside [first, last] of buf. -/
theorem C38_batch_totals (r : Int) (hr : 0 < r) (buf : List Pt) (t0 v0 lastT lv : Int)
    (hhead : buf.head? = some (t0, v0)) (hlast : buf.getLast? = some (lastT, lv))
    (hb : ∀ p ∈ buf, minInt64 < p.1 ∧ p.1 ≤ lastT) (hfin : ∀ p ∈ buf, Finite p.2) :
    ∃ out nt, downsampleBatch buf r = some (out, nt) ∧ out ≠ [] ∧
      (out.map (fun e => e.2.sum)).sum = (buf.map (·.2)).sum ∧
      (out.map (fun e => e.2.min)).min? = (buf.map (·.2)).min? ∧
      (out.map (fun e => e.2.max)).max? = (buf.map (·.2)).max? ∧
      (out.map (·.1)).Pairwise (· < ·) ∧ ∀ t ∈ out.map (·.1), t0 ≤ t ∧ t ≤ lastT := by
  obtain ⟨gs, hd, hflat, hne, hk1, hk2, hk3⟩ := downsampleBatch_segs r hr ⟨⟨v0, hhead⟩, ⟨lv, hlast⟩, hb⟩
  have c := hflat ▸ specEmit_conserves lastT gs [] hne
  exact ⟨_, _, hd, (fun h => by rw [h] at hk3; exact nomatch hk3), c.sum,
    min?_eq_of_foldl_all _ _ (c.min fun p hp => (hfin p hp).2),
    max?_eq_of_foldl_all _ _ (c.max fun p hp => (hfin p hp).1), hk1, hk2⟩

/-- what C38 asks of a re-downsampling of the chunks `inp` into the chunks `out`.  It is not `WFChunks out` (finite
    minima/maxima and the range of the timestamps are not stated), so `C38_conserves` does not apply to its own output. -/
structure C38_holds (inp out : List Chunk) : Prop where
  count : ((out.flatMap (·.count)).map (·.2)).sum = ((inp.flatMap (·.count)).map (·.2)).sum
  sum : ((out.flatMap (·.sum)).map (·.2)).sum = ((inp.flatMap (·.sum)).map (·.2)).sum
  min : ((out.flatMap (·.min)).map (·.2)).min? = ((inp.flatMap (·.min)).map (·.2)).min?
  max : ((out.flatMap (·.max)).map (·.2)).max? = ((inp.flatMap (·.max)).map (·.2)).max?
  aligned : ∀ c ∈ out, c.sum.map (·.1) = c.count.map (·.1) ∧ c.min.map (·.1) = c.count.map (·.1) ∧
    c.max.map (·.1) = c.count.map (·.1) ∧ c.count ≠ []
  ordered : ((out.flatMap (·.count)).map (·.1)).Pairwise (· < ·)
  span : ∀ t ∈ (out.flatMap (·.count)).map (·.1), ∀ first last,
    ((inp.flatMap (·.count)).map (·.1)).head? = some first → ((inp.flatMap (·.count)).map (·.1)).getLast? = some last →
    first ≤ t ∧ t ≤ last

private theorem holds_of_conserves {inp out : List Chunk} (hwf : WFChunks inp) (h : AggrConserves inp out) :
    C38_holds inp out := by
  refine ⟨h.count, h.sum, min?_eq_of_foldl_all _ _ h.min, max?_eq_of_foldl_all _ _ h.max, h.tsEq, h.tsSorted, ?_⟩
  intro t ht first last hf hl
  obtain ⟨lo, hlo, hi, hhi, hb⟩ := h.tsSpan t ht
  exact ⟨Int.le_trans (bounds_of_pairwise id hwf.sorted hf hl lo hlo).1 hb.1,
    Int.le_trans hb.2 (bounds_of_pairwise id hwf.sorted hf hl hi hhi).2⟩

/-- **C38 for downsampleAggrLoop** (`batchSize = max(len(chks)/numChunks, 1)`): for
    well-formed aggregate chunks (the shape DownsampleRaw produces, `C36_wellformed`), every
    resolution > 0 and every numChunks ≥ 1 the loop returns chunks that meet `C38_holds`. -/
theorem C38_conserves (r : Int) (hr : 0 < r) (chks : List Chunk) (nc : Nat) (hnc : 0 < nc) (hwf : WFChunks chks) :
    ∃ out, downsampleAggrLoop true chks r nc = .ok out ∧ C38_holds chks out := by
  rw [downsampleAggrLoop_pos hnc, aggrBatchSize_true]
  obtain ⟨out, ho, hc⟩ := aggrLoop_conserves r hr _ (Nat.le_max_left 1 _) chks.length chks (Nat.le_refl _) hwf
  exact ⟨out, ho, holds_of_conserves hwf hc⟩

/-- the same for `batchSize = len(chks)/numChunks` as long as numChunks does not exceed the number of
    chunks -/
theorem C38_conserves_unclamped_partial (r : Int) (hr : 0 < r) (chks : List Chunk) (nc : Nat) (hnc : 0 < nc)
    (hle : nc ≤ chks.length) (hwf : WFChunks chks) :
    ∃ out, downsampleAggrLoop false chks r nc = .ok out ∧ C38_holds chks out := by
  rw [downsampleAggrLoop_pos hnc, aggrBatchSize_false]
  obtain ⟨out, ho, hc⟩ := aggrLoop_conserves r hr _ (Nat.div_pos hle hnc) chks.length chks (Nat.le_refl _) hwf
  exact ⟨out, ho, holds_of_conserves hwf hc⟩

/-- **C38 end to end**: raw series → DownsampleRaw (resolution r1, numChunks nc1) →
    downsampleAggrLoop (resolution r2, numChunks nc2): the second level's total count is the
    number of non-NaN raw samples, its total sum their sum, its overall minimum and maximum theirs,
    for all series, resolutions and chunk counts. -/
theorem C38_from_raw (r1 r2 : Int) (h1 : 0 < r1) (h2 : 0 < r2) (data : List Raw) (nc1 nc2 : Nat)
    (hn1 : 0 < nc1) (hn2 : 0 < nc2) (ok : RawOK data) :
    ∃ l1 l2, downsampleRaw data r1 nc1 = some l1 ∧ downsampleAggrLoop true l1 r2 nc2 = .ok l2 ∧
      C38_holds l1 l2 ∧
      ((l2.flatMap (·.count)).map (·.2)).sum = ((dropNaN data).length : Int) ∧
      ((l2.flatMap (·.sum)).map (·.2)).sum = ((dropNaN data).map (·.2)).sum ∧
      ((l2.flatMap (·.min)).map (·.2)).min? = ((dropNaN data).map (·.2)).min? ∧
      ((l2.flatMap (·.max)).map (·.2)).max? = ((dropNaN data).map (·.2)).max? := by
  obtain ⟨l1, e1, hwf⟩ := C36_wellformed r1 h1 data nc1 hn1 ok
  obtain ⟨l1', e1', t1, t2⟩ := C36_totals r1 h1 data nc1 hn1 ok.toIn
  rw [e1] at e1'; cases e1'
  obtain ⟨l1'', e1'', t3, t4⟩ := C36_minmax r1 h1 data nc1 hn1 ok.toIn
  rw [e1] at e1''; cases e1''
  obtain ⟨l2, e2, hh⟩ := C38_conserves r2 h2 l1 nc2 hn2 hwf
  exact ⟨l1, l2, e1, e2, hh, hh.count.trans t1, hh.sum.trans t2, hh.min.trans t3, hh.max.trans t4⟩

/-- Regenerated obligations: how the loop computes `batchSize` (the clamped expression, which
    is the one the driver's model uses: `aggrClampNow`) and what it tests. -/
theorem C38_source_facts :
    Thanos.Facts.dsAggrBatchSize = "max(len(chks)/numChunks, 1)" ∧ aggrClampNow = true ∧
    Thanos.Facts.dsAggrLoopConds = ["chk.MinTime == math.MaxInt64 || chk.MaxTime == math.MinInt64", "err != nil"] :=
  ⟨rfl, rfl, rfl⟩

-- non-vacuity: the two level-1 chunks below are well-formed, so `C38_conserves` applies to them
example : WFChunks
    [{ mint := 49, maxt := 49, count := [(49, 2)], sum := [(49, 4)], min := [(49, 1)], max := [(49, 3)], counter := [(10, 1), (49, 3), (49, 3)] },
     { mint := 70, maxt := 70, count := [(70, 1)], sum := [(70, 2)], min := [(70, 2)], max := [(70, 2)], counter := [(70, 2), (70, 2), (70, 2)] }] := by
  refine ⟨?_, by decide, by decide⟩
  intro c hc
  simp only [List.mem_cons, List.not_mem_nil, or_false] at hc
  rcases hc with rfl | rfl <;> exact ⟨by decide, by decide, by decide, by decide, by decide, by decide⟩
example : downsampleAggrLoop false
    [{ mint := 49, maxt := 49, count := [(49, 2)], sum := [(49, 4)], min := [(49, 1)], max := [(49, 3)], counter := [(10, 1), (49, 3), (49, 3)] },
     { mint := 70, maxt := 70, count := [(70, 1)], sum := [(70, 2)], min := [(70, 2)], max := [(70, 2)], counter := [(70, 2), (70, 2), (70, 2)] }] 100 1
    = .ok [{ mint := 70, maxt := 70, count := [(70, 3)], sum := [(70, 6)], min := [(70, 1)], max := [(70, 3)],
             counter := [(10, 1), (70, 5), (70, 2)] }] := by decide +kernel
example : downsampleAggrLoop false
    [{ mint := 49, maxt := 49, count := [(49, 2)], sum := [(49, 4)], min := [(49, 1)], max := [(49, 3)], counter := [(10, 1), (49, 3), (49, 3)] }] 100 2
    = .hang := rfl

end Thanos.Downsample
