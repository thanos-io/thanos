import Thanos.Model.AggrChunk
import Thanos.Lemmas.Uvarint
import Thanos.Generated.Facts
/-
  C39 — Aggregate chunk encoding round-trips for any set of aggregates.
  Model: Model/AggrChunk.lean (`encode`, `get`); varints: Lemmas/Uvarint.lean.  `get_encode` is the round trip for
  both size tests at once, by one iteration of `Get` per slot (`getLoop_uvarint`).
-/
namespace Thanos.AggrChunk
open Thanos.Uvarint

/-- present sub-chunks carry at least one data byte (XOR/histogram chunks always have a 2-byte
    sample-count header) and their length fits Go's `int` -/
def WF (cs : List Sub) : Prop := ∀ e d, some (e, d) ∈ cs → d ≠ [] ∧ d.length < 2 ^ 63

/-- what `Get(t)` must answer -/
def expected (cs : List Sub) (t : Nat) : Res :=
  match cs[t]? with
  | some (some (e, d)) => fromData (e :: d)
  | _ => .notExist

private theorem encode_ne_nil : ∀ {cs : List Sub}, cs ≠ [] → encode cs ≠ []
  | [], h => absurd rfl h
  | none :: cs, _ => by simp [encode, uvarint_zero]
  | some (e, d) :: cs, _ => by simp [encode]

/-- one iteration of `Get` on a buffer that starts with the varint of a length `l` -/
theorem getLoop_uvarint (strict : Bool) (k l : Nat) (rest : List Nat) (hl : l < 2 ^ 64) :
    getLoop strict k (uvarint l ++ rest) =
      if tooShort strict l rest then .invalid
      else if l = 0 then (match k with | 0 => .notExist | k + 1 => getLoop strict k rest)
      else (match k with | 0 => fromData (rest.take (l + 1)) | k + 1 => getLoop strict k (rest.drop (l + 1))) := by
  have hn : ¬ (((uvarint l).length : Int) < 1) := Int.not_lt.mpr (Int.ofNat_le.mpr (uvarint_length_pos l))
  rw [getLoop, unuvarint_uvarint l rest hl]
  dsimp only
  rw [if_neg hn, Int.toNat_natCast, List.drop_left]
  rfl

/-- an absent aggregate: the size test with `l > 0` (`strict = false`) passes it always, the strict one
    only if something follows -/
theorem getLoop_none (strict : Bool) (k : Nat) (cs : List Sub) (h : strict = true → cs ≠ []) :
    getLoop strict k (encode (none :: cs)) =
      match k with | 0 => .notExist | k + 1 => getLoop strict k (encode cs) := by
  have hshort : tooShort strict 0 (encode cs) = false := by
    cases strict
    · rfl
    · have := List.length_pos_iff.mpr (encode_ne_nil (h rfl))
      simp only [tooShort, if_true, decide_eq_false_iff_not]; omega
  rw [encode, getLoop_uvarint strict k 0 _ (by decide), hshort]
  rfl

/-- a present aggregate passes both size tests -/
theorem getLoop_some (strict : Bool) (k e : Nat) (d : List Nat) (cs : List Sub) (hd : d ≠ [])
    (hlen : d.length < 2 ^ 63) :
    getLoop strict k (encode (some (e, d) :: cs)) =
      match k with | 0 => fromData (e :: d) | k + 1 => getLoop strict k (encode cs) := by
  have hl0 : d.length ≠ 0 := fun h => hd (List.length_eq_zero_iff.mp h)
  have hshort : tooShort strict d.length ((e :: d) ++ encode cs) = false := by
    cases strict <;> simp [tooShort]
  rw [encode, List.append_assoc, getLoop_uvarint strict k _ _ (Nat.lt_trans hlen (by decide)), hshort,
    if_neg Bool.false_ne_true, if_neg hl0, ← List.length_cons (a := e), List.take_left, List.drop_left]

/-- The round trip, for both size tests: `strict = false` needs nothing more; the strict test
    additionally needs "an absent aggregate is not the last slot". -/
theorem get_encode (strict : Bool) (cs : List Sub) (t : Nat) (ht : t < cs.length) (wf : WF cs)
    (hs : strict = true → cs[t]? = some none → t + 1 < cs.length) :
    get strict (encode cs) t = expected cs t := by
  induction cs generalizing t with
  | nil => exact absurd ht (Nat.not_lt_zero t)
  | cons s cs ih =>
    -- one iteration passes the first slot; a later slot is read from the rest
    have next : ∀ k, t = k + 1 → getLoop strict k (encode cs) = expected (s :: cs) t := fun k e => by
      subst e
      exact ih k (Nat.lt_of_succ_lt_succ ht) (fun e d h => wf e d (List.mem_cons_of_mem _ h))
        (fun h1 h2 => Nat.lt_of_succ_lt_succ (hs h1 h2))
    rw [get]
    cases s with
    | none =>
      rw [getLoop_none strict t cs fun h hc => ?_]
      · cases t with
        | zero => rfl
        | succ k => exact next k rfl
      · -- the only slot, absent: the strict test would fail, and is excluded by `hs`
        subst hc
        obtain rfl : t = 0 := by simpa using ht
        exact absurd (hs h rfl) (by decide)
    | some p =>
      rw [getLoop_some strict t p.1 p.2 cs (wf p.1 p.2 List.mem_cons_self).1 (wf p.1 p.2 List.mem_cons_self).2]
      cases t with
      | zero => rfl
      | succ k => exact next k rfl

/-- C39, for the size test selected by `strict`. -/
def C39_full (strict : Bool) : Prop :=
  ∀ (cs : List Sub) (t : Nat), t < cs.length → WF cs → get strict (encode cs) t = expected cs t

/-- `Get` (zero-length entries are not size-checked) round-trips every presence
    pattern, any number of aggregate slots, any contents. -/
theorem C39_roundtrip : C39_full false :=
  fun cs t ht wf => get_encode false cs t ht wf (by simp)

/-- The strict test (`len(b[n:]) < l+1` also for a zero length) is false of the property: with the last
    aggregate absent, reading it gives "invalid size" instead of "does not exist". -/
theorem C39_strict_false : ¬ C39_full true := by
  intro h
  have := h [some (1, [0, 1, 7]), none] 1 (by decide) (by
    intro e d hm
    simp at hm
    obtain ⟨rfl, rfl⟩ := hm
    decide)
  revert this
  decide

/-- … and holds away from that case: an absent aggregate that is read is not the last. -/
theorem C39_strict_partial (cs : List Sub) (t : Nat) (ht : t < cs.length) (wf : WF cs)
    (h : cs[t]? = some none → t + 1 < cs.length) :
    get true (encode cs) t = expected cs t :=
  get_encode true cs t ht wf (fun _ => h)

theorem encode_bytes : ∀ (cs : List Sub),
    (∀ e d, some (e, d) ∈ cs → e < 256 ∧ ∀ b ∈ d, b < 256) → ∀ b ∈ encode cs, b < 256 := by
  intro cs h b hb
  induction cs with
  | nil => simp [encode] at hb
  | cons s cs ih =>
    have ih := ih fun e d hm => h e d (List.mem_cons_of_mem _ hm)
    cases s with
    | none =>
      simp only [encode, List.mem_append] at hb
      exact hb.elim (uvarint_lt_256 0 b) ih
    | some p =>
      simp only [encode, List.mem_append, List.mem_cons] at hb
      obtain ⟨he, hd⟩ := h p.1 p.2 List.mem_cons_self
      rcases hb with (hb | hb | hb) | hb
      · exact uvarint_lt_256 _ b hb
      · omega
      · exact hd b hb
      · exact ih hb

/-- Regenerated obligation: the size test in the source is the one the model takes for
    `strict = false` (so `C39_roundtrip` is the theorem about the code as it is). -/
theorem C39_size_test_fact :
    Thanos.Facts.aggrGetSizeTest = "n < 1 || (l > 0 && len(b[n:]) < int(l)+1)" := rfl

-- non-vacuity: a concrete five-slot chunk with absent sum and counter meets the hypotheses,
-- and the theorem's conclusion is the interesting branch on it
example : WF [some (1, [0, 2, 9]), none, some (1, [0, 1]), some (1, [5]), none] := by
  intro e d hm
  simp at hm
  rcases hm with ⟨_, rfl⟩ | ⟨_, rfl⟩ | ⟨_, rfl⟩ <;> decide

example : get false (encode [some (1, [0, 2, 9]), none, some (1, [0, 1]), some (1, [5]), none]) 4
    = .notExist := by decide
example : get true (encode [some (1, [0, 2, 9]), none, some (1, [0, 1]), some (1, [5]), none]) 4
    = .invalid := by decide
example : get false (encode [some (1, [0, 2, 9]), none, some (1, [0, 1]), some (1, [5]), none]) 2
    = .ok 1 [0, 1] := by decide

end Thanos.AggrChunk
