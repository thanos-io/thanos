import Thanos.Model.ReadPath
import Thanos.Lemmas.ReadPath
import Thanos.Lemmas.FirstFit
import Thanos.Lemmas.TrackM
import Thanos.Lemmas.SelectDedup
import Thanos.Lemmas.Cuts
import Thanos.Lemmas.SeriesSet
import Thanos.Generated.Facts
/-
  C04 — Deduplicated queries return each logical series once with replica data.

  Spec-level composition (`Model/ReadPath.lean`): the proxy is represented by its specification
  (chunks of all replicas of a logical series chained, identical ones dropped, sorted), the
  querier side (`overlapSplit`, `chunkSeriesIterator`, `boundedSeriesIterator`, penalty
  deduplication) is transliterated.
  The sample side, three statements for arbitrary query ranges: `C04_dedup_off` (one replica is
  returned with its samples: `C04_dedup_off_holds`); `C04_dedup_on` for identical replicas, which is
  false when chunks inside a replica overlap (F04, `C04_full_false`); `C04_dedup_on_partial`, the
  same with `DisjointCuts`, which holds (`C04_dedup_on_partial_holds`).  Their hypotheses (`CutOf`:
  Lemmas/FirstFit.lean; `IdenticalReplicas`, `DisjointCuts`) and the range test `inQuery` are defined in
  Lemmas/Cuts.lean, whose head comment says how the answer comes out of the pure form of the querier side
  (`C04_select_refines`, `C04_select_refines_anyrange`, `selectRaw_pure`: Lemmas/SelectDedup.lean).  The label side: over
  stores that strip the requested replica labels, the querier's grouping yields one series per label set and none
  carries a replica label (`C04_one_series_per_labelset`; the grouping: Lemmas/SeriesSet.lean).
  Every statement asks `1 ≤ x.t` of the samples; the reason is at `csV`, Lemmas/ReadPath.lean.
-/
namespace Thanos.Dedup

/-- C04 (dedup on) at full strength: identical replicas ⇒ the deduplicated series, inside the
    query range, is exactly `S` inside the query range (`SelectHints` are hints: the returned
    series may also carry samples of `S` outside the range). -/
def C04_dedup_on : Prop :=
  ∀ (l : RSeries) (S : List Sample) (qmint qmaxt : Int),
    SSorted S → (∀ x ∈ S, 1 ≤ x.t) → IdenticalReplicas S l →
    ∀ out, selectDedup true qmint qmaxt l = some out →
      ∃ o, out = some o ∧ o.filter (inQuery qmint qmaxt) = S.filter (inQuery qmint qmaxt)

/-- the part of C04 that holds (`C04_dedup_on_partial_holds`): replicas whose own chunks are disjoint in time or hold
    the same samples (`DisjointCuts`) -/
def C04_dedup_on_partial : Prop :=
  ∀ (l : RSeries) (S : List Sample) (qmint qmaxt : Int),
    SSorted S → (∀ x ∈ S, 1 ≤ x.t) → IdenticalReplicas S l → DisjointCuts l →
    ∀ out, selectDedup true qmint qmaxt l = some out →
      ∃ o, out = some o ∧ o.filter (inQuery qmint qmaxt) = S.filter (inQuery qmint qmaxt)

/-- C04 (dedup off): a replica whose chunks are cuts of `S` (overlapping or not, on any stores) is
    returned with exactly the samples of `S` in the query range -/
def C04_dedup_off : Prop :=
  ∀ (r : RReplica) (S : List Sample) (qmint qmaxt : Int),
    SSorted S → (∀ x ∈ S, 1 ≤ x.t) → (∀ c ∈ r.chunks, CutOf S c) → (∀ x ∈ S, ∃ c ∈ r.chunks, x ∈ c.samples) →
    ∀ out, selectRaw qmint qmaxt r = some out →
      ∃ o, out = some o ∧ o.filter (inQuery qmint qmaxt) = S.filter (inQuery qmint qmaxt)

/-! ### building blocks of the composition

  `boundedSeriesIterator` as a side of the dedup node is list-like only *up to `maxt`* (Lemmas/TrackM.lean), which is
  what the statements — equality inside the range — need. -/

/-- `dedup.NewOverlapSplit` partitions the chunks into non-empty, time-ordered, non-overlapping rows -/
theorem C04_overlapSplit_partition (cs : List RChunk) :
    (∀ row ∈ overlapSplit cs, RowOK row ∧ row ≠ []) ∧ (overlapSplit cs).flatten.Perm cs :=
  overlapSplit_partition cs

/-- `query.chunkSeriesIterator` over a row of non-empty chunks yields the first chunk and then, from every later
    chunk, the samples after the last one yielded (`unionFrom`, Lemmas/Rows.lean) -/
theorem C04_chunkIter_union (c : List Sample) (cs : List (List Sample)) (hc : ChunkOK c)
    (hcs : ∀ d ∈ cs, ChunkOK d) : drain (csIt c cs) = unionFrom 0 (c :: cs) :=
  drain_goodN (cs_goodN c cs hc hcs)

/-- … which is strictly increasing when each chunk is time-sorted -/
theorem C04_chunkIter_increasing (c : List Sample) (cs : List (List Sample)) (hc : ChunkOK c)
    (hcs : ∀ d ∈ cs, ChunkOK d) (hs : ∀ d ∈ c :: cs, SSorted d) : SSorted (drain (csIt c cs)) := by
  rw [C04_chunkIter_union c cs hc hcs]
  exact (unionFrom_sorted hs).1

/-- … and is just the concatenation of the chunks on a row without overlaps (a virtual replica) -/
theorem C04_row_concat (c : List Sample) (cs : List (List Sample)) (hc : ChunkOK c)
    (hcs : ∀ d ∈ cs, ChunkOK d) (hs : ∀ d ∈ c :: cs, SSorted d) (hd : RowDisjoint (c :: cs)) :
    drain (csIt c cs) = (c :: cs).flatten := by
  rw [C04_chunkIter_union c cs hc hcs]
  apply unionFrom_disjoint
  · exact fun d hd' => ⟨(List.forall_mem_cons.mpr ⟨hc, hcs⟩ d hd').1, hs d hd'⟩
  · exact hd
  · intro d hd' x hx
    cases hd'
    exact hc.2 x hx

example : drain (csIt [⟨10, 1⟩, ⟨20, 2⟩, ⟨30, 3⟩] [[⟨20, 2⟩, ⟨30, 3⟩, ⟨40, 4⟩], [⟨35, 9⟩, ⟨50, 5⟩]])
    = [⟨10, 1⟩, ⟨20, 2⟩, ⟨30, 3⟩, ⟨40, 4⟩, ⟨50, 5⟩] := by decide

/-- **C04, dedup off, exactly.**  A replica whose chunks are cuts of `S` — overlapping in any way,
    duplicated on several stores — queried over any `[qmint, qmaxt]` (the stores send the chunks that
    overlap it) comes back, if at all, with exactly the samples of `S` inside the range:
    `chunkSeriesIterator` skips the overlaps and loses nothing, `boundedSeriesIterator` cuts to the range. -/
theorem C04_dedup_off_exact (r : RReplica) (S : List Sample) (qmint qmaxt : Int)
    (hS : SSorted S) (hpos : ∀ x ∈ S, 1 ≤ x.t)
    (hcutr : ∀ c ∈ r.chunks, CutOf S c) (hcov : ∀ x ∈ S, ∃ c ∈ r.chunks, x ∈ c.samples) :
    ∀ out, selectRaw qmint qmaxt r = some out → out = some (S.filter (inQuery qmint qmaxt)) := by
  intro out hsel
  obtain ⟨hsub, hcomp, hsorted⟩ := proxyChunks_spec qmint qmaxt r.chunks
  have hcut : ∀ c ∈ proxyChunks qmint qmaxt r.chunks, CutOf S c :=
    fun c hc => hcutr c (List.mem_filter.mp (hsub c hc)).1
  rw [selectRaw_pure qmint qmaxt r fun c hc => (hcut c hc).ok hS hpos] at hsel
  split at hsel
  · cases hsel
  · rw [← Option.some.inj hsel, rowWindow_cuts hS hpos hcut hsorted,
      filter_covered_inQuery fun x hx => covered_sent hS hcutr hcomp (hcov x hx)]

/-- **C04, dedup off** (for a query range that covers the series): the replica is returned, with
    exactly the samples `S`. -/
theorem C04_dedup_off_fullrange (r : RReplica) (S : List Sample) (qmint qmaxt : Int)
    (hS : SSorted S) (hpos : ∀ x ∈ S, 1 ≤ x.t) (hSne : S ≠ [])
    (hcutr : ∀ c ∈ r.chunks, CutOf S c) (hcov : ∀ x ∈ S, ∃ c ∈ r.chunks, x ∈ c.samples)
    (hrange : ∀ x ∈ S, qmint ≤ x.t ∧ x.t ≤ qmaxt) :
    selectRaw qmint qmaxt r = some (some S) := by
  have hin : ∀ x ∈ S, inQuery qmint qmaxt x = true := fun x hx => inQuery_iff.mpr (hrange x hx)
  cases hsel : selectRaw qmint qmaxt r with
  | some out => rw [C04_dedup_off_exact r S qmint qmaxt hS hpos hcutr hcov out hsel, List.filter_eq_self.mpr hin]
  | none =>
    obtain ⟨x, hx⟩ := List.exists_mem_of_ne_nil _ hSne
    unfold selectRaw at hsel
    simp only [List.isEmpty_eq_false_iff.mpr (proxyChunks_ne_nil hS hcutr (hcov x hx) (hin x hx)), Bool.false_eq_true,
      if_false] at hsel
    split at hsel <;> cases hsel

/-- **C04, dedup off, any query range.**  `C04_dedup_off` holds, whatever `[qmint, qmaxt]` is (cutting the
    series, outside it, …).  The stores' range filter (only chunks that overlap the range are sent) is part of
    the model. -/
theorem C04_dedup_off_holds : C04_dedup_off := by
  intro r S qmint qmaxt hS hpos hcutr hcov out hsel
  exact ⟨_, C04_dedup_off_exact r S qmint qmaxt hS hpos hcutr hcov out hsel,
    List.filter_eq_self.mpr fun x hx => (List.mem_filter.mp hx).2⟩

/-- non-vacuity: a replica of `S = [10, …, 50]` with overlapping and repeated chunks -/
example : selectRaw 1 100 { rid := 0, chunks := [
      { store := 0, rank := 0, samples := [⟨10, 1⟩, ⟨20, 2⟩, ⟨30, 3⟩] },
      { store := 1, rank := 0, samples := [⟨20, 2⟩, ⟨30, 3⟩, ⟨40, 4⟩] },
      { store := 2, rank := 0, samples := [⟨20, 2⟩, ⟨30, 3⟩, ⟨40, 4⟩] },
      { store := 0, rank := 0, samples := [⟨30, 3⟩] },
      { store := 0, rank := 0, samples := [⟨40, 4⟩, ⟨50, 5⟩] } ] }
    = some (some [⟨10, 1⟩, ⟨20, 2⟩, ⟨30, 3⟩, ⟨40, 4⟩, ⟨50, 5⟩]) := by decide +kernel

/-- … and with a query range that cuts the series (the chunk `[40, 50]` still overlaps it and
    is sent, the chunk beyond would not be) -/
example : selectRaw 15 40 { rid := 0, chunks := [
      { store := 0, rank := 0, samples := [⟨10, 1⟩, ⟨20, 2⟩, ⟨30, 3⟩] },
      { store := 1, rank := 0, samples := [⟨20, 2⟩, ⟨30, 3⟩, ⟨40, 4⟩] },
      { store := 0, rank := 0, samples := [⟨40, 4⟩, ⟨50, 5⟩] },
      { store := 0, rank := 0, samples := [⟨60, 6⟩] } ] }
    = some (some [⟨20, 2⟩, ⟨30, 3⟩, ⟨40, 4⟩]) := by decide +kernel

/-- non-vacuity: two replicas of `S = [10, 20, 30, 40, 50]` cut differently (`[10,20][30,40,50]` on
    stores 0/1 and `[10][20,30][40,50]` on stores 1/0/2), query range `[1, 100]` -/
def partialWitness : RSeries :=
  { key := 0,
    reps := [ { rid := 0, chunks := [ { store := 0, rank := 0, samples := [⟨10, 1⟩, ⟨20, 2⟩] },
                                     { store := 1, rank := 0, samples := [⟨30, 3⟩, ⟨40, 4⟩, ⟨50, 5⟩] } ] },
              { rid := 1, chunks := [ { store := 1, rank := 0, samples := [⟨10, 1⟩] },
                                     { store := 0, rank := 0, samples := [⟨20, 2⟩, ⟨30, 3⟩] },
                                     { store := 2, rank := 0, samples := [⟨40, 4⟩, ⟨50, 5⟩] } ] } ] }

example : selectDedup true 1 100 partialWitness =
    some (some [⟨10, 1⟩, ⟨20, 2⟩, ⟨30, 3⟩, ⟨40, 4⟩, ⟨50, 5⟩]) := by decide +kernel

/-- … and with a query range that cuts the series: the stores send the chunks that overlap
    `[15, 40]`, the answer is `S` inside it -/
example : selectDedup true 15 40 partialWitness =
    some (some [⟨20, 2⟩, ⟨30, 3⟩, ⟨40, 4⟩]) := by decide +kernel

/-- … and here a sample beyond `maxt` leaks out (`[15, 35]`: 40 is returned although `maxt = 35`) -/
example : selectDedup true 15 35 partialWitness =
    some (some [⟨20, 2⟩, ⟨30, 3⟩, ⟨40, 4⟩]) := by decide +kernel

example : DisjointCuts partialWitness := by
  unfold DisjointCuts
  decide

/-- **C04, dedup on, the part that holds, exactly.**  Identical replicas with `DisjointCuts` (any cuts, any stores),
    any `[qmint, qmaxt]`, the stores sending only the chunks that overlap it: the deduplicated series, if returned, is
    exactly the samples of `S` inside the range, followed only by samples beyond `qmaxt` (the leak of
    `boundedSeriesIterator.Seek`). -/
theorem C04_dedup_on_partial_exact (l : RSeries) (S : List Sample) (qmint qmaxt : Int)
    (hS : SSorted S) (hpos : ∀ x ∈ S, 1 ≤ x.t) (hid : IdenticalReplicas S l) (hdj : DisjointCuts l) :
    ∀ out, selectDedup true qmint qmaxt l = some out →
      ∃ extra, out = some (S.filter (inQuery qmint qmaxt) ++ extra) ∧ ∀ x ∈ extra, qmaxt < x.t := by
  intro out hsel
  have hcsne : proxyChunks qmint qmaxt (l.reps.flatMap (·.chunks)) ≠ [] := fun he => by
    simp [selectDedup, he] at hsel
  obtain ⟨hcsub, hcomp, hsorted⟩ := proxyChunks_spec qmint qmaxt (l.reps.flatMap (·.chunks))
  generalize hcs : proxyChunks qmint qmaxt (l.reps.flatMap (·.chunks)) = cs at hcsne hcsub hcomp hsorted
  have hcut : ∀ c ∈ cs, CutOf S c := fun c hc => hid.cuts c (List.mem_filter.mp (hcsub c hc)).1
  -- a chunk that is sent starts at or before qmaxt, at a positive time
  have hM : minT ≤ qmaxt := by
    obtain ⟨c, hc⟩ := List.exists_mem_of_ne_nil _ hcsne
    obtain ⟨a, ar, ha⟩ := List.exists_cons_of_ne_nil (hcut c hc).1
    have h2 := hpos a ((hcut c hc).2.subset (by rw [ha]; exact List.mem_cons_self))
    exact Int.le_trans (Int.le_trans (by decide) h2) ((mint_of_cons ha).1 ▸ mint_le_of_sent (hcsub c hc))
  obtain ⟨extra, href, hex⟩ := C04_select_refines_anyrange l qmint qmaxt hM (by rw [hcs]; exact hcsne) (by
    rw [hcs]
    exact fun c hc => (hcut c hc).ok hS hpos)
  rw [hcs] at href
  rw [href] at hsel
  refine ⟨extra, ?_, hex⟩
  rw [← Option.some.inj hsel]
  congr 2
  exact pmFoldL_windows hS hpos hcsne hcut qmint qmaxt (row0_holds_range hS hid hdj qmint qmaxt cs hcsub hcomp hsorted)

/-- **C04, dedup on, the part that holds** (for a query range that covers the series): the deduplicated
    query returns exactly `S`.  (Route: the querier side is the pure fold `C04_select_refines`; by
    `C04_dedup_on_partial_exact` it is `S` followed by samples beyond `qmaxt`, and the querier holds no such
    sample.) -/
theorem C04_dedup_on_partial_fullrange (l : RSeries) (S : List Sample) (qmint qmaxt : Int)
    (hS : SSorted S) (hpos : ∀ x ∈ S, 1 ≤ x.t) (hSne : S ≠ [])
    (hid : IdenticalReplicas S l) (hdj : DisjointCuts l)
    (hrange : ∀ x ∈ S, qmint ≤ x.t ∧ x.t ≤ qmaxt) :
    selectDedup true qmint qmaxt l = some (some S) := by
  obtain ⟨hsub, _, _⟩ := proxyChunks_spec qmint qmaxt (l.reps.flatMap (·.chunks))
  rw [filter_inRange_cuts hS hrange _ hid.cuts] at hsub
  have hinS : ∀ x ∈ S, inQuery qmint qmaxt x = true := fun x hx => inQuery_iff.mpr (hrange x hx)
  obtain ⟨x, hx⟩ := List.exists_mem_of_ne_nil _ hSne
  have hcsne := proxyChunks_ne_nil hS hid.cuts (hid.covers x hx) (hinS x hx)
  have hin : ∀ c ∈ proxyChunks qmint qmaxt (l.reps.flatMap (·.chunks)), ∀ x ∈ c.samples, qmint ≤ x.t ∧ x.t ≤ qmaxt :=
    fun c hc x hx => hrange x ((hid.cuts c (hsub c hc)).2.subset hx)
  have href := C04_select_refines l qmint qmaxt hcsne fun c hc => ⟨((hid.cuts c (hsub c hc)).ok hS hpos).1, hin c hc⟩
  obtain ⟨extra, he, hex⟩ := C04_dedup_on_partial_exact l S qmint qmaxt hS hpos hid hdj _ href
  -- every sample the querier holds is in a chunk, hence not beyond `qmaxt`
  have hnil : extra = [] := List.eq_nil_iff_forall_not_mem.mpr fun x hx => by
    obtain ⟨c, hc, hxc⟩ := mem_rows_chunk (Option.some.inj he ▸ List.mem_append_right _ hx)
    exact Int.not_lt.mpr (hin c hc x hxc).2 (hex x hx)
  rw [href, Option.some.inj he, hnil, List.append_nil, List.filter_eq_self.mpr hinS]

/-- **C04, dedup on, the part that holds — for ANY query range.**  `C04_dedup_on_partial` is a
    theorem: inside the range the deduplicated series is exactly `S` inside the range. -/
theorem C04_dedup_on_partial_holds : C04_dedup_on_partial := by
  intro l S qmint qmaxt hS hpos hid hdj out hsel
  obtain ⟨extra, rfl, hex⟩ := C04_dedup_on_partial_exact l S qmint qmaxt hS hpos hid hdj out hsel
  have hextra : extra.filter (inQuery qmint qmaxt) = [] := List.filter_eq_nil_iff.mpr fun x hx h =>
    Int.not_lt.mpr (inQuery_iff.mp h).2 (hex x hx)
  refine ⟨_, rfl, ?_⟩
  rw [List.filter_append, hextra, List.append_nil]
  exact List.filter_eq_self.mpr fun x hx => (List.mem_filter.mp hx).2

/-! ### F04: overlapping chunks inside a replica make the penalty window swallow samples -/

def f04S : List Sample := [⟨32456, 1⟩, ⟨94057, 2⟩, ⟨154387, 3⟩, ⟨186226, 4⟩]

/-- replica 0 holds `S[0:2]` and `S[1:4]` (they overlap in 94057), replica 1 holds `S[0:4]` -/
def f04Witness : RSeries :=
  { key := 0,
    reps := [ { rid := 0, chunks := [ { store := 0, rank := 0, samples := [⟨32456, 1⟩, ⟨94057, 2⟩] },
                                     { store := 0, rank := 0, samples := [⟨94057, 2⟩, ⟨154387, 3⟩, ⟨186226, 4⟩] } ] },
              { rid := 1, chunks := [ { store := 1, rank := 0, samples := f04S } ] } ] }

/-- `overlapSplit` makes three virtual replicas `[S[0:2]]`, `[S[0:4]]`, `[S[1:4]]`; when the first
    one ends the others are sought past the pending penalty -/
theorem C04_witness_run : selectDedup true 1 200000 f04Witness = some (some [⟨32456, 1⟩, ⟨94057, 2⟩]) := by
  decide +kernel

theorem C04_witness_identical : IdenticalReplicas f04S f04Witness := by
  unfold IdenticalReplicas CutOf
  decide

theorem C04_full_false : ¬ C04_dedup_on := by
  intro h
  obtain ⟨o, ho, hf⟩ := h f04Witness f04S 1 200000 (by unfold SSorted; decide)
    (by decide) C04_witness_identical _ C04_witness_run
  cases ho
  revert hf
  decide

/-- non-vacuity of `C04_select_refines`: the F04 witness meets its hypotheses, so its loss is
    already visible in the pure function (the penalty merge of the three rows' unions) -/
example : pmFoldL ((overlapSplit (proxyChunks 1 200000 (f04Witness.reps.flatMap (·.chunks)))).map
        fun row => unionFrom 0 (row.map (·.samples))) = [⟨32456, 1⟩, ⟨94057, 2⟩] := by
  have h1 := C04_select_refines f04Witness 1 200000 (by decide) (by unfold ChunkOK; decide)
  have h2 := C04_witness_run
  rw [h1] at h2
  simpa using h2

/-- the witness is outside the partial statement: replica 0's chunks overlap -/
example : ¬ DisjointCuts f04Witness := by
  unfold DisjointCuts
  decide

/-- without deduplication both replicas come back complete on the same input -/
example : f04Witness.reps.map (selectRaw 1 200000) = [some (some f04S), some (some f04S)] := by decide +kernel

/-! ### the label side of C04: which copies form one logical series

  The model's store (`storeLabels`; the specification is set out in Model/ReadPath.lean) removes every requested
  replica label from both the external and the series labels — for the stores themselves that is theorem C08 of the
  `stores` family; for `TSDBStore.Series` the regenerated facts below show the two unconditional `rmLabels` calls.
  Under that specification no returned series carries a replica label and there is at most one series per label set
  after removing the replica labels (`C04_one_series_per_labelset`; that every copy lands in one is
  `groupCopiesF_complete`, Lemmas/SeriesSet.lean). -/

/-- **the store specification strips every requested replica label**, wherever it comes from -/
theorem C04_store_strips (rl : List String) (ext ser : List Lbl) :
    ∀ l ∈ storeLabels rl ext ser, l.1 ∉ rl := by
  intro l hl hrl
  unfold storeLabels rmLabels at hl
  rcases mem_extendLabels hl with h | h <;>
  · have := (List.mem_filter.mp h).2
    simp [hrl] at this

/-- **one series per label set, none carrying a replica label**: the logical series the querier
    deduplicates over stores that follow the stripping specification have pairwise different label
    sets, and no such label set contains a requested replica label -/
theorem C04_one_series_per_labelset (rl : List String) (stores : List TStore) :
    (groupCopies (tsdbCopies rl stores)).Pairwise (fun a b => a.1 ≠ b.1) ∧
    ∀ g ∈ groupCopies (tsdbCopies rl stores), ∀ l ∈ g.1, l.1 ∉ rl := by
  obtain ⟨h1, h2⟩ := groupCopiesF_spec (tsdbCopies rl stores).length (tsdbCopies rl stores)
  refine ⟨h2, ?_⟩
  intro g hg l hl
  obtain ⟨c, hc, hc2⟩ := h1 g hg
  unfold tsdbCopies at hc
  obtain ⟨p, _, hp⟩ := List.mem_flatMap.mp hc
  obtain ⟨q, _, hq⟩ := List.mem_map.mp hp
  rw [← hc2, ← hq] at hl
  exact C04_store_strips rl _ _ l hl

/-- the HA-pair-behind-two-receivers example: four copies, one logical series -/
example : (selectTSDB true true ["receive_replica", "prometheus_replica"] 0 100
    [{ ext := [("receive_replica", "r1"), ("region", "eu")],
       series := [([("__name__", "up"), ("prometheus_replica", "p1")], [[⟨10, 1⟩], [⟨20, 2⟩]]),
                  ([("__name__", "up"), ("prometheus_replica", "p2")], [[⟨10, 1⟩], [⟨20, 2⟩]])] },
     { ext := [("receive_replica", "r2"), ("region", "eu")],
       series := [([("__name__", "up"), ("prometheus_replica", "p1")], [[⟨10, 1⟩], [⟨20, 2⟩]]),
                  ([("__name__", "up"), ("prometheus_replica", "p2")], [[⟨10, 1⟩], [⟨20, 2⟩]])] }])
    = [("__name__=up,region=eu", some [⟨10, 1⟩, ⟨20, 2⟩])] := by decide +kernel

/-! ### regenerated facts: the querier pieces the model transliterates -/

theorem C04_fact_pipeline :
    Thanos.Facts.selectFnPipeline = ["NewPromSeriesSet", "newStoreSeriesSet", "NewPromSeriesSet",
      "dedup.NewOverlapSplit", "newStoreSeriesSet", "dedup.NewSeriesSet"] ∧
    Thanos.Facts.overlapSplitFit =
      "len(o.replicas[ri]) == 0 || o.replicas[ri][len(o.replicas[ri])-1].MaxTime < currMinTime" ∧
    Thanos.Facts.chunkIterSwitchSeek = ["lastT + 1"] ∧
    Thanos.Facts.chunkIterSeekStop = "ct >= t" ∧
    Thanos.Facts.boundedSeekTests = ["t > it.maxt", "t < it.mint"] := ⟨rfl, rfl, rfl, rfl, rfl⟩

/-- `TSDBStore.Series` removes the requested replica labels from the external labels AND from the
    labels of every series, unconditionally (the model's `storeLabels`) -/
theorem C04_fact_store_strip :
    Thanos.Facts.readPathTSDBStrip =
      ["finalExtLset := rmLabels(s.extLsetAsLabelSets[0].Copy(), extLsetToRemove)",
       "completeLabelset := labelpb.ExtendSortedLabels(rmLabels(series.Labels(), extLsetToRemove), finalExtLset)"] ∧
    Thanos.Facts.readPathTSDBStripArgs =
      ["s.extLsetAsLabelSets[0].Copy(), extLsetToRemove", "series.Labels(), extLsetToRemove"] ∧
    Thanos.Facts.readPathTSDBStripGuards = [] := ⟨rfl, rfl, rfl⟩

end Thanos.Dedup
