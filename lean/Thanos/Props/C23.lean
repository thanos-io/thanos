import Thanos.Model.Quorum
import Thanos.Lemmas.Quorum
import Thanos.Generated.Facts
/-
  C23 — Failed replicated writes report retryable and permanent failures correctly.

  "When a replicated write fails, the client gets 409 Conflict only if conflicts alone make quorum
  impossible for some series, gets 503 when the failure can still be fixed by retrying, and never
  gets a 500 for failures made only of conflicts and unavailable replicas.  The outcome is the same
  for any order of replica responses."

  The model (Model/Quorum.lean) transliterates fanoutForward's response loop with its early
  return, replicationErrors.Cause, writeErrors.Cause and the status mapping of handleV1HTTP.  The
  one thing the theorems hinge on in the source — which variable is passed to
  newReplicationErrors — is the regenerated fact `replicationErrorsThresholdArg`.
-/
namespace Thanos.Quorum

/-- the outcomes C23 speaks about: success, conflict, unavailable / not ready -/
def inDomain : Outcome → Bool
  | none => true
  | some k => (k.conflict && !k.notReady && !k.unavail) || (!k.conflict && (k.notReady || k.unavail))

def InDomain (rs : List Resp) : Prop := ∀ r, r ∈ rs → inDomain r.out = true

/-- C23 for one request and one arrival order (and all its re-orderings) -/
def C23_at (sel : ThrSel) (rf : Nat) (replicated : Bool) (n : Nat) (rs : List Resp) : Prop :=
  let st := httpStatus (fanout sel rf replicated n rs)
  (st = 409 → ∃ i, i < n ∧ conflictsOf rs i ≥ failThr rf replicated) ∧
  ((∃ i, i < n ∧ oks rs i < quorumOf rf replicated) → (∀ i, i < n → conflictsOf rs i < failThr rf replicated) → st = 503) ∧
  st ≠ 500 ∧
  (∀ rs', rs'.Perm rs → httpStatus (fanout sel rf replicated n rs') = st)

/-- C23 at full strength, for the code passing the threshold selected by `sel`:
    every replication factor ≥ 1, every number of series and nodes, every multiset of outcomes
    in the domain, every arrival order. -/
def C23_full (sel : ThrSel) : Prop :=
  ∀ (rf : Nat) (replicated : Bool) (n : Nat) (rs : List Resp),
    1 ≤ rf → Complete n (nrepOf rf replicated) rs → InDomain rs → C23_at sel rf replicated n rs

theorem inDomain_wf {k : ErrKind} (h : inDomain (some k) = true) : wfKind k = true := by
  rcases k with ⟨c, n, u⟩
  cases c <;> cases n <;> cases u <;> simp_all [inDomain, wfKind]

/-- with the failure threshold passed to `newReplicationErrors` (`.failure`) the status is `verdict`
    of the counts: early return, arrival order and the class of the non-conflict errors do not enter -/
theorem fanout_status (rf : Nat) (replicated : Bool) (n : Nat) (rs : List Resp) (hrf : 1 ≤ rf)
    (hc : Complete n (nrepOf rf replicated) rs)
    (hwf : ∀ r, r ∈ rs → ∀ k, r.out = some k → wfKind k = true) :
    httpStatus (fanout .failure rf replicated n rs) =
      verdict (quorumOf rf replicated) (failThr rf replicated) n (oks rs) (conflictsOf rs) := by
  rw [fanout_eq, loop_eq_final (params_of rf replicated hrf) n rs hc hwf]
  exact final_status (params_of rf replicated hrf) n rs hc hwf

/-- **The status is a function of the per-series numbers of successes and of conflicts alone**
    (`.failure`; any error kinds, provided none is both a conflict and unavailable / not ready). -/
theorem C23_status_char (rf : Nat) (replicated : Bool) (n : Nat) (rs : List Resp) (hrf : 1 ≤ rf)
    (hc : Complete n (nrepOf rf replicated) rs)
    (hwf : ∀ r, r ∈ rs → ∀ k, r.out = some k → wfKind k = true) :
    let st := httpStatus (fanout .failure rf replicated n rs)
    (st = 200 ↔ ∀ i, i < n → quorumOf rf replicated ≤ oks rs i) ∧
    (st = 409 ↔ (∃ i, i < n ∧ oks rs i < quorumOf rf replicated) ∧
                 ∀ i, i < n → oks rs i < quorumOf rf replicated → failThr rf replicated ≤ conflictsOf rs i) ∧
    (st = 200 ∨ st = 409 ∨ st = 503) := by
  rw [fanout_status rf replicated n rs hrf hc hwf]
  exact verdict_char ..

theorem fanout_status_congr (rf : Nat) (replicated : Bool) (n : Nat) {a b : List Resp} (hrf : 1 ≤ rf)
    (hca : Complete n (nrepOf rf replicated) a) (hcb : Complete n (nrepOf rf replicated) b)
    (hwa : ∀ r, r ∈ a → ∀ k, r.out = some k → wfKind k = true)
    (hwb : ∀ r, r ∈ b → ∀ k, r.out = some k → wfKind k = true)
    (ho : ∀ i, oks a i = oks b i) (hcf : ∀ i, conflictsOf a i = conflictsOf b i) :
    httpStatus (fanout .failure rf replicated n a) = httpStatus (fanout .failure rf replicated n b) := by
  rw [fanout_status rf replicated n a hrf hca hwa, fanout_status rf replicated n b hrf hcb hwb, funext ho, funext hcf]

/-- Without restricting the outcomes (internal errors included): with `.failure` the answer is
    never 500, provided no error is classified both as conflict and as unavailable / not ready. -/
theorem C23_never_500 (rf : Nat) (replicated : Bool) (n : Nat) (rs : List Resp) (hrf : 1 ≤ rf)
    (hc : Complete n (nrepOf rf replicated) rs)
    (hwf : ∀ r, r ∈ rs → ∀ k, r.out = some k → wfKind k = true) :
    httpStatus (fanout .failure rf replicated n rs) ≠ 500 := by
  rcases (C23_status_char rf replicated n rs hrf hc hwf).2.2 with h | h | h <;> rw [h] <;> decide

/-- C23 of one request for arbitrary error kinds, internal errors included, as long as no error is classified both as
    conflict and as unavailable / not ready: the domain of `C23_full` is not what makes it hold -/
theorem C23_at_of_wfKind (rf : Nat) (replicated : Bool) (n : Nat) (rs : List Resp) (hrf : 1 ≤ rf)
    (hc : Complete n (nrepOf rf replicated) rs)
    (hwf : ∀ r, r ∈ rs → ∀ k, r.out = some k → wfKind k = true) : C23_at .failure rf replicated n rs := by
  obtain ⟨s200, s409, stri⟩ := C23_status_char rf replicated n rs hrf hc hwf
  unfold C23_at
  refine ⟨fun h => ?_, fun ⟨i, hi, hlt⟩ hcf => ?_, ?_, fun rs' hp => ?_⟩
  · obtain ⟨⟨i, hi, hlt⟩, hall⟩ := s409.1 h
    exact ⟨i, hi, hall i hi hlt⟩
  · rcases stri with h | h | h
    · exact absurd (s200.1 h i hi) (Nat.not_le.2 hlt)
    · exact absurd ((s409.1 h).2 i hi hlt) (Nat.not_le.2 (hcf i hi))
    · exact h
  · exact C23_never_500 rf replicated n rs hrf hc hwf
  · exact fanout_status_congr rf replicated n hrf (hc.perm hp) hc (fun r hr => hwf r (hp.mem_iff.mp hr)) hwf
      (oks_perm hp) fun i => (errsOf_perm hp i).countP_eq _

/-- C23 for the code that passes the failure threshold to `newReplicationErrors`. -/
theorem C23_fixed : C23_full .failure := fun rf replicated n rs hrf hc hd =>
  C23_at_of_wfKind rf replicated n rs hrf hc fun r hr _ hk => inDomain_wf (hk ▸ hd r hr)

/-- C23 of the code as it is (`codeSel`, tied to the source by `C23_threshold_fact`). -/
theorem C23_holds : C23_full codeSel := C23_fixed

/-- **How a transport classifies the non-conflict errors does not matter.**  The protobuf peers
    report a peer's internal error as `codes.Internal` (none of the three classes), the Cap'n Proto
    client (`writecapnp.RemoteWriteClient`) reports it as `codes.Unavailable` (not-ready and
    unavailable).  Any re-classification `f` of the errors that keeps the conflict flag, and keeps
    conflicts apart from unavailable / not ready (`hfw`), leaves the status unchanged. -/
theorem C23_transport_independent (f : ErrKind → ErrKind)
    (hf : ∀ k, (f k).conflict = k.conflict) (hfw : ∀ k, wfKind k = true → wfKind (f k) = true)
    (rf : Nat) (replicated : Bool) (n : Nat) (rs : List Resp) (hrf : 1 ≤ rf)
    (hc : Complete n (nrepOf rf replicated) rs)
    (hwf : ∀ r, r ∈ rs → ∀ k, r.out = some k → wfKind k = true) :
    httpStatus (fanout .failure rf replicated n (relabel f rs)) = httpStatus (fanout .failure rf replicated n rs) := by
  have hc' : Complete n (nrepOf rf replicated) (relabel f rs) := fun i hi => by
    rw [evs_relabel, List.length_map]; exact hc i hi
  have hwf' : ∀ r, r ∈ relabel f rs → ∀ k, r.out = some k → wfKind k = true :=
    List.forall_mem_map.2 fun r hr k hk => by
      obtain ⟨k0, hk0, rfl⟩ := Option.map_eq_some_iff.1 hk
      exact hfw k0 (hwf r hr k0 hk0)
  exact fanout_status_congr rf replicated n hrf hc' hc hwf' hwf (oks_relabel f rs) (conflictsOf_relabel f hf rs)

/-- the capnp client's view of a peer: an internal error arrives as Unavailable -/
def capnpClass (k : ErrKind) : ErrKind := if k = kOther then kGrpcUnavail else k

example : (∀ k, (capnpClass k).conflict = k.conflict) ∧ (∀ k, wfKind k = true → wfKind (capnpClass k) = true) := by
  constructor <;> intro k <;> rcases k with ⟨c, n, u⟩ <;> cases c <;> cases n <;> cases u <;> decide

/-- Regenerated obligations: the Cap'n Proto server maps the cause of a failed write to
    unavailable / alreadyExists / invalidArgument / internal as the gRPC handler does; the client ends
    `case WriteError_internal` with a plain error, which its `RemoteWrite` reports as
    `codes.Unavailable` — the re-classification `capnpClass` of `C23_transport_independent`. -/
theorem C23_capnp_transport_fact :
    Thanos.Facts.capnpServerErrorMap =
      ["errNotReady=>writecapnp.WriteError_unavailable", "errUnavailable=>writecapnp.WriteError_unavailable",
       "errConflict=>writecapnp.WriteError_alreadyExists", "errBadReplica=>writecapnp.WriteError_invalidArgument",
       "default=>writecapnp.WriteError_internal"] ∧
    Thanos.Facts.capnpClientInternal = ["return nil, 0, fmt.Errorf(\"rpc failed%s\", extraContext)"] ∧
    Thanos.Facts.capnpClientFallback =
      "return &storepb.WriteResponse{}, status.Error(codes.Unavailable, fmt.Sprintf(\"writing to peer: %s\", err.Error()))" :=
  ⟨rfl, rfl, rfl⟩

private def w (os : List Outcome) : List Resp := os.map fun o => ⟨[0], o⟩
private def c : Outcome := some kConflict
private def u : Outcome := some kGrpcUnavail

/-- The code passing `successThreshold` (`.success`; see `codeSel`) violates C23:
    rf 4, {conflict, conflict, ok, ok}: cause nil ⇒ 500 -/
theorem C23_success_500 : httpStatus (fanout .success 4 false 1 (w [c, c, none, none])) = 500 := by decide

/-- rf 2, {conflict, unavailable}: one conflict does not make quorum impossible, yet 409 -/
theorem C23_success_409 : httpStatus (fanout .success 2 false 1 (w [c, u])) = 409 := by decide

/-- rf 4, {conflict, conflict, unavailable, unavailable}: 500 or 503 depending on the order -/
theorem C23_success_order :
    httpStatus (fanout .success 4 false 1 (w [c, c, u, u])) = 500 ∧
    httpStatus (fanout .success 4 false 1 (w [u, u, c, c])) = 503 := by decide

/-- with `.failure` the same inputs give 409 / 503 / 409 (in both orders) -/
example : httpStatus (fanout .failure 4 false 1 (w [c, c, none, none])) = 409 := by decide
example : httpStatus (fanout .failure 2 false 1 (w [c, u])) = 503 := by decide
example : httpStatus (fanout .failure 4 false 1 (w [c, c, u, u])) = 409 ∧
    httpStatus (fanout .failure 4 false 1 (w [u, u, c, c])) = 409 := by decide

/-- rf 6, three conflicts: 500 -/
theorem C23_success_rf6 : httpStatus (fanout .success 6 false 1 (w [c, c, c, none, none, none])) = 500 := by decide

theorem C23_full_false : ¬ C23_full .success := by
  intro h
  have h4 := h 4 false 1 (w [c, c, none, none]) (by decide) (by unfold Complete; decide) (by unfold InDomain; decide)
  exact h4.2.2.1 C23_success_500

/-- With `.success`, C23 holds where the two thresholds coincide: odd replication factors and already
    replicated requests (`thresholds_coincide_odd`, `thresholds_coincide_replicated`; the only
    replication factor the repository's tests use is 3). -/
theorem C23_partial (rf : Nat) (replicated : Bool) (n : Nat) (rs : List Resp)
    (hsame : quorumOf rf replicated = failThr rf replicated)
    (hrf : 1 ≤ rf) (hc : Complete n (nrepOf rf replicated) rs) (hd : InDomain rs) :
    C23_at .success rf replicated n rs := by
  have hfan : ∀ rs', fanout .success rf replicated n rs' = fanout .failure rf replicated n rs' := by
    intro rs'
    rw [fanout_eq, fanout_eq, hsame]
  have := C23_fixed rf replicated n rs hrf hc hd
  unfold C23_at at this ⊢
  simpa only [hfan] using this

theorem thresholds_coincide_odd (rf : Nat) (h : rf % 2 = 1) : quorumOf rf false = failThr rf false := by
  show writeQuorum rf = rf - writeQuorum rf + 1
  rw [quorum_general rf (by omega)]
  omega

theorem thresholds_coincide_replicated (rf : Nat) : quorumOf rf true = failThr rf true := rfl

theorem thresholds_differ_even (rf : Nat) (h : rf % 2 = 0) (h0 : 0 < rf) : quorumOf rf false ≠ failThr rf false := by
  show writeQuorum rf ≠ rf - writeQuorum rf + 1
  unfold writeQuorum
  split <;> omega

def selOfArg : String → Option ThrSel
  | "successThreshold" => some .success
  | "failureThreshold" => some .failure
  | _ => none

/-- Regenerated obligation: the variable the source passes to `newReplicationErrors` is the one the
    model (and the compiled driver) uses. -/
theorem C23_threshold_fact : selOfArg Thanos.Facts.replicationErrorsThresholdArg = some codeSel := by decide +kernel

-- a two-series request over four nodes, rf 3, meets the hypotheses of `C23_fixed`; series 1 has
-- two conflicts (permanent), series 0 one conflict and one unavailable replica (retryable)
private def ex2 : List Resp :=
  [⟨[0], c⟩, ⟨[0, 1], u⟩, ⟨[0], none⟩, ⟨[1], c⟩, ⟨[1], c⟩]

example : Complete 2 (nrepOf 3 false) ex2 := by unfold Complete; decide
example : InDomain ex2 := by unfold InDomain; decide
example : httpStatus (fanout .failure 3 false 2 ex2) = 503 := by decide
example : conflictsOf ex2 1 ≥ failThr 3 false ∧ oks ex2 0 < quorumOf 3 false := by decide

end Thanos.Quorum
