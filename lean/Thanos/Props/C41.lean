import Thanos.Model.Split
import Thanos.Lemmas.Split
import Thanos.Generated.Facts
/-
  C41 — Splitting a query by interval evaluates every step exactly once.

  `split` / `splitLabels` / `nib` / `stepAlign` (Model/Split.lean) transliterate `splitQuery`,
  `nextIntervalBoundary` and `stepAlign.Do`.  All theorems are for every `Int` start/end (also
  negative, unaligned, start = end, end < start), every positive step and interval (also
  step > interval, step ∤ interval); no bound on the number of sub-requests.
-/
namespace Thanos.Split

/-- `nextIntervalBoundary(t, step, interval)` is the last point on `t`'s phase before the boundary
    `B = (t/interval + 1)·interval`, and it is at or after `t` (`nib_spec`). -/
theorem C41_nib {t step iv : Int} (hs : 0 < step) (hi : 0 < iv) :
    ∃ e, nib t step iv = some e ∧ t ≤ e ∧ (e - t) % step = 0 ∧
      e < (t.tdiv iv + 1) * iv ∧ (t.tdiv iv + 1) * iv ≤ e + step :=
  nib_spec hs hi

example : nib 1700000003000 15000 3600000 = some 1700002793000 := by decide
example : nib (-7) 3 10 = some 8 := by decide          -- truncation: "next" boundary of −7 is 10
example : nib 5 13 10 = some 5 := by decide            -- step > interval: stays at t

/-- every value `nextIntervalBoundary` computes on the way (and the `end + step` of the loop) -/
def nibIntermediates (t step iv : Int) : List Int :=
  let q := t.tdiv iv
  let sONI := (q + 1) * iv
  let r := (sONI - t).tmod step
  let target := sONI - r
  [q, q + 1, sONI, sONI - t, r, target, target - step, target + step, target - step + step]

/-- **no overflow**: for |t| < 2^61 and 0 < step, interval < 2^61 every intermediate value of
    `nextIntervalBoundary` and of the loop increment fits an int64, so the `Int` model and the
    `int64` code agree there. -/
theorem C41_no_overflow (t step iv : Int) (ht : -(2 ^ 61) < t ∧ t < 2 ^ 61) (hs : 0 < step ∧ step < 2 ^ 61)
    (hi : 0 < iv ∧ iv < 2 ^ 61) : ∀ x ∈ nibIntermediates t step iv, -(2 ^ 63) ≤ x ∧ x < 2 ^ 63 := by
  -- `|t/iv| ≤ |t|`; the boundary `B = (t/iv + 1)·iv` lies in `(t, t + 2·iv)`; the remainder `r` of `B - t` in `[0, step)`
  have hq : -(2 ^ 61) ≤ t.tdiv iv ∧ t.tdiv iv ≤ 2 ^ 61 := by
    have := Int.natAbs_tdiv_le_natAbs t iv
    omega
  have hB := boundary_within t hi.1
  have hr0 := Int.tmod_nonneg step (a := (t.tdiv iv + 1) * iv - t) (by omega)
  have hr1 := Int.tmod_lt_of_pos ((t.tdiv iv + 1) * iv - t) hs.1
  simp only [nibIntermediates, List.forall_mem_cons, List.not_mem_nil, false_imp_iff, implies_true,
    and_true]
  generalize ((t.tdiv iv + 1) * iv - t).tmod step = r at *
  generalize (t.tdiv iv + 1) * iv = B at *
  generalize t.tdiv iv = q at *
  omega

example : ∀ x ∈ nibIntermediates 1700000003000 15000 3600000, -(2 ^ 63) ≤ x ∧ x < 2 ^ 63 := by decide

/-- **C41 (range queries).**  For every start, end, positive step and positive interval
    `splitQuery` terminates without panic and the sub-requests' evaluation grids, concatenated in
    order, are exactly the grid of the original request — as lists, so every timestamp is
    evaluated exactly once (`grid_nodup`) and none is added; every sub-request starts a whole
    number of steps after the original start (so it evaluates on the original's phase), is
    non-empty and stays inside `[start, end]`; and a request with `start ≤ end` is never split into
    nothing. -/
theorem C41_range (start stop step iv : Int) (hs : 0 < step) (hi : 0 < iv) :
    ∃ l, split start stop step iv = .ok l ∧
      l.flatMap (fun q => grid q.1 q.2 step) = grid start stop step ∧
      (∀ q ∈ l, (q.1 - start) % step = 0 ∧ start ≤ q.1 ∧ q.1 ≤ q.2 ∧ q.2 ≤ stop) ∧
      (start ≤ stop → l ≠ []) := by
  obtain ⟨l, hl, hg, hq⟩ := split_spec start stop step iv hs hi
  refine ⟨l, hl, hg, fun q hq' => ?_, fun hle hnil => ?_⟩
  · obtain ⟨a1, a2, a3, a4, _⟩ := hq q hq'
    exact ⟨Int.emod_eq_zero_of_dvd a1, a2, a3, a4⟩
  · -- `start` is on the grid, so the sub-requests cannot be none
    have hmem : start ∈ grid start stop step :=
      (mem_grid hs).2 ⟨Int.le_refl _, hle, by rw [Int.sub_self]; rfl⟩
    rw [← hg, hnil] at hmem
    exact List.not_mem_nil hmem

-- non-vacuity: aligned case, step > interval, unaligned start, start = end, end < start
example : split 0 100 10 30 = .ok [(0, 20), (30, 50), (60, 80), (90, 100)] := rfl
example : split 3 40 13 10 = .ok [(3, 3), (16, 16), (29, 40)] := rfl
example : split 7 29 4 10 = .ok [(7, 7), (11, 19), (23, 29)] := rfl
example : split 5 5 10 30 = .ok [(5, 5)] := by decide
example : split 9 2 1 5 = .ok [] := by decide

/-- each timestamp of the original grid is evaluated by the sub-requests exactly once -/
theorem C41_once (start stop step iv : Int) (hs : 0 < step) (hi : 0 < iv) :
    ∃ l, split start stop step iv = .ok l ∧
      (l.flatMap (fun q => grid q.1 q.2 step)).Nodup ∧
      ∀ t, t ∈ l.flatMap (fun q => grid q.1 q.2 step) ↔
        (start ≤ t ∧ t ≤ stop ∧ (t - start) % step = 0) := by
  obtain ⟨l, hl, hg, _⟩ := C41_range start stop step iv hs hi
  exact ⟨l, hl, by rw [hg]; exact grid_nodup hs, fun t => by rw [hg]; exact mem_grid hs⟩

/-- **C41 (work conservation).**  The sub-requests together evaluate exactly as many steps as the
    original request — `(end − start) / step + 1` of them when `start ≤ end` — so splitting neither
    drops nor repeats an evaluation (a counting corollary of `C41_range`, for every size). -/
theorem C41_count (start stop step iv : Int) (hs : 0 < step) (hi : 0 < iv) :
    ∃ l, split start stop step iv = .ok l ∧
      (l.map (fun q => (grid q.1 q.2 step).length)).sum = (grid start stop step).length ∧
      (start ≤ stop → (grid start stop step).length = ((stop - start) / step + 1).toNat) := by
  obtain ⟨l, hl, hg, _⟩ := C41_range start stop step iv hs hi
  exact ⟨l, hl, by rw [← hg, List.length_flatMap], fun _ => grid_length hs⟩

-- non-vacuity: step > interval, three sub-requests, three evaluations
example : split 3 40 13 10 = .ok [(3, 3), (16, 16), (29, 40)] ∧
    ([(3, 3), (16, 16), (29, 40)].map (fun q : Int × Int => (grid q.1 q.2 13).length)).sum = 3 := ⟨rfl, rfl⟩

/-- a zero step or a zero interval makes `nextIntervalBoundary` divide by zero (Go panics; the
    codec rejects `step ≤ 0` before the middleware is reached) -/
theorem C41_zero_step_panics : split 0 10 0 5 = .panic ∧ split 0 10 5 0 = .panic := by decide

/-- `stepAlign.Do` on non-negative times: both ends become multiples of the step, moved down by
    less than one step. -/
theorem stepAlign_spec {start stop step : Int} (hs : 0 < step) (h0 : 0 ≤ start) (h1 : 0 ≤ stop) :
    ∃ s e, stepAlign start stop step = some (s, e) ∧ s % step = 0 ∧ e % step = 0 ∧
      s ≤ start ∧ start < s + step ∧ e ≤ stop ∧ stop < e + step :=
  ⟨_, _, if_neg (Int.ne_of_gt hs), Int.mul_emod_left .., Int.mul_emod_left ..,
    (tdiv_mul_floor hs h0).1, (tdiv_mul_floor hs h0).2, tdiv_mul_floor hs h1⟩

example : stepAlign 17 99 10 = some (10, 90) := by decide
/-- for negative times Go's truncation rounds *up* (not claimed, only recorded) -/
example : stepAlign (-17) 99 10 = some (-10, 90) := by decide

/-- C41 (labels/series) at full strength, for the code with (`true`) or without (`false`) the
    point-range repair: the sub-ranges cover the original range, stay inside it and none is
    longer than the interval. -/
def C41_labels_full (pointRange : Bool) : Prop :=
  ∀ start stop dur : Int, 0 < dur → start ≤ stop →
    ∃ l, splitLabels pointRange start stop dur = .ok l ∧ Covers l start stop ∧
      ∀ q ∈ l, start ≤ q.1 ∧ q.1 ≤ q.2 ∧ q.2 ≤ stop ∧ q.2 - q.1 ≤ dur

/-- for `start < end` (with or without the repair): consecutive non-empty sub-ranges, each at most one
    interval long, from `start` exactly to `end`. -/
theorem C41_labels_tiles (pr : Bool) (start stop dur : Int) (hd : 0 < dur) (hlt : start < stop) :
    ∃ l, splitLabels pr start stop dur = .ok l ∧ Tiles dur l start stop ∧ Covers l start stop ∧
      ∀ q ∈ l, start ≤ q.1 ∧ q.1 < q.2 ∧ q.2 ≤ stop ∧ q.2 - q.1 ≤ dur := by
  obtain ⟨l, hl, ht⟩ := labelsLoop_spec (stop := stop) hd _ start (Int.self_le_toNat _) hlt
  exact ⟨l, (if_neg fun h => Int.ne_of_lt hlt h.2).trans hl, ht, ht.covers, ht.bounds⟩

/-- **C41 (labels/series, lengths).**  For `start < end` the consecutive sub-ranges of
    `C41_labels_tiles` have lengths that add up to exactly `end − start` (no time counted twice or
    left out), and there are at least `⌈(end − start)/dur⌉` of them. -/
theorem C41_labels_length (pr : Bool) (start stop dur : Int) (hd : 0 < dur) (hlt : start < stop) :
    ∃ l, splitLabels pr start stop dur = .ok l ∧
      (l.map (fun q => q.2 - q.1)).sum = stop - start ∧ stop - start ≤ dur * l.length := by
  obtain ⟨l, hl, ht, _⟩ := C41_labels_tiles pr start stop dur hd hlt
  exact ⟨l, hl, ht.sum_len⟩

-- non-vacuity
example : splitLabels true 3 40 10 = .ok [(3, 13), (13, 23), (23, 33), (33, 40)] ∧
    ([(3, 13), (13, 23), (23, 33), (33, 40)].map (fun q : Int × Int => q.2 - q.1)).sum = 40 - 3 := ⟨rfl, rfl⟩

/-- **C41 (labels/series)** for the repaired code: every request with `start ≤ end`, point ranges
    included, is covered by its sub-ranges. -/
theorem C41_labels : C41_labels_full true := by
  intro start stop dur hd hle
  by_cases heq : start = stop
  · subst heq
    exact ⟨[(start, start)], if_pos ⟨rfl, rfl⟩, fun t h1 h2 => ⟨_, .head _, h1, h2⟩, List.forall_mem_singleton.mpr
      ⟨Int.le_refl _, Int.le_refl _, Int.le_refl _, Int.sub_self start ▸ Int.le_of_lt hd⟩⟩
  · obtain ⟨l, hl, _, hc, hb⟩ := C41_labels_tiles true start stop dur hd (Int.lt_iff_le_and_ne.mpr ⟨hle, heq⟩)
    exact ⟨l, hl, hc, fun q hq => ⟨(hb q hq).1, Int.le_of_lt (hb q hq).2.1, (hb q hq).2.2⟩⟩

/-- Without the repair the loop `for start < end` alone produces no sub-request for a point range
    `start = end` (which the codec accepts: only `end < start` is rejected), so the instant is
    not covered and the downstream is never asked. -/
theorem C41_labels_unrepaired_false : ¬ C41_labels_full false := by
  intro h
  obtain ⟨l, hl, hc, _⟩ := h 5 5 10 (by decide) (by decide)
  have : l = [] := by
    have h' : splitLabels false 5 5 10 = .ok [] := by decide
    rw [h'] at hl; injection hl with hl; exact hl.symm
  subst this
  obtain ⟨q, hq, _⟩ := hc 5 (by decide) (by decide)
  simp at hq

example : splitLabels true 3 40 10 = .ok [(3, 13), (13, 23), (23, 33), (33, 40)] := rfl
example : splitLabels true 5 5 10 = .ok [(5, 5)] := by decide
example : splitLabels true 9 2 5 = .ok [] := by decide

/-! ### regenerated obligations: the source still reads as the model transliterates it -/

/-- the range case of `splitQuery`: start = end special case, loop condition `start < end`,
    increment `nextIntervalBoundary(start) + step`, extension test `end+step >= r.GetEnd()` -/
theorem C41_fact_range :
    Thanos.Facts.splitRangeCase =
      ["query, err := queryrange.EvaluateAtModifierFunction(r.GetQuery(), r.GetStart(), r.GetEnd())",
       "if err != nil {", "return nil, err", "}",
       "if start := r.GetStart(); start == r.GetEnd() {",
       "reqs = append(reqs, tr.WithSplitInterval(interval).WithStartEnd(start, start))",
       "} else {",
       "for ; start < r.GetEnd(); start = nextIntervalBoundary(start, r.GetStep(), interval) + r.GetStep() {",
       "end := nextIntervalBoundary(start, r.GetStep(), interval)",
       "if end+r.GetStep() >= r.GetEnd() {", "end = r.GetEnd()", "}",
       "reqs = append(reqs, tr.WithSplitInterval(interval).WithQuery(query).WithStartEnd(start, end))",
       "}", "}"] := rfl

/-- the labels/series case is the repaired one (`splitLabels true`) -/
theorem C41_fact_labels :
    Thanos.Facts.splitLabelsCase =
      ["dur := int64(interval / time.Millisecond)",
       "if start := r.GetStart(); start == r.GetEnd() {",
       "reqs = append(reqs, tr.WithSplitInterval(interval).WithStartEnd(start, start))",
       "}",
       "for start := r.GetStart(); start < r.GetEnd(); start = start + dur {",
       "end := min(start+dur, r.GetEnd())",
       "reqs = append(reqs, tr.WithSplitInterval(interval).WithStartEnd(start, end))",
       "}"] := rfl

theorem C41_fact_nib :
    Thanos.Facts.nextIntervalBoundaryBody =
      ["msPerInterval := int64(interval / time.Millisecond)",
       "startOfNextInterval := ((t / msPerInterval) + 1) * msPerInterval",
       "target := startOfNextInterval - ((startOfNextInterval - t) % step)",
       "if target == startOfNextInterval {", "target -= step", "}",
       "return target"] := rfl

theorem C41_fact_align :
    Thanos.Facts.stepAlignBody =
      ["start := (r.GetStart() / r.GetStep()) * r.GetStep()",
       "end := (r.GetEnd() / r.GetStep()) * r.GetStep()",
       "return s.next.Do(ctx, r.WithStartEnd(start, end))"] := rfl

end Thanos.Split
