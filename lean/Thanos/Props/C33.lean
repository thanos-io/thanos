import Thanos.Model.CompactSync
import Thanos.Generated.Facts
/-
  C33 — The compactor does nothing destructive on an incomplete view.

  Honest level: the model is a SPECIFICATION (Model/CompactSync.lean): an iteration is "sync,
  then — unless the sync failed — the writes".  `C33_no_writes` is therefore true by construction;
  the content of this file is
   * about the classification table `breaksSync` of Model/CompactSync.lean — which read outcomes
     the code treats as "the view is incomplete": it contains every FAILED read
     (`C33_failed_read_breaks`, `C33_body_error_breaks`), so that `C33_main` holds (a failed read ⇒
     no write in that iteration); it is spelled out in full by `C33_classify`, and a
     sync with tolerated answers only (partial upload, no marker) does not fail
     (`C33_tolerated_sync_ok`);
   * the regenerated facts that tie the table to the sources (the `switch` over the cause of a
     loadMeta error, the two tolerated marker errors of each marker filter, `return` right after
     a failed `SyncMetas` and before cleaning / garbage collection / grouping);
  and the assurance for the *implementation* comes from the fault enumeration on the real
  BucketCompactor (harness/cmd/block/c33.go): every read of every metadata sync of two Compact
  calls is made to fail, and no mutating bucket call may follow.
-/
namespace Thanos.CompactSync

theorem C33_no_writes {W : Type} (reads : List (ReadKind × Outcome)) (writes : List W)
    (h : syncFails reads = true) : iteration reads writes = (true, []) := by
  simp [iteration, h]

theorem C33_failed_read_breaks (k : ReadKind) (o : Outcome) (h : readFailed k o = true) :
    breaksSync k o = true := by
  revert h
  cases k <;> cases o <;> decide

/-- **C33**: if reading any block's metadata or markers (or the listing) fails in a sync, the
    compactor neither compacts, marks nor deletes anything in that iteration. -/
theorem C33_main {W : Type} (reads : List (ReadKind × Outcome)) (writes : List W)
    (h : ∃ r ∈ reads, readFailed r.1 r.2 = true) : (iteration reads writes).2 = [] := by
  obtain ⟨r, hr, hf⟩ := h
  have : syncFails reads = true := List.any_eq_true.mpr ⟨r, hr, C33_failed_read_breaks r.1 r.2 hf⟩
  simp [iteration, this]

/-- the complete classification, as a table: the outcomes that do NOT break a sync are exactly
    "ok" and, for meta.json and the two markers, "not found" and "not valid JSON" -/
theorem C33_classify (k : ReadKind) (o : Outcome) :
    breaksSync k o = false ↔
      (o = .ok ∨ ((k = .getMeta ∨ k = .getDeletionMark ∨ k = .getNoCompactMark) ∧ (o = .notFound ∨ o = .corrupt))) := by
  cases k <;> cases o <;> decide

/-- … so the compactor is not blocked by partial uploads -/
theorem C33_tolerated_sync_ok (reads : List (ReadKind × Outcome))
    (h : ∀ r ∈ reads, breaksSync r.1 r.2 = false) : syncFails reads = false := by
  simp only [syncFails, List.any_eq_false]
  intro r hr
  simp [h r hr]

/-- a body that breaks while it is read is a FAILED read, for every kind of read, and breaks the
    sync — it must never be mistaken for "the object is corrupt" (= partial upload) -/
theorem C33_body_error_breaks (k : ReadKind) :
    readFailed k .bodyError = true ∧ breaksSync k .bodyError = true := by
  cases k <;> decide

-- ---------------------------------------------------------------- regenerated facts

/-- loadMeta reads the whole body first (an I/O error is returned as a plain "read meta file"
    error) and only then decodes it (only a decode error means "corrupted") … -/
theorem C33_fact_loadMetaBody : Thanos.Facts.loadMetaBodyCalls = ["io.ReadAll", "json.Unmarshal"] := rfl
theorem C33_fact_loadMetaReadErr :
    Thanos.Facts.loadMetaReadErrAction = "err != nil => return nil, errors.Wrapf(err, \"read meta file: %v\", metaFile)" := rfl
/-- … and so does ReadMarker for the deletion / no-compact marks -/
theorem C33_fact_readMarkerBody : Thanos.Facts.readMarkerBodyCalls = ["io.ReadAll", "json.Unmarshal"] := rfl

/-- fetchMetadata: not-found and corrupted meta.json make the block partial, every other cause
    of a loadMeta error is counted in metaErrs … -/
theorem C33_fact_metaErrCases : Thanos.Facts.fetchMetaErrCases =
    ["default:metaErrs", "ErrorSyncMetaNotFound:partial", "ErrorSyncMetaCorrupted:partial"] := rfl
/-- … and a non-empty metaErrs is reported as an error ("incomplete view") by fetch -/
theorem C33_fact_incomplete : Thanos.Facts.fetchIncompleteCond = "len(resp.metaErrs) > 0" := rfl
theorem C33_fact_loadMeta : Thanos.Facts.loadMetaConds =
    ["f.bkt.IsObjNotFoundErr(err)", "m.Version != metadata.TSDBVersion1"] := rfl
/-- both marker filters tolerate exactly "marker not found" and "marker does not unmarshal" -/
theorem C33_fact_deletionTolerated : Thanos.Facts.deletionFilterTolerated =
    ["errors.Cause(err) == metadata.ErrorMarkerNotFound", "errors.Cause(err) == metadata.ErrorUnmarshalMarker"] := rfl
theorem C33_fact_noCompactTolerated : Thanos.Facts.noCompactFilterTolerated =
    ["errors.Cause(err) == metadata.ErrorMarkerNotFound", "errors.Cause(err) == metadata.ErrorUnmarshalMarker"] := rfl
/-- Compact syncs first and returns on a sync error before it cleans, garbage-collects or groups -/
theorem C33_fact_callOrder : Thanos.Facts.compactCallOrder =
    ["c.sy.SyncMetas", "c.blocksCleaner.DeleteMarkedBlocks", "c.sy.GarbageCollect", "c.grouper.Groups"] := rfl
theorem C33_fact_syncErrAction :
    Thanos.Facts.compactSyncErrAction = "err != nil => return errors.Wrap(err, \"sync\")" := rfl
theorem C33_fact_syncMetasErrAction :
    Thanos.Facts.syncMetasErrAction = "err != nil => return retry(err)" := rfl

-- ---------------------------------------------------------------- non-vacuity

-- a sync with a partial upload, an absent marker and ONE failed deletion-mark read: no writes
example : iteration [(.listing, .ok), (.getMeta, .notFound), (.getDeletionMark, .notFound),
    (.getDeletionMark, .failed), (.getNoCompactMark, .ok)] ["delete A", "upload B"] = (true, []) := by decide
-- a meta.json whose body breaks while it is read blocks the writes as well
example : iteration [(.getMeta, .bodyError)] ["delete A"] = (true, []) := by decide
-- the first sync without the failed read (and with a no-compact marker that does not parse: tolerated) lets the compactor work
example : iteration [(.listing, .ok), (.getMeta, .notFound), (.getDeletionMark, .notFound),
    (.getNoCompactMark, .corrupt)] ["delete A", "upload B"] = (false, ["delete A", "upload B"]) := by decide

end Thanos.CompactSync
