import Thanos.Model.Pool
import Thanos.Lemmas.Pool
import Thanos.Generated.Facts
/-
  C17 — Pooled buffers are released exactly once and pool budgets hold.

  (a) The shard-matcher buffers of `ProxyStore` (`sync.Pool`).  A request takes one buffer per
      queried store (`ShardInfo.Matcher`) and every response set is closed by the loser tree when
      its stream ends *and* again by the deferred `Close` of `ProxyStore.Series`; a `ShardMatcher`
      puts its buffer back in `Close`.  The theorem is over **all** event sequences of
      `Matcher`/`Close` calls — any number of concurrent requests, any interleaving, any number of
      `Close` calls per matcher, any choice the `sync.Pool` makes when it hands out a buffer.
  (b) `pool.BucketedPool`: all scripts of `Get`/`Put` with arbitrary sizes, budgets and pool choices.

  `idem` / `fixed` select the code before (`false`) and after (`true`) the repair; the model the
  driver runs against `/repo` follows the code that is there (see `Driver/Proxy.lean`).
  The invariants (`Acct`/`Inv`, `BInv`) and what a run keeps of them are in `Lemmas/Pool.lean`.
-/
namespace Thanos.Pool

/-- C17(a) at full strength: after any sequence of `Matcher`/`Close` calls no buffer is used by two
    live matchers and no buffer sits twice in the pool -/
def C17_owner_full (idem : Bool) : Prop :=
  ∀ evs : List Ev, (liveBufs (run idem PState.init evs)).Nodup ∧ (run idem PState.init evs).free.Nodup

/-- With an idempotent `ShardMatcher.Close` the property holds for every schedule. -/
theorem C17_owner : C17_owner_full true := by
  intro evs
  have := inv_run evs acct_init
  exact ⟨this.liveNodup, this.freeNodup⟩

/-- … and a buffer that is in use is never inside the pool (so nobody else can be handed it). -/
theorem C17_owner_not_pooled (evs : List Ev) :
    ∀ b ∈ liveBufs (run true PState.init evs), b ∉ (run true PState.init evs).free :=
  (inv_run evs acct_init).disjoint

/-- The unrepaired code (`Close` puts every time): one request over one store whose response set is
    closed by the loser tree and by the deferred `Close`, followed by two requests — both get
    buffer 0. -/
theorem C17_owner_unfixed_false : ¬ C17_owner_full false := by
  intro h
  have := (h [.opn 0 none, .cls 0, .cls 0, .opn 1 (some 0), .opn 2 (some 0)]).1
  revert this
  decide

/-- What the unrepaired code does guarantee: a schedule in which no matcher is closed twice. -/
theorem C17_owner_unfixed_partial (evs : List Ev) (h : (closesOf evs).Nodup) :
    (liveBufs (run false PState.init evs)).Nodup ∧ (run false PState.init evs).free.Nodup := by
  rw [run_false_eq_true evs PState.init h (by intro h hh; simp [PState.init] at hh)]
  exact C17_owner evs

/-- C17(b), budget: at no point of any script are more bytes checked out than `maxTotal` -/
def C17_budget_full (fixed : Bool) : Prop :=
  ∀ (min max num den maxTotal : Nat) (p : BPool) (ops : List BOp),
    BPool.new min max num den maxTotal = some p → maxTotal > 0 →
    ∀ a ∈ p.runScript fixed [] ops, a.used ≤ maxTotal

/-- The repaired `Get` (budget tested with the bucket size that will be charged) never exceeds the
    budget — for every script, including foreign / grown slices put into the pool and double puts,
    and whatever the per-bucket `sync.Pool`s hand back. -/
theorem C17_budget : C17_budget_full true := by
  intro min max num den maxTotal p ops hnew hm a ha
  obtain ⟨inv, rfl⟩ := binv_new hnew
  exact runScript_budget ops p [] inv hm a ha

/-- The unrepaired code: `NewBucketedPool(16, 1024, 2, 100)`, `Get(65)` passes the test with 65 and
    is charged the 128-byte bucket. -/
theorem C17_budget_unfixed_false : ¬ C17_budget_full false := by
  intro h
  have := h 16 1024 2 1 100 _ [.get 65 none] rfl (by decide) (.got (.ok 128) 128) (by decide)
  revert this
  decide

/-- disciplined use: `get`, or return the i-th buffer that is currently checked out, unchanged -/
inductive DOp where
  | get (sz : Nat) (choice : Option Nat)
  | ret (i : Nat)

def discStep (fixed : Bool) (st : BPool × List Nat) : DOp → BPool × List Nat
  | .get sz ch =>
    match st.1.get fixed sz ch with
    | (p', .ok c) => (p', c :: st.2)
    | (p', _) => (p', st.2)
  | .ret i =>
    match st.2[i]? with
    | some c => (st.1.put c, st.2.eraseIdx i)
    | none => st

def discRun (fixed : Bool) (st : BPool × List Nat) (ops : List DOp) : BPool × List Nat :=
  ops.foldl (discStep fixed) st

theorem discStep_used (fixed : Bool) (st : BPool × List Nat) (op : DOp)
    (h : st.1.used = st.2.sum) : (discStep fixed st op).1.used = (discStep fixed st op).2.sum := by
  cases op with
  | get sz ch =>
    rw [discStep]
    rcases get_cases fixed st.1 sz ch with h1 | h1 | ⟨c, bs, h1, _⟩
    · rw [h1]; exact h
    · rw [h1]; exact h
    · rw [h1]
      show st.1.used + c = (c :: st.2).sum
      rw [List.sum_cons, h, Nat.add_comm]
  | ret i =>
    rw [discStep]
    cases hi : st.2[i]? with
    | none => exact h
    | some c =>
      have hs := (perm_cons_eraseIdx hi).sum_nat
      rw [List.sum_cons] at hs
      show (if c ≥ st.1.used then 0 else st.1.used - c) = (st.2.eraseIdx i).sum
      split <;> omega

/-- **C17(b), zero.**  With disciplined use (every buffer that was got is put back unchanged, at
    most once) `UsedBytes()` equals the sum of the capacities that are checked out — before and
    after the repair — hence it is zero once every buffer is back. -/
theorem C17_zero (fixed : Bool) : ∀ (ops : List DOp) (st : BPool × List Nat),
    st.1.used = st.2.sum → (discRun fixed st ops).1.used = (discRun fixed st ops).2.sum
  | [], _, h => h
  | op :: r, st, h => C17_zero fixed r _ (discStep_used fixed st op h)

/-- … so a pool that starts with nothing checked out reads zero again once every buffer is back. -/
theorem C17_zero_all_returned (fixed : Bool) (p : BPool) (ops : List DOp) (h0 : p.used = 0)
    (hall : (discRun fixed (p, []) ops).2 = []) : (discRun fixed (p, []) ops).1.used = 0 := by
  have := C17_zero fixed ops (p, []) (by simpa using h0)
  rw [this, hall]; rfl

/-! ### regenerated facts: the skeleton the model follows -/

/-- `ShardMatcher.Close`: inside `if s.buffers != nil` the buffer is put and the pool reference is
    dropped, which is what makes the second `Close` a no-op (`closeHeld true`).  (The unrepaired
    body is just the `Put`: `closeHeld false`, `C17_owner_unfixed_false`.) -/
theorem C17_fact_close :
    Thanos.Facts.shardMatcherCloseBody = ["s.buffers.Put(s.buf)", "s.buffers = nil"] := rfl

/-- who closes a response set: the loser-tree callback and the deferred call in `Series`; each
    response set's `Close` closes its shard matcher once — so a matcher sees up to two `Close`
    calls, which the theorems cover (any number) -/
theorem C17_fact_close_sites :
    Thanos.Facts.proxyCloseSites = ["tree:s.Close", "series:defer respSet.Close", "lazy:l.shardMatcher.Close", "eager:l.shardMatcher.Close"] := rfl

/-- `BucketedPool.Get`: the budget tests in source order — with the bucket size inside the bucket
    loop, with the requested size only for the oversize allocation (`BPool.get true`).  (Unrepaired:
    one test with `sz` ahead of the loop, `C17_budget_unfixed_false`.) -/
theorem C17_fact_budget :
    Thanos.Facts.bucketedPoolBudgetTests =
      ["p.maxTotal > 0 && p.usedTotal+uint64(bktSize) > p.maxTotal", "p.maxTotal > 0 && p.usedTotal+uint64(sz) > p.maxTotal"] := rfl

/-! ### non-vacuity -/

-- a realistic schedule: two concurrent requests over two stores each, every response set closed
-- twice, then a third request that reuses pooled buffers
example : let evs := [Ev.opn 0 none, .opn 1 none, .opn 2 none, .cls 0, .opn 3 none, .cls 1, .cls 0, .cls 1,
                      .cls 2, .cls 3, .cls 3, .cls 2, .opn 4 (some 0), .opn 5 (some 0)]
    (run true PState.init evs).free.length = 2 ∧ (liveBufs (run true PState.init evs)).length = 2 := by decide
-- with the unrepaired Close a response set that is closed twice leaves its buffer in the pool twice
example : (run false PState.init [Ev.opn 0 none, .cls 0, .cls 0]).free = [0, 0] := by decide
-- BucketedPool: the repaired Get refuses what would break the budget, and accounting returns to 0
example : (BPool.new 16 1024 2 1 100).map (fun p => (p.get true 65 none).2) = some .exhausted := by decide
example : (BPool.new 16 1024 2 1 100).map (fun p => (p.get true 64 none).2) = some (.ok 64) := by decide
example : (BPool.new 10 100 2 1 1000).map (fun p =>
    (discRun true (p, []) [.get 40 none, .get 19 none, .ret 0, .get 1000 none, .ret 1, .ret 0]).1.used) = some 0 := by decide

end Thanos.Pool
