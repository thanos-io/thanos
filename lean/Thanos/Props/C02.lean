import Thanos.Model.Iter
import Thanos.Lemmas.DedupMono
import Thanos.Lemmas.IterBasic
import Thanos.Generated.Facts
/-
  C02 — Counter deduplication never fabricates counter resets.

  The model is the transliteration of `dedupSeries.Iterator` for a counter function
  (`counterErrAdjustSeriesIterator` around every replica, `dedupSeriesIterator` folded over them,
  the deferred `adjustAtValue` on a replica switch).  Values are integers (integer-valued float64
  are exact in Go; the rounding of `v + (last - v)` for other floats is outside the model and is
  measured by the harness's fractional stream).

  What `drain` returns and what a script observes are both readings (`Reads`: samples read after
  successive successful calls); under the value invariant of `Lemmas/DedupMono.lean` every reading is
  monotone (`Reads.fromM`, `Reads.monoVals`).
-/
namespace Thanos.Dedup

/-- the samples a reader observed before the first `ValNone` / panic -/
def obsPrefix : List Obs → List Sample
  | .sample x :: rest => x :: obsPrefix rest
  | _ => []

def FromM (m : Int) (l : List Sample) : Prop := (∀ x ∈ l, m ≤ x.v) ∧ MonoVals l

theorem FromM.nil (m : Int) : FromM m [] := ⟨fun _ hx => (nomatch hx), List.Pairwise.nil⟩

theorem FromM.cons {m : Int} {x : Sample} {l : List Sample} (hle : m ≤ x.v) (h : FromM x.v l) :
    FromM m (x :: l) :=
  ⟨List.forall_mem_cons.mpr ⟨hle, fun y hy => Int.le_trans hle (h.1 y hy)⟩,
    List.pairwise_cons.mpr h⟩

section
variable {σ : Type} {o : Ops σ} {I : σ → Int → Prop}

/-- `l` is what some reader saw from `s` on: the samples read after successive successful
    `Next`/`Seek` calls (`r` = what the first of them returned) -/
inductive Reads (o : Ops σ) : σ → List Sample → Prop
  | nil (s : σ) : Reads o s []
  | call {s : σ} {r : σ × Bool} {x : Sample} {l : List Sample} : (r = o.next s ∨ ∃ t, r = o.seek t s) →
      r.2 = true → o.atS r.1 = some x → Reads o r.1 l → Reads o s (x :: l)

theorem drainN_reads (o : Ops σ) (n : Nat) (s : σ) : Reads o s (drainN o n s) := by
  -- case1: out of fuel; case2: `Next` gave `r` with the sample `x`; case3: `At()` shows nothing; case4: `ValNone`
  fun_induction drainN o n s with
  | case1 => exact Reads.nil _
  | case2 n s r hok x hx ih => exact Reads.call (Or.inl rfl) hok hx ih
  | case3 => exact Reads.nil _
  | case4 => exact Reads.nil _

theorem runCalls_reads (o : Ops σ) (cs : List Call) (s : σ) : Reads o s (obsPrefix (runCalls o cs s)) := by
  -- case1: no call left; case2: the call `c` panics; case3: it leaves the sample `x`; case4: `At()` shows nothing;
  -- case5: `ValNone`
  fun_induction runCalls o cs s with
  | case1 => exact Reads.nil _
  | case2 => exact Reads.nil _
  | case3 c cs s r hbad hok x hx ih =>
    refine Reads.call ?_ hok hx ih
    cases c with
    | next => exact Or.inl rfl
    | seek t => exact Or.inr ⟨t, rfl⟩
  | case4 => exact Reads.nil _
  | case5 => exact Reads.nil _

theorem Reads.fromM (h : MonoR o I) {s : σ} {l : List Sample} (hr : Reads o s l) :
    ∀ m, I s m → FromM m l := by
  induction hr with
  | nil => exact fun m _ => FromM.nil m
  | @call s r x l hc hok hx _ ih =>
    intro m hI
    obtain ⟨m', hle, hI'⟩ : ∃ m', m ≤ m' ∧ I r.1 m' := by
      rcases hc with rfl | ⟨t, rfl⟩
      · exact h.next _ _ hI hok
      · exact h.seek _ _ t hI hok
    obtain ⟨y, hy, rfl⟩ := h.atS _ _ hI'
    cases hx.symm.trans hy
    exact (ih _ hI').cons hle

/-- from a fresh state the first successful call gives the value to start from -/
theorem Reads.monoVals (h : MonoR o I) {s : σ} (hf : FreshM o I s) {l : List Sample} (hr : Reads o s l) :
    MonoVals l := by
  cases hr with
  | nil => exact List.Pairwise.nil
  | @call _ r x l hc hok hx hrest =>
    obtain ⟨m', hI'⟩ : ∃ m', I r.1 m' := by
      rcases hc with rfl | ⟨t, rfl⟩
      · exact hf.next hok
      · exact hf.seek t hok
    obtain ⟨y, hy, rfl⟩ := h.atS _ _ hI'
    cases hx.symm.trans hy
    exact List.pairwise_cons.mpr (hrest.fromM h _ hI')
end

/-- an iterator that carries a value invariant and on which nothing has been called yet -/
def GoodM (i : AnyIt) : Prop := ∃ I : i.σ → Int → Prop, Mono i.ops I ∧ FreshM i.ops I i.st

theorem replicaIt_good (r : List Sample) (h : MonoVals r) : GoodM (replicaIt true r) :=
  ⟨ctrI, ctr_mono, ctr_fresh r h⟩

/-- one replica after the other: `dedupSeriesIterator` over an iterator with the invariant and a counter replica -/
theorem foldl_good (rs : List (List Sample)) (acc : AnyIt) (hacc : GoodM acc) (h : ∀ q ∈ rs, MonoVals q) :
    GoodM (rs.foldl (foldNode true true) acc) :=
  List.foldlRecOn rs _ (motive := GoodM) hacc fun _ ⟨Ia, ha, fa⟩ r hr =>
    ⟨nodeI Ia ctrI, node_mono ha ctr_mono true, node_fresh ha ctr_mono fa (ctr_fresh r (h r hr))⟩

/-- Every reading of the deduplicated counter series is monotone (`C02_monotone` and `C02_seek` are the readings
    `drain` and a script make): one replica comes as the plain list iterator, more as the fold. -/
theorem mk_reads_mono (r : List Sample) (rs : List (List Sample)) (h : ∀ q ∈ r :: rs, MonoVals q)
    {l : List Sample} (hr : Reads (mk true true r rs).ops (mk true true r rs).st l) : MonoVals l := by
  cases rs with
  | nil => exact hr.monoVals leaf_monoR (leaf_fresh r (h r List.mem_cons_self))
  | cons r2 rs =>
    obtain ⟨I, hm, hf⟩ := foldl_good (r2 :: rs) (replicaIt true r) (replicaIt_good r (h r List.mem_cons_self))
      (fun q hq => h q (List.mem_cons_of_mem _ hq))
    exact hr.monoVals hm.toR hf

/-- **C02.**  For a counter function and any number of replicas whose values never decrease,
    the values of the deduplicated series never decrease — whatever the timestamps are and
    wherever the penalty logic switches between replicas. -/
theorem C02_monotone (r : List Sample) (rs : List (List Sample))
    (h : ∀ q ∈ r :: rs, MonoVals q) : MonoVals (drain (mk true true r rs)) :=
  mk_reads_mono r rs h (drainN_reads _ _ _)

/-- **C02 for every function name `isCounter` accepts** (`rate`, `irate`, `increase`, `resets`) -/
theorem C02_monotone_fn (f : String) (hf : f ∈ counterFuncs) (r : List Sample) (rs : List (List Sample))
    (h : ∀ q ∈ r :: rs, MonoVals q) : MonoVals (drain (mkF true f r rs)) := by
  have : isCounter f = true := List.contains_iff_mem.mpr hf
  unfold mkF
  rw [this]
  exact C02_monotone r rs h

/-- **C02 after any seeks.**  The same for every script of `Next`/`Seek` calls: the values a
    reader observes up to the first `ValNone` never decrease. -/
theorem C02_seek (r : List Sample) (rs : List (List Sample)) (cs : List Call)
    (h : ∀ q ∈ r :: rs, MonoVals q) : MonoVals (obsPrefix ((mk true true r rs).run cs)) :=
  mk_reads_mono r rs h (runCalls_reads _ cs _)

/-! ### non-vacuity: the layout of issue 2401 (replica 2 restarted from a lower base) -/

/-- the adjustment is really exercised: replica 1 stalls at 40 while replica 2 (which is in use
    at 55000) has reached 47; the switch back to replica 1 raises its values by 7 … -/
example : drain (mk true true
    [⟨10000, 20⟩, ⟨20000, 30⟩, ⟨30000, 40⟩, ⟨200000, 40⟩, ⟨210000, 45⟩]
    [[⟨15000, 25⟩, ⟨25000, 35⟩, ⟨35000, 45⟩, ⟨45000, 46⟩, ⟨55000, 47⟩, ⟨205000, 47⟩]])
    = [⟨10000, 20⟩, ⟨20000, 30⟩, ⟨30000, 40⟩, ⟨55000, 47⟩, ⟨200000, 47⟩, ⟨210000, 52⟩] := by decide +kernel

/-- … whereas for a non-counter function the merged series goes from 47 back to 40 -/
example : drain (mk true false
    [⟨10000, 20⟩, ⟨20000, 30⟩, ⟨30000, 40⟩, ⟨200000, 40⟩, ⟨210000, 45⟩]
    [[⟨15000, 25⟩, ⟨25000, 35⟩, ⟨35000, 45⟩, ⟨45000, 46⟩, ⟨55000, 47⟩, ⟨205000, 47⟩]])
    = [⟨10000, 20⟩, ⟨20000, 30⟩, ⟨30000, 40⟩, ⟨55000, 47⟩, ⟨200000, 40⟩, ⟨210000, 45⟩] := by decide +kernel

example : ∀ q ∈ [[(⟨10000, 20⟩ : Sample), ⟨20000, 30⟩, ⟨30000, 40⟩, ⟨200000, 40⟩, ⟨210000, 45⟩],
    [⟨15000, 25⟩, ⟨25000, 35⟩, ⟨35000, 45⟩, ⟨45000, 46⟩, ⟨55000, 47⟩, ⟨205000, 47⟩]], MonoVals q := by
  unfold MonoVals
  decide +kernel

/-! ### regenerated facts: the source has the adjustment logic the model transliterates -/

theorem C02_fact_adjust :
    Thanos.Facts.ctrAdjustCond = "lastFloatValue > v" ∧
    Thanos.Facts.ctrAdjustStmt = "it.errAdjust += lastFloatValue - v" ∧
    Thanos.Facts.dedupSwitchCond = "it.useA != lastUseA && isFloatVal" ∧
    Thanos.Facts.dedupAdjustCalls = ["it.a.adjustAtValue", "it.b.adjustAtValue"] := ⟨rfl, rfl, rfl, rfl⟩

/-- the counter functions of the model are exactly the names `isCounter` accepts -/
theorem C02_fact_counter_funcs :
    Thanos.Facts.dedupCounterFuncs = counterFuncs ∧
    Thanos.Facts.dedupCounterReturns =
      ["f == \"increase\" || f == \"rate\" || f == \"irate\" || f == \"resets\""] := ⟨rfl, rfl⟩

end Thanos.Dedup
