import Thanos.Model.Quorum
import Thanos.Lemmas.Quorum
import Thanos.Generated.Facts
/-
  C22 — An acknowledged remote write reached quorum for every series.

  "The receiver acknowledges a remote-write request only if every series in it was stored on at
  least a write quorum of its replicas (or, for an already-replicated request, on the addressed
  replica); if any series cannot reach quorum the request fails."

  Model: Model/Quorum.lean (handleRequest → forward → distributeTimeseriesToReplicas →
  fanoutForward with its early return).  The arrival order of the replica answers is a list; the
  theorems quantify over all lists, i.e. all orders, and over the point at which the loop returns.
-/
namespace Thanos.Quorum

/-- `consumed` at the thresholds of the request -/
def consumedOf (rf : Nat) (replicated : Bool) (n : Nat) (rs : List Resp) : List Resp :=
  consumed n (quorumOf rf replicated) (failThr rf replicated) St.init rs

theorem consumedOf_prefix (rf : Nat) (replicated : Bool) (n : Nat) (rs : List Resp) :
    consumedOf rf replicated n rs <+: rs := consumed_prefix _ _ _ _ _

/-- **Soundness of the acknowledgement.**  For every replication factor ≥ 1, any number of series
    placed on any nodes, any outcomes (success, conflict, unavailable, other errors), and
    whichever threshold the replication errors carry — the answers being those of a complete
    fan-out (`Complete`): if `fanoutForward` returns nil then every series already had a quorum of
    successful writes among the answers consumed so far. -/
theorem C22_ack_sound (sel : ThrSel) (rf : Nat) (replicated : Bool) (n : Nat) (rs : List Resp)
    (hrf : 1 ≤ rf) (hc : Complete n (nrepOf rf replicated) rs)
    (hok : fanout sel rf replicated n rs = .ok) :
    ∀ i, i < n → quorumOf rf replicated ≤ oks (consumedOf rf replicated n rs) i := by
  rw [fanout_eq] at hok
  exact (loop_ok_iff (params_of rf replicated hrf) n _ rs hc).2 hok

/-- **The request is acknowledged exactly when every series has a quorum of successes** among
    the complete set of answers. -/
theorem C22_ack_iff (sel : ThrSel) (rf : Nat) (replicated : Bool) (n : Nat) (rs : List Resp)
    (hrf : 1 ≤ rf) (hc : Complete n (nrepOf rf replicated) rs) :
    fanout sel rf replicated n rs = .ok ↔ ∀ i, i < n → quorumOf rf replicated ≤ oks rs i := by
  rw [fanout_eq]
  exact (loop_ok_iff (params_of rf replicated hrf) n _ rs hc).1

/-- **Completeness of the failure** ("if any series cannot reach quorum the request fails"). -/
theorem C22_fail_complete (sel : ThrSel) (rf : Nat) (replicated : Bool) (n : Nat) (rs : List Resp)
    (hrf : 1 ≤ rf) (hc : Complete n (nrepOf rf replicated) rs)
    (hfail : ∃ i, i < n ∧ oks rs i < quorumOf rf replicated) :
    fanout sel rf replicated n rs ≠ .ok :=
  fun hok => have ⟨i, hi, hlt⟩ := hfail
    Nat.not_le_of_gt hlt ((C22_ack_iff sel rf replicated n rs hrf hc).mp hok i hi)

/-- **Order independence** of the acknowledgement. -/
theorem C22_order (sel : ThrSel) (rf : Nat) (replicated : Bool) (n : Nat) (rs rs' : List Resp)
    (hrf : 1 ≤ rf) (hc : Complete n (nrepOf rf replicated) rs) (hp : rs'.Perm rs) :
    (fanout sel rf replicated n rs' = .ok ↔ fanout sel rf replicated n rs = .ok) := by
  rw [C22_ack_iff sel rf replicated n rs hrf hc, C22_ack_iff sel rf replicated n rs' hrf (hc.perm hp)]
  simp only [oks_perm hp]

/-- **Several tenants in one request** (gRPC tuples, or the split-tenant label).  The model has no
    tenants: the series ids run over the whole request.  However the ids are grouped into tenants
    (`tenantOf`), the request is acknowledged iff every series of every tenant has a quorum of
    successes. -/
theorem C22_multi_tenant (sel : ThrSel) (rf : Nat) (replicated : Bool) (n : Nat) (rs : List Resp)
    (tenantOf : Nat → Nat) (hrf : 1 ≤ rf) (hc : Complete n (nrepOf rf replicated) rs) :
    fanout sel rf replicated n rs = .ok ↔
      ∀ t, ∀ i, i < n → tenantOf i = t → quorumOf rf replicated ≤ oks rs i := by
  rw [C22_ack_iff sel rf replicated n rs hrf hc]
  exact ⟨fun h _ i hi _ => h i hi, fun h i hi => h (tenantOf i) i hi rfl⟩

/-- an already replicated request needs the addressed replica only -/
theorem C22_replicated_threshold (rf : Nat) : quorumOf rf true = 1 ∧ nrepOf rf true = 1 ∧ failThr rf true = 1 :=
  ⟨rfl, rfl, rfl⟩

/-- HTTP: 200 is written exactly when `fanoutForward` returned nil -/
theorem C22_http_ack (r : Result) : httpStatus r = 200 ↔ r = .ok := by
  cases r with
  | ok => exact ⟨fun _ => rfl, fun _ => rfl⟩
  | failed cs =>
    simp only [httpStatus, reduceCtorEq, iff_false]
    split <;> omega

/-- gRPC (`Handler.RemoteWrite`): with the failure threshold, success is answered exactly when
    `fanoutForward` returned nil … -/
theorem C22_grpc_ack (rf : Nat) (replicated : Bool) (n : Nat) (rs : List Resp) (hrf : 1 ≤ rf) :
    grpcCode (fanout .failure rf replicated n rs) = .ok ↔ fanout .failure rf replicated n rs = .ok := by
  rw [fanout_eq, loop_eq_finish_consumed]
  exact grpcCode_finish (params_of rf replicated hrf).fT_pos _

/-- … whereas with `successThreshold` passed to `newReplicationErrors` (`.success`; see `codeSel`) a
    failed write is acknowledged on the gRPC surface: rf 4, {conflict, conflict, ok, ok} ⇒
    `writeErrors.Cause()` is nil ⇒ `case nil` ⇒ success, although no series reached the quorum of 3. -/
theorem C22_grpc_ack_false :
    grpcCode (fanout .success 4 false 1 [⟨[0], some kConflict⟩, ⟨[0], some kConflict⟩, ⟨[0], none⟩, ⟨[0], none⟩]) = .ok ∧
    fanout .success 4 false 1 [⟨[0], some kConflict⟩, ⟨[0], some kConflict⟩, ⟨[0], none⟩, ⟨[0], none⟩] ≠ .ok := by
  decide

/-- For the code as it is (`codeSel`): a request that passes the replica check and the hashring,
    and whose writes are each answered exactly once, is acknowledged — on the HTTP surface and on
    the gRPC surface — iff every series has a quorum of successful writes. -/
theorem C22_handle (rf rep : Nat) (placement : List (List Nat)) (script : List ((Nat × Nat) × Outcome))
    (ws : Writes) (r : Result) (rs : List Resp)
    (hrf : 1 ≤ rf)
    (hh : handle codeSel rf rep placement script = .done ws r)
    (hrs : respsOf ws script = some rs)
    (hans : (rs.map (·.ids)).Perm (ws.map (·.2))) :
    (httpStatus r = 200 ↔ ∀ i, i < placement.length → quorumOf rf (decide (rep ≠ 0)) ≤ oks rs i) ∧
    (grpcCode r = .ok ↔ ∀ i, i < placement.length → quorumOf rf (decide (rep ≠ 0)) ≤ oks rs i) := by
  obtain ⟨rfl, hc⟩ := handle_done hh hrs hans
  have hiff := C22_ack_iff codeSel rf (decide (rep ≠ 0)) placement.length rs hrf hc
  exact ⟨(C22_http_ack _).trans hiff, (C22_grpc_ack rf _ _ rs hrf).trans hiff⟩

/-- Regenerated obligation: `writeQuorum` returns 1 for replication factor 2 and rf/2+1 otherwise. -/
theorem C22_quorum_fact :
    Thanos.Facts.writeQuorumSpecialCase = "h.options.ReplicationFactor == 2" ∧
    Thanos.Facts.writeQuorumReturns = ["1", "int((h.options.ReplicationFactor / 2) + 1)"] := ⟨rfl, rfl⟩

/-- Regenerated obligations: `failureThreshold` is `len(replicas) - successThreshold + 1`; the loop
    keeps waiting while some series has neither enough successes nor enough conflicts. -/
theorem C22_threshold_fact :
    Thanos.Facts.failureThresholdExpr = "len(params.replicas) - successThreshold + 1" ∧
    Thanos.Facts.canReturnEarlyCond = "successes[i] < successThreshold && conflictFailures[i] < failureThreshold" := ⟨rfl, rfl⟩

-- two series over four nodes, rf 3: series 0 gets ok, ok and then an internal error; series 1 ok,
-- conflict, ok.  The loop returns after the fourth answer; both series had two successes by then.
private def ex : List Resp :=
  [⟨[0], none⟩, ⟨[0, 1], none⟩, ⟨[1], some kConflict⟩, ⟨[1], none⟩, ⟨[0], some kOther⟩]

example : Complete 2 (nrepOf 3 false) ex := by unfold Complete; decide
example : fanout codeSel 3 false 2 ex = .ok := by decide
example : (consumedOf 3 false 2 ex).length = 4 := by decide
example : oks (consumedOf 3 false 2 ex) 0 = 2 ∧ oks (consumedOf 3 false 2 ex) 1 = 2 := by decide
-- a request that cannot reach quorum: rf 3, series 0 has one success only
example : fanout codeSel 3 false 1 [⟨[0], none⟩, ⟨[0], some kOther⟩, ⟨[0], some kGrpcUnavail⟩] ≠ .ok := by decide
example : handle codeSel 3 0 [[0, 1, 2], [1, 2, 3]]
    [((0, 0), none), ((1, 1), none), ((2, 2), some kOther), ((1, 0), none), ((2, 1), some kConflict), ((3, 2), none)]
    = .done [((0, 0), [0]), ((1, 1), [0]), ((2, 2), [0]), ((1, 0), [1]), ((2, 1), [1]), ((3, 2), [1])] .ok := by decide +kernel

end Thanos.Quorum
