import Thanos.Model.StoreSpec
import Thanos.Lemmas.StoreSpec
import Thanos.Props.C08
import Thanos.Generated.Facts
/-
  C07 — Label name/value APIs cover every label seen by Series.

  "For the same selectors and time range, every label name and every value of a label that appears on a
   series returned by a store's Series call is also returned by that store's label-names and
   label-values calls, including external labels and excluding labels requested to be dropped as
   replica labels."

  Specification level (partial): the theorems are about `Model/StoreSpec.lean` — `tsdbSeries` /
  `tsdbLabelNames` / `tsdbLabelValues` and `bucketSeries` / `bucketLabelNames` / `bucketLabelValues` — for all
  stores, selectors, ranges and replica-label lists.  The real TSDBStore and BucketStore are compared with
  these functions (equality of answers, not just inclusion) on generated blocks on every run, and the
  inclusion itself is evaluated on the implementation by the oracle.
  The inclusion theorems for the two stores come first; those of the store gateway are facts about the one block that
  served the series (`blockSeries_label` for the values), lifted through the selection of blocks.  Then: the block
  filters of Series and of the label calls, external labels replaced at run time, and the same inclusions through
  the proxy's fan-out (`client_covers`, `C07_names_proxy`, `C07_values_proxy`).
-/
namespace Thanos.StoreSpec
open Thanos.Labels

theorem served_label (R : List Nat) (ext raw : Labels) (l : Label)
    (he : StrictSorted ext) (hne : NoEmpty ext) (hr : NoEmpty raw) (hs : StrictSorted raw)
    (hl : l ∈ serveTSDB R ext raw) :
    R.contains l.1 = false ∧ l.2 ≠ 0 ∧
      (lookup ext l.1 = some l.2 ∨ (lookup ext l.1 = none ∧ lookup raw l.1 = some l.2)) := by
  have h1 := mem_lookup _ (C08_sorted_tsdb R ext raw hr hs) l hl
  rw [C08_labels_tsdb R ext raw l.1 he hne hr] at h1
  obtain ⟨hR, hsrc⟩ := expected_eq_some.mp h1
  refine ⟨hR, fun h0 => ?_, hsrc⟩
  rcases hsrc with h | ⟨_, h⟩
  · exact lookup_ne_zero ext hne l.1 (h0 ▸ h)
  · exact lookup_ne_zero raw hr l.1 (h0 ▸ h)

/-- C07 for the TSDB store, label names (the external names are appended only when the querier lists some name: it
    does, the series has a label) -/
theorem C07_names_tsdb (db : Block) (r : Req) (es : List Entry) (wf : WFBlock db)
    (h : tsdbSeries db r = .ok es) : ∀ e ∈ es, ∀ l ∈ e.1, l.1 ∈ tsdbLabelNames db r := by
  intro e he l hl
  obtain ⟨m, ms', hf, he⟩ := mem_tsdbSeries h he
  obtain ⟨s, hs, hm, _, rfl⟩ := mem_selectSeries.mp he
  obtain ⟨hR, _, hsrc⟩ := served_label r.without db.ext s.lset l wf.ext_sorted wf.ext_ne
    (wf.lset_ne s hs) (wf.lset_sorted s hs) hl
  have hnames : ∀ n ∈ names s.lset, n ∈ canonNats (allNames (db.series.filter fun s => matchesAll (m :: ms') s.lset)) :=
    fun n hn => mem_canonNats.mpr (List.mem_flatMap.mpr ⟨s, List.mem_filter.mpr ⟨hs, hm⟩, hn⟩)
  -- the querier's names are not empty: the series itself has a label
  obtain ⟨x, hx⟩ := List.exists_mem_of_ne_nil _ (wf.lset_nonempty s hs)
  have hres := List.isEmpty_eq_false_iff.mpr (List.ne_nil_of_mem (hnames x.1 (List.mem_map_of_mem hx)))
  simp only [tsdbLabelNames, hf, hres, Bool.false_eq_true, if_false]
  rcases hsrc with hext | ⟨_, hraw⟩
  · exact List.mem_append_right _ (List.mem_filter.mpr ⟨lookup_some_mem_names hext, by rw [hR]; rfl⟩)
  · exact List.mem_append_left _ (hnames _ (lookup_some_mem_names hraw))

/-- C07 for the TSDB store, label values -/
theorem C07_values_tsdb (db : Block) (r : Req) (es : List Entry) (wf : WFBlock db)
    (h : tsdbSeries db r = .ok es) : ∀ e ∈ es, ∀ l ∈ e.1, l.2 ∈ tsdbLabelValues db r l.1 := by
  intro e he l hl
  obtain ⟨m, ms', hf, he⟩ := mem_tsdbSeries h he
  obtain ⟨s, hs, hm, hc, rfl⟩ := mem_selectSeries.mp he
  obtain ⟨hR, hv0, hsrc⟩ := served_label r.without db.ext s.lset l wf.ext_sorted wf.ext_ne
    (wf.lset_ne s hs) (wf.lset_sorted s hs) hl
  simp only [tsdbLabelValues, hf, hR, Bool.false_eq_true, if_false]
  rcases hsrc with hext | ⟨hnone, hraw⟩
  · have hany : (db.series.any fun s => matchesAll (m :: ms') s.lset && !(chunksForTime s.chunks r.mint r.maxt).isEmpty) = true :=
      List.any_eq_true.mpr ⟨s, hs, by rw [hm, hc]; rfl⟩
    simp [hany, get_of_lookup hext, hv0]
  · simp only [Labels.get, hnone, Option.getD_none, bne_self_eq_false, Bool.false_eq_true, if_false]
    exact List.mem_filterMap.mpr ⟨s, List.mem_filter.mpr ⟨hs, hm⟩, hraw⟩

/-- C07 for the store gateway, label names: read off the very entries `blockSeries` serves, over blocks that include
    those Series reads (`mem_selected`); no hypothesis on the data -/
theorem C07_names_bucket (blocks : List Block) (r : Req) :
    ∀ e ∈ bucketSeries blocks r, ∀ l ∈ e.1, l.1 ∈ bucketLabelNames blocks r := by
  intro e he l hl
  obtain ⟨b, hb0, heb⟩ := List.mem_flatMap.mp he
  obtain ⟨m, ms', hf, heb⟩ := mem_blockSeries heb
  refine List.mem_flatMap.mpr ⟨b, mem_selected blocks r b hb0, ?_⟩
  simp only [blockLabelNames, hf]
  exact List.mem_flatMap.mpr ⟨e, heb, List.mem_map.mpr ⟨l, hl, rfl⟩⟩

/-- one block of the store gateway, whatever labels `R` its Series call drops: a label left on a series the block serves
    is none of `R`, and its value is among the label values of that very block (`C07_values_bucket` is the case
    `R = r.without`, and does not say which block answers).  `LabelValues` reads the value off the series completed
    without dropping anything (`serveBucket []`) and, for a label that is no external one, adds the matcher `l != ""`
    — hence legal data -/
theorem blockSeries_label {R : List Nat} {b : Block} {r : Req} (wf : WFBlock b) :
    ∀ e ∈ blockSeries R b r, ∀ l ∈ e.1, R.contains l.1 = false ∧ l.2 ∈ blockLabelValues b r l.1 := by
  intro e he l hl
  obtain ⟨m, ms', hf, he⟩ := mem_blockSeries he
  obtain ⟨s, hs, hm, hc, rfl⟩ := mem_selectSeries.mp he
  -- the two completions agree on legal data, so what `served_label` says of `serveTSDB` carries over
  rw [← C08_labels_same R b.ext s.lset wf.ext_sorted wf.ext_ne (wf.lset_ne s hs) (wf.lset_sorted s hs)] at hl
  obtain ⟨hR, hv0, hsrc⟩ := served_label R b.ext s.lset l wf.ext_sorted wf.ext_ne
    (wf.lset_ne s hs) (wf.lset_sorted s hs) hl
  -- the label value on the series as LabelValues sees it (nothing dropped)
  have hget : Labels.get (serveBucket [] b.ext s.lset) l.1 = l.2 := by
    apply get_of_lookup
    rw [C08_labels_bucket [] b.ext s.lset l.1 wf.ext_sorted wf.ext_ne (wf.lset_ne s hs) (wf.lset_sorted s hs)]
    exact expected_eq_some.mpr ⟨rfl, hsrc⟩
  -- the matchers LabelValues uses are the residual ones, with `l != ""` when `l` is no external label: the series
  -- passes that one as well, since it has the label.  Stated of any `ms2` equal to the `if`, so that the `if` is split
  -- here, outside the goal, and `hms _ rfl` then speaks of the `let` of `blockLabelValues` as it stands
  have hms : ∀ ms2, ms2 = (if (!r.nameEq && !(m :: ms').isEmpty && !(hasName b.ext l.1)) = true
      then (m :: ms') ++ [nonEmpty l.1] else m :: ms') → ms2.isEmpty = false ∧ matchesAll ms2 s.lset = true := by
    rintro _ rfl
    split
    next hcond =>
      simp only [Bool.and_eq_true, Bool.not_eq_true'] at hcond
      have hnone := (lookup_none_iff _ _).mpr (hasName_eq_false.mp hcond.2)
      obtain ⟨_, hraw⟩ := hsrc.resolve_left fun h => nomatch hnone.symm.trans h
      refine ⟨rfl, ?_⟩
      unfold matchesAll at hm ⊢
      rw [List.all_append, hm]
      simp [nonEmpty, Matcher.ok, get_of_lookup hraw, hv0]
    next => exact ⟨rfl, hm⟩
  refine ⟨hR, ?_⟩
  unfold blockLabelValues
  simp only [hf]
  obtain ⟨h1, h2⟩ := hms _ rfl
  rw [h1]
  exact List.mem_filter.mpr ⟨List.mem_map.mpr ⟨_, mem_selectSeries.mpr ⟨s, hs, h2, hc, rfl⟩, hget⟩,
    by simpa using hv0⟩

/-- C07 for the store gateway, label values: the block that served the series answers (`blockSeries_label`, hence
    legal data), and it is among the blocks the label calls look at (`mem_selected`) -/
theorem C07_values_bucket (blocks : List Block) (r : Req) (wf : ∀ b ∈ blocks, WFBlock b) :
    ∀ e ∈ bucketSeries blocks r, ∀ l ∈ e.1, l.2 ∈ bucketLabelValues blocks r l.1 := by
  intro e he l hl
  obtain ⟨b, hb0, heb⟩ := List.mem_flatMap.mp he
  have hb := mem_selected blocks r b hb0
  obtain ⟨hR, hv⟩ := blockSeries_label (wf b (List.mem_filter.mp hb).1) e heb l hl
  unfold bucketLabelValues
  rw [hR]
  exact List.mem_flatMap.mpr ⟨b, hb, hv⟩

/-! ### the two block filters: closed query interval against half-open block ranges, on both calls -/

/-- what `getFor` keeps of one resolution level (`MaxTime <= mint` skips, `MinTime > maxt` ends the scan) is the
    predicate `overlapsClosedInterval` of the label calls: a block whose MinTime equals the end of the range, or
    whose MaxTime − 1 equals its start, is looked at by Series and by the label calls alike -/
theorem overlap_predicates_agree (b : Block) (mint maxt : Int) :
    blockOverlaps b mint maxt = (!(decide (b.maxt ≤ mint)) && !(decide (b.mint > maxt))) := by
  -- each test of the scan is the negation of one half of the overlap predicate
  simp only [blockOverlaps, ← decide_not, Int.not_le, Int.not_lt, Bool.decide_and, Bool.and_comm]

/-- regenerated facts: both predicates as the sources have them -/
theorem C07_fact_overlap :
    Thanos.Facts.storesOverlapsClosedInterval = "b.meta.MinTime <= maxt && mint < b.meta.MaxTime"
    ∧ (Thanos.Facts.storesGetForConds.drop 2).take 2 = ["b.meta.MaxTime <= mint", "b.meta.MinTime > maxt"] := ⟨rfl, rfl⟩

/-! ### the label calls look at every overlapping block, whatever its resolution -/

/-- the label calls do not read the resolution of a block: re-labelling the resolutions changes no answer -/
theorem labelNames_ignore_resolution (blocks : List Block) (f : Block → Int) (r : Req) :
    bucketLabelNames (blocks.map fun b => { b with res := f b }) r = bucketLabelNames blocks r := by
  unfold bucketLabelNames
  rw [List.filter_map, List.flatMap_map]
  rfl

theorem labelValues_ignore_resolution (blocks : List Block) (f : Block → Int) (r : Req) (l : Nat) :
    bucketLabelValues (blocks.map fun b => { b with res := f b }) r l = bucketLabelValues blocks r l := by
  unfold bucketLabelValues
  rw [List.filter_map, List.flatMap_map]
  rfl

/-- … while Series reads the blocks `getFor` selects for the maximum resolution of the request — downsampled
    blocks included, also when no raw block covers their range — and these are among the blocks the label calls
    look at (`mem_selected`): that is why `C07_names_bucket` / `C07_values_bucket` hold for stores of all three
    resolutions.  Regenerated fact: the block loops of both label calls skip a block only for the time range,
    the block matchers of the hints and contradicted external labels — there is no resolution test. -/
theorem C07_fact_label_block_filter :
    Thanos.Facts.storesLabelNamesBlockFilter =
      ["!b.overlapsClosedInterval(req.Start, req.End)",
       "len(reqBlockMatchers) > 0 && !b.matchRelabelLabels(reqBlockMatchers)", "!ok"]
    ∧ Thanos.Facts.storesLabelValuesBlockFilter =
      ["!b.overlapsClosedInterval(req.Start, req.End)",
       "len(reqBlockMatchers) > 0 && !b.matchRelabelLabels(reqBlockMatchers)", "!ok"] := ⟨rfl, rfl⟩

-- non-vacuity: an old range present only as a 5m block: Series at max resolution 5m serves its series, and the
-- label calls list its names although no raw block is there
def oldOnly5m : List Block :=
  [⟨[(5, 9)], 0, 100, [⟨[(1, 8), (7, 6)], [⟨10, 20, 1⟩]⟩], 300000⟩, ⟨[(5, 9)], 100, 200, [⟨[(1, 7)], [⟨110, 120, 2⟩]⟩], 0⟩]
example : (bucketSeries oldOnly5m ⟨0, 300, [⟨1, false, [7, 8]⟩], [], false, false, 300000⟩).map (·.1) =
    [[(1, 8), (5, 9), (7, 6)], [(1, 7), (5, 9)]] := rfl
example : canonNats (bucketLabelNames oldOnly5m ⟨0, 300, [⟨1, false, [7, 8]⟩], [], false, false, 300000⟩) = [1, 5, 7] := rfl

/-! ### external labels replaced at run time: every call reads the current set -/

/-- after `SetExtLset` each of the three calls answers as a store created with the new external labels would -/
theorem series_reads_current_ext (db : Block) (ext : Labels) (r : Req) :
    ((TStore.new db).setExt ext).series r = tsdbSeries { db with ext := ext } r := rfl

theorem labelNames_reads_current_ext (db : Block) (ext : Labels) (r : Req) :
    ((TStore.new db).setExt ext).labelNames r = tsdbLabelNames { db with ext := ext } r := rfl

theorem labelValues_reads_current_ext (db : Block) (ext : Labels) (r : Req) (l : Nat) :
    ((TStore.new db).setExt ext).labelValues r l = tsdbLabelValues { db with ext := ext } r l := rfl

/-- C07 for the TSDB store in every state: after any sequence of external-label updates the label calls cover
    what Series returns (the current external labels must be a legal label set) -/
theorem C07_tsdb_after_updates (db : Block) (updates : List Labels) (r : Req) (es : List Entry)
    (wf : WFBlock (updates.foldl TStore.setExt (TStore.new db)).view)
    (h : (updates.foldl TStore.setExt (TStore.new db)).series r = .ok es) :
    ∀ e ∈ es, ∀ l ∈ e.1,
      l.1 ∈ (updates.foldl TStore.setExt (TStore.new db)).labelNames r ∧
      l.2 ∈ (updates.foldl TStore.setExt (TStore.new db)).labelValues r l.1 := by
  intro e he l hl
  exact ⟨C07_names_tsdb _ r es wf h e he l hl, C07_values_tsdb _ r es wf h e he l hl⟩

/-- regenerated facts: `TSDBStore` has no field that could hold a derived copy of the external labels besides
    `extLsetAsLabelSets`, and the three calls read the current set (through `getExtLset` / the field) -/
theorem C07_fact_single_ext_copy :
    Thanos.Facts.storesTSDBStoreFields =
      ["logger", "db", "component", "buffers", "maxBytesPerFrame", "matcherCache", "extLsetAsLabelSets",
       "startStoreFilterUpdate", "storeFilter", "mtx", "close", "storepb.UnimplementedStoreServer"]
    ∧ Thanos.Facts.storesTSDBStoreExtReads =
      ["Series: getExtLset x1, extLsetAsLabelSets x1", "LabelNames: getExtLset x2, extLsetAsLabelSets x0",
       "LabelValues: getExtLset x2, extLsetAsLabelSets x0"] := ⟨rfl, rfl⟩

/-- C07 for one store behind the proxy, whichever kind it is -/
theorem client_covers (c : Client) (r : Req) (wf : ∀ b ∈ c.blocks, WFBlock b) :
    ∀ e ∈ clientEntries c r, ∀ l ∈ e.1, l.1 ∈ clientNames c r ∧ l.2 ∈ clientValues c r l.1 := by
  obtain ⟨tsdb, blocks, _, _, _⟩ := c
  intro e hec l hl
  cases tsdb with
  | false => exact ⟨C07_names_bucket blocks r e hec l hl, C07_values_bucket blocks r wf e hec l hl⟩
  | true =>
    cases blocks with
    | nil => exact nomatch hec
    | cons db rest =>
      have wfd := wf db List.mem_cons_self
      simp only [clientEntries, clientSeries, if_true] at hec
      match hs : tsdbSeries db r, hec with
      | .ok es', hec => exact ⟨C07_names_tsdb db r es' wfd hs e hec l hl, C07_values_tsdb db r es' wfd hs e hec l hl⟩

/-- C07 through the proxy, label names: for every set of stores behind it (TSDB stores and store gateways, any
    advertised label sets and time ranges) -/
theorem C07_names_proxy (clients : List Client) (r : Req) (es : List Entry)
    (wf : ∀ c ∈ clients, ∀ b ∈ c.blocks, WFBlock b) (h : proxySeries clients r = .ok es) :
    ∀ e ∈ es, ∀ l ∈ e.1, l.1 ∈ proxyLabelNames clients r := by
  intro e he l hl
  obtain ⟨c, hc, hm, hec⟩ := proxySeries_mem clients r es h e he
  exact mem_proxyNames clients r c l.1 hc hm (client_covers c r (wf c hc) e hec l hl).1

/-- C07 through the proxy, label values -/
theorem C07_values_proxy (clients : List Client) (r : Req) (es : List Entry)
    (wf : ∀ c ∈ clients, ∀ b ∈ c.blocks, WFBlock b) (h : proxySeries clients r = .ok es) :
    ∀ e ∈ es, ∀ l ∈ e.1, l.2 ∈ proxyLabelValues clients r l.1 := by
  intro e he l hl
  obtain ⟨c, hc, hm, hec⟩ := proxySeries_mem clients r es h e he
  exact mem_proxyValues clients r l.1 c l.2 hc hm (client_covers c r (wf c hc) e hec l hl).2

def exampleDB : Block :=
  ⟨[(5, 9), (9, 3)], 0, 100,
   [⟨[(1, 8), (5, 1), (7, 6)], [⟨10, 20, 1⟩, ⟨30, 40, 2⟩]⟩, ⟨[(1, 7), (9, 6)], [⟨50, 60, 3⟩]⟩], 0⟩

def exampleReq : Req := ⟨0, 45, [⟨1, false, [7, 8]⟩, ⟨5, false, [9]⟩], [9], false, false, 0⟩

example : (match tsdbSeries exampleDB exampleReq with
    | .ok es => es.map (fun e => (e.1, e.2.map (·.id)))
    | .invalid => []) = [([(1, 8), (5, 9), (7, 6)], [1, 2])] := rfl
example : sortNatsDup (tsdbLabelNames exampleDB exampleReq) = [1, 5, 5, 7, 9] := rfl
example : tsdbLabelValues exampleDB exampleReq 5 = [9] := rfl
example : tsdbLabelValues exampleDB exampleReq 9 = [] := rfl
example : canonNats (bucketLabelNames [exampleDB] exampleReq) = [1, 5, 7] := rfl
-- the proxy in front of the TSDB store and the store gateway of the same block: the repeated name of the TSDB store stays
example : proxyLabelNames (standardClients [exampleDB]) exampleReq = [1, 5, 5, 7, 9] := rfl
example : (match proxySeries (standardClients [exampleDB]) exampleReq with | .ok es => es.length | _ => 0) = 2 := rfl

end Thanos.StoreSpec
