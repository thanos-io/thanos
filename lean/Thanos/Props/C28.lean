import Thanos.Model.Bucket
import Thanos.Lemmas.Bucket
import Thanos.Lemmas.BucketProcs
import Thanos.Generated.Facts
/-
  C28 — A block is visible in object storage only when all its files are.

  Statement proved (for every number of blocks, every number of segment files, every crash
  budget, every history of crashed and restarted procedures): in every bucket state reachable
  from the empty bucket by runs of block.Upload, the shipper's upload, the replicator,
  block.Delete and the marker writers — each run cut off after any number of mutating calls —
  a block whose meta.json is present has every file that meta.json lists, with the recorded size
  (`C28_compose`), and a Delete run that started with a deletion mark removes the mark only when
  nothing else of the block is left (`C28_delete_mark`).
  Around it: one theorem per procedure (`C28_upload`, `C28_shipper`, `C28_mark`, `C28_replicate`,
  `C28_delete`), `Reach`, an uploader after a crashed Delete (`C28_upload_after_crashed_delete`,
  `C28_reupload_visible`), and two witnesses that the order hypotheses are needed
  (`C28_meta_early_false`, `C28_delete_rest_first_false`).

  The theorems are about the call scripts of Model/Bucket.lean; the scripts are tied to the code
  by the differential harness (recorded bucket calls of the real functions = the scripts, at every
  crash budget) and by the regenerated facts of this file (order of the uploads / deletions in the
  source).
-/
namespace Thanos.Bucket

/-- **Upload** (`block.Upload`): from any consistent bucket state (in particular one left by
    crashed earlier attempts on the same block), cut after any number of mutating calls. -/
theorem C28_upload {w : Nat → Block} (hw : WF w) {order : List String} (ho : MetaLast order)
    (s : Bucket) (hs : Good w s) (n : Nat) (k : Option Nat) :
    Good w (exec k (uploadScript order n (w n)) s).bkt := by
  apply good_exec hw k _ s hs
  rw [uploadScript, muts_map_mu]
  exact safeRun_upload ho n s

/-- **Shipper** (`Sync` of one block: Exists(meta.json), then upload). -/
theorem C28_shipper {w : Nat → Block} (hw : WF w) {order : List String} (ho : MetaLast order)
    (s : Bucket) (hs : Good w s) (n : Nat) (k : Option Nat) :
    Good w (exec k (shipScript order s n (w n)) s).bkt := by
  apply good_exec hw k _ s hs
  unfold shipScript
  split
  · simp [muts, SafeRun]
  · simp only [muts, uploadScript, muts_map_mu]
    exact safeRun_upload ho n s

theorem C28_mark {w : Nat → Block} (hw : WF w) (s : Bucket) (hs : Good w s) (n : Nat)
    (name : String) (size : Nat) (hname : name = markName ∨ name = noCompactName) (k : Option Nat) :
    Good w (exec k (markScript s n name size) s).bkt := by
  apply good_exec hw k _ s hs
  unfold markScript
  split
  · simp [muts, SafeRun]
  · simp only [muts, SafeRun, and_true]
    refine .putOther n name size ?_ ?_
    · rcases hname with rfl | rfl <;> decide
    · intro z hz
      have := (hw n).2 name z hz
      rcases hname with rfl | rfl <;> simp [reserved] at this

/-- **Replication** (`ensureBlockIsReplicated` with the origin holding the complete block). -/
theorem C28_replicate {w : Nat → Block} (hw : WF w) (s : Bucket) (hs : Good w s) (n : Nat)
    (k : Option Nat) : Good w (exec k (replicateScript codeReplicateOrder s n (w n)) s).bkt := by
  apply good_exec hw k _ s hs
  unfold replicateScript
  split
  · simp [muts, SafeRun]
  · -- the chunk phase and the index phase are one pass of `ensureObjectReplicated` over the block's files
    simp only [muts, codeReplicateOrder, replicatePhases, replicatePhase, List.append_nil, ← List.append_assoc,
      ← ensureScript_append, muts_append]
    obtain ⟨h1, h2⟩ := ensure_props (b := w n) n (w n).files s fun _ hp => hp
    exact safeRun_data_meta h1 true s fun f sz hf => h2 (f, sz) hf

/-- **Delete** keeps the invariant at every crash point, also on a partially deleted or partially
    uploaded block. -/
theorem C28_delete {w : Nat → Block} (hw : WF w) (s : Bucket) (hs : Good w s) (n : Nat)
    (k : Option Nat) : Good w (exec k (deleteScript codeDeleteOrder s n) s).bkt :=
  good_exec hw k _ s hs (safeRun_delete s n)

/-- **Deletion mark last**: `dels_last_gone` for the order of `block.Delete`, at every crash point. -/
theorem C28_delete_mark (s : Bucket) (n : Nat) (k : Option Nat)
    (hmark : (get s (n, markName)).isSome = true) :
    let s' := (exec k (deleteScript codeDeleteOrder s n) s).bkt
    get s' (n, markName) = none → ∀ f, get s' (n, f) = none := by
  obtain ⟨j, hj⟩ := exec_bkt k (deleteScript codeDeleteOrder s n) s
  rw [muts_deleteScript, ← List.map_take] at hj
  dsimp only
  rw [hj]
  -- the mark is deleted after meta.json and the rest …
  refine dels_last_gone j (fun h => ?_) hmark fun f e2 hg => ?_
  · rcases List.mem_append.mp h with h | h
    · split at h
      · exact absurd (List.mem_singleton.mp h) (by decide)
      · cases h
    · exact ((mem_restNames s n markName).mp ((filter_hasSlash_split _ _).mp h)).2.2 rfl
  -- … and these cover whatever else of the block was there at the start
  · by_cases e1 : f = metaName
    · rw [e1] at hg ⊢
      exact List.mem_append_left _ (by rw [if_pos (Option.isSome_iff_ne_none.mpr hg)]; exact List.mem_singleton_self _)
    · exact List.mem_append_right _ ((filter_hasSlash_split _ _).mpr
        ((mem_restNames s n f).mpr ⟨mem_namesOf_of_get hg, e1, e2⟩))

/-- the histories of the head comment; `k` is the crash budget of a run (`none` = it ran to completion) -/
inductive Reach (w : Nat → Block) : Bucket → Prop where
  | empty : Reach w []
  | upload (s n k) : Reach w s → Reach w (exec k (uploadScript codeUploadOrder n (w n)) s).bkt
  | ship (s n k) : Reach w s → Reach w (exec k (shipScript codeUploadOrder s n (w n)) s).bkt
  | replicate (s n k) : Reach w s → Reach w (exec k (replicateScript codeReplicateOrder s n (w n)) s).bkt
  | delete (s n k) : Reach w s → Reach w (exec k (deleteScript codeDeleteOrder s n) s).bkt
  | markDeletion (s n sz k) : Reach w s → Reach w (exec k (markScript s n markName sz) s).bkt
  | markNoCompact (s n sz k) : Reach w s → Reach w (exec k (markScript s n noCompactName sz) s).bkt

theorem reach_good {w : Nat → Block} (hw : WF w) {s : Bucket} (h : Reach w s) : Good w s := by
  induction h with
  | empty => exact good_empty w
  | upload s n k _ ih => exact C28_upload hw metaLast_code s ih n k
  | ship s n k _ ih => exact C28_shipper hw metaLast_code s ih n k
  | replicate s n k _ ih => exact C28_replicate hw s ih n k
  | delete s n k _ ih => exact C28_delete hw s ih n k
  | markDeletion s n sz k _ ih => exact C28_mark hw s ih n markName sz (Or.inl rfl) k
  | markNoCompact s n sz k _ ih => exact C28_mark hw s ih n noCompactName sz (Or.inr rfl) k

/-- **C28**: in every reachable bucket a visible block is complete. -/
theorem C28_compose {w : Nat → Block} (hw : WF w) {s : Bucket} (h : Reach w s) (n : Nat) :
    Visible s n → Complete s n :=
  (reach_good hw h).complete n

inductive Uploader where
  | upload | ship | replicate

def uploaderScript (u : Uploader) (s : Bucket) (n : Nat) (b : Block) : List Call :=
  match u with
  | .upload => uploadScript codeUploadOrder n b
  | .ship => shipScript codeUploadOrder s n b
  | .replicate => replicateScript codeReplicateOrder s n b

theorem Reach.uploader {w : Nat → Block} {s : Bucket} (h : Reach w s) (u : Uploader) (n : Nat) (k : Option Nat) :
    Reach w (exec k (uploaderScript u s n (w n)) s).bkt := by
  cases u
  · exact .upload s n k h
  · exact .ship s n k h
  · exact .replicate s n k h

/-- **Uploading after a partially crashed Delete** (an instance of `C28_compose`): a Delete of block `n` cut after
    `kd` calls, then any uploader on the same block cut after `ku`, then any uploader run to completion.  In
    particular the replicator's "object already exists ⇒ skip" and the shipper's "meta.json exists ⇒ done" are
    safe on the leftovers of the Delete, because Delete removes meta.json first. -/
theorem C28_upload_after_crashed_delete {w : Nat → Block} (hw : WF w) {s : Bucket} (h : Reach w s)
    (n : Nat) (kd ku : Option Nat) (u u' : Uploader) :
    let s1 := (exec kd (deleteScript codeDeleteOrder s n) s).bkt
    let s2 := (exec ku (uploaderScript u s1 n (w n)) s1).bkt
    let s3 := (exec none (uploaderScript u' s2 n (w n)) s2).bkt
    (∀ m, Visible s2 m → Complete s2 m) ∧ (∀ m, Visible s3 m → Complete s3 m) := by
  intro s1 s2 s3
  have r2 : Reach w s2 := (Reach.delete s n kd h).uploader u n ku
  exact ⟨C28_compose hw r2, C28_compose hw (r2.uploader u' n none)⟩

/-- a complete `block.Upload` makes the block visible, from any bucket: in particular nothing a crashed Delete
    left behind is mistaken for a finished upload -/
theorem C28_reupload_visible {w : Nat → Block} (s : Bucket) (n : Nat) :
    Visible (exec none (uploadScript codeUploadOrder n (w n)) s).bkt n := by
  -- the crash-free run applies all its calls, and the last one puts meta.json
  rw [(exec_trace none _ s).2, (exec_trace none _ s).1, Option.getD_none, List.take_length, uploadScript, muts_map_mu]
  exact visible_uploadOps metaLast_code n (w n) s

-- ---------------------------------------------------------------- the order hypotheses are needed

def exBlock : Block := ⟨[("chunks/000001", 12)], 40⟩

/-- uploading meta.json before the index (a seeded change listed in DESIGN §11) breaks the
    property: crash after two mutating calls leaves a visible block without index.  (`∀ s', s' = … →`: the closed
    term of the bucket stands once in the statement; `h _ rfl` puts it in.) -/
theorem C28_meta_early_false :
    ¬ (∀ s' : Bucket, s' = (exec (some 2) (uploadScript ["chunks", "meta", "index"] 0 exBlock) []).bkt →
        Visible s' 0 → Complete s' 0) := fun h =>
  visible_incomplete (r := false) (files := exBlock.files) (f := indexName) (sz := 40)
    (by decide) (by decide) (h _ rfl)

/-- deleting the other files before meta.json breaks it as well -/
theorem C28_delete_rest_first_false :
    ¬ (∀ s' : Bucket,
        s' = (exec (some 1) (deleteScript ["rest", "meta", "mark", "dirmarkers"]
                (exec none (uploadScript codeUploadOrder 0 exBlock) []).bkt 0)
                (exec none (uploadScript codeUploadOrder 0 exBlock) []).bkt).bkt →
        Visible s' 0 → Complete s' 0) := fun h =>
  visible_incomplete (r := false) (files := exBlock.files) (f := indexName) (sz := 40)
    (by decide +kernel) (by decide) (h _ rfl)

-- ---------------------------------------------------------------- regenerated facts

/-- `block.upload` uploads chunks, index, meta.json in this order in the source -/
theorem C28_fact_uploadOrder : Thanos.Facts.uploadOrder = codeUploadOrder := rfl
/-- `block.Delete` deletes meta.json, the rest, the deletion mark, the directory markers -/
theorem C28_fact_deleteOrder : Thanos.Facts.deleteOrder = codeDeleteOrder := rfl
/-- … and `deleteDirRec` skips exactly meta.json and the deletion mark -/
theorem C28_fact_deleteKeep :
    Thanos.Facts.deleteKeepCond = "name == metaFile || name == deletionMarkFile" := rfl
/-- the replicator copies chunks, index, meta.json in this order … -/
theorem C28_fact_replicateOrder : Thanos.Facts.replicateOrder = codeReplicateOrder := rfl
/-- … each object by Exists on the target, Get from the origin, Upload to the target -/
theorem C28_fact_replicateObject :
    Thanos.Facts.replicateObjectOrder = ["rs.toBkt.Exists", "rs.fromBkt.Get", "rs.toBkt.Upload"] := rfl
/-- the shipper's upload goes through `block.Upload` after the meta rewrite -/
theorem C28_fact_shipperUpload :
    Thanos.Facts.shipperUploadOrder = ["hardlinkBlock", "meta.WriteToDir", "block.Upload"] := rfl

-- ---------------------------------------------------------------- non-vacuity

def exWorld : Nat → Block := fun _ => ⟨[("chunks/000001", 12), ("chunks/000002", 7), ("chunks/000003", 30)], 40⟩

example : WF exWorld := fun _ => wfBlock_of_nodup (exWorld 0) (by decide +kernel) (by decide +kernel)

-- an upload cut after 4 of 5 mutating calls is invisible; the restart makes it visible and complete
example : (get (exec (some 4) (uploadScript codeUploadOrder 0 (exWorld 0)) []).bkt (0, metaName)) = none := by decide +kernel
example : Visible (exec none (uploadScript codeUploadOrder 0 (exWorld 0))
    (exec (some 4) (uploadScript codeUploadOrder 0 (exWorld 0)) []).bkt).bkt 0 := by decide +kernel
-- a Delete of a marked block cut after the meta and two files: mark still there, other files too
example :
    let s0 := (exec none (markScript (exec none (uploadScript codeUploadOrder 0 (exWorld 0)) []).bkt 0 markName 0)
                (exec none (uploadScript codeUploadOrder 0 (exWorld 0)) []).bkt).bkt
    let s1 := (exec (some 3) (deleteScript codeDeleteOrder s0 0) s0).bkt
    (get s1 (0, markName)).isSome = true ∧ (get s1 (0, "chunks/000003")).isSome = true ∧ get s1 (0, metaName) = none := by
  decide +kernel

end Thanos.Bucket
