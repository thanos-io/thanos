import Thanos.Model.Prune
import Thanos.Lemmas.Prune
import Thanos.Generated.Facts
/-
  C05 — Store pruning never skips a store that holds matching data.

  The model (`Model/Prune.lean`) transliterates `storeMatches`, `LabelSetsMatch`,
  `matchesExternalLabels`, `matchingStores` and the head of `ProxyStore.Series`.  A store serves
  `extend raw e` for its raw series `raw` and one of its advertised label sets `e`
  (`ExtendSortedLabels`: external labels override); a series is selected when every matcher accepts
  `get lbls name` ("" for an absent label) and one sample lies in the query range.
  All theorems are for every matcher list (every regex acceptance predicate), every number of
  label sets / stores / series.
  Three levels: one store (`C05_sound`: skipped by labels or by time ⇒ it holds no selected series);
  the head of `ProxyStore.Series` over all stores, with the proxy's own external-label check
  (`matchesExternalLabels_sound`, `C05_series_sound`); and the same with a TSDB selector
  (`--selector.relabel-config`), where the forwarded matchers are extended by those generated for
  the selected label sets (`C05_selector_sound`).
  What they take from the model alone is in `Lemmas/Prune.lean`.
-/
namespace Thanos.Prune

/-- the advertised time range bounds the store's data — the store's side of the contract
    (checked by the harness on the generated stores) -/
def Contract (c : Client) (raw : List Series) : Prop :=
  ∀ s ∈ raw, ∀ t ∈ s.ts, c.mint ≤ t ∧ t ≤ c.maxt

/-- If `LabelSetsMatch` says no, then no series served under any of the advertised label sets is
    selected by the matchers — including empty-value and negative matchers, for any raw labels. -/
theorem C05_sound_labels (ms : List Matcher) (sets : List Labels)
    (h : labelSetsMatch ms sets = false) :
    ∀ e ∈ sets, WF e → ∀ raw : Labels, matchAll ms (extend raw e) = false := by
  intro e he wf raw
  simp only [labelSetsMatch, Bool.or_eq_false_iff, List.any_eq_false] at h
  exact matchAll_of_rejects (by simpa using h.2 e he) wf raw

/-- A store that advertises no label set is never skipped because of labels. -/
theorem C05_no_labels (dbg : List (List Matcher)) (c : Client) (mint maxt : Int) (ms : List Matcher)
    (h : c.extSets = []) : storeMatches dbg c mint maxt ms ≠ .extlabels := by
  intro he
  have := (storeMatches_skip dbg c mint maxt ms).2 he
  simp [labelSetsMatch, h] at this

/-- The converse direction that keeps pruning honest: a label set that no matcher rejects is never
    pruned (so `LabelSetsMatch = false` means *every* set is rejected by some matcher). -/
theorem labelSetsMatch_of_accepting (ms : List Matcher) (sets : List Labels) (e : Labels)
    (he : e ∈ sets) (h : lsetRejects ms e = false) : labelSetsMatch ms sets = true := by
  simp only [labelSetsMatch, Bool.or_eq_true, List.any_eq_true]
  exact Or.inr ⟨e, he, by simp [h]⟩

/-- A store whose advertised time range misses the query range, and bounds its samples, has no sample
    in the query range. -/
theorem C05_sound_time (c : Client) (mint maxt : Int) (ts : List Int)
    (hq : mint > c.maxt ∨ maxt < c.mint) (hc : ∀ t ∈ ts, c.mint ≤ t ∧ t ≤ c.maxt) :
    ts.any (fun t => decide (mint ≤ t) && decide (t ≤ maxt)) = false := by
  simp only [List.any_eq_false, Bool.and_eq_true, decide_eq_true_eq, not_and]
  intro t ht h1
  have := hc t ht
  omega

/-- **C05.** A store that `storeMatches` skips because of its advertised time range or its external
    labels serves no series that the query selects. -/
theorem C05_sound (dbg : List (List Matcher)) (c : Client) (mint maxt : Int) (ms : List Matcher)
    (raw : List Series)
    (hskip : storeMatches dbg c mint maxt ms = .time ∨ storeMatches dbg c mint maxt ms = .extlabels)
    (wf : ∀ e ∈ c.extSets, WF e) (hc : Contract c raw) :
    ∀ s ∈ served c raw, selects ms mint maxt s = false := by
  intro s hs
  have hsk := storeMatches_skip dbg c mint maxt ms
  rcases hskip with hskip | hskip
  · -- a served series has the time stamps of a raw one
    have hts : ∀ t ∈ s.ts, c.mint ≤ t ∧ t ≤ c.maxt := by
      rcases mem_served.mp hs with ⟨_, hr⟩ | ⟨e, _, r, hr, rfl⟩ <;> exact (hc _ hr :)
    simp [selects, C05_sound_time c mint maxt s.ts (hsk.1.mp hskip) hts]
  · rcases mem_served.mp hs with ⟨h0, _⟩ | ⟨e, he, r, _, rfl⟩
    · exact absurd hskip (C05_no_labels dbg c mint maxt ms h0)
    · simp [selects, C05_sound_labels ms c.extSets (hsk.2 hskip) e he (wf e he) r.lbls]

/-- `matchesExternalLabels` against labels that every series of the component carries:
    "no match" is only answered when no such series is selected, and the matchers that are
    dropped do not change which of those series are selected. -/
theorem matchesExternalLabels_sound (ms : List Matcher) (sel ls : Labels) (hcar : Carries ls sel) :
    (matchesExternalLabels ms sel = none → matchAll ms ls = false) ∧
    (∀ kept, matchesExternalLabels ms sel = some kept → matchAll kept ls = matchAll ms ls) := by
  unfold matchesExternalLabels
  split
  · simp
  · exact extLoop_sound sel ls hcar ms

/-- a reason to skip a store that is outside C05 (debug store matchers, the store's own filter) -/
def otherReason (r : Reason) : Prop := r = .localStore ∨ r = .addr ∨ r = .filter

theorem kept_of_selected (sel : Labels) (mint maxt : Int) (ms : List Matcher) (s : Series)
    (hcar : Carries s.lbls sel) (hsel : selects ms mint maxt s = true) :
    ∃ kept, matchesExternalLabels ms sel = some kept ∧ selects kept mint maxt s = true := by
  have hme := matchesExternalLabels_sound ms sel s.lbls hcar
  simp only [selects, Bool.and_eq_true] at hsel ⊢
  cases hk : matchesExternalLabels ms sel with
  | none => rw [hme.1 hk] at hsel; exact absurd hsel.1 Bool.false_ne_true
  | some kept => exact ⟨kept, rfl, by rw [hme.2 kept hk]; exact hsel.1, hsel.2⟩

theorem storeMatches_of_selected (dbg : List (List Matcher)) (c : Client) (mint maxt : Int) (ms : List Matcher)
    (raw : List Series) (s : Series) (wf : ∀ e ∈ c.extSets, WF e) (hc : Contract c raw)
    (hs : s ∈ served c raw) (hsel : selects ms mint maxt s = true) :
    storeMatches dbg c mint maxt ms = .ok ∨ otherReason (storeMatches dbg c mint maxt ms) := by
  have hno := fun h => Bool.false_ne_true ((C05_sound dbg c mint maxt ms raw h wf hc s hs).symm.trans hsel)
  cases hr : storeMatches dbg c mint maxt ms
  case time => exact (hno (Or.inl hr)).elim
  case extlabels => exact (hno (Or.inr hr)).elim
  all_goals simp [otherReason]

/-- **C05, end to end.**  Whatever `ProxyStore.Series` decides: a store holding a series that
    carries the proxy's selector labels and is selected by the request's matchers within the
    requested time range is sent the request (with matchers that still select that series), unless
    it was excluded by the debug store matchers or its own filter, or the request was rejected as a
    whole (no matcher left / no store at all with partial response disabled). -/
theorem C05_series_sound (sel : Labels) (abort : Bool) (dbg : List (List Matcher))
    (cs : List Client) (mint maxt : Int) (ms : List Matcher)
    (i : Nat) (c : Client) (raw : List Series) (s : Series)
    (hi : cs[i]? = some c) (wf : ∀ e ∈ c.extSets, WF e) (hc : Contract c raw)
    (hs : s ∈ served c raw) (hcar : Carries s.lbls sel) (hsel : selects ms mint maxt s = true) :
    match seriesDecision sel abort dbg cs mint maxt ms with
    | .nomatch => False
    | .invalid => True
    | .unavailable => True
    | .queried idx kept =>
        (i ∈ idx ∨ otherReason (storeMatches dbg c mint maxt kept)) ∧ selects kept mint maxt s = true := by
  obtain ⟨kept, hk, hkept⟩ := kept_of_selected sel mint maxt ms s hcar hsel
  rcases seriesDecision_of_kept hk abort dbg cs mint maxt with h | h | h <;> rw [h]
  · exact True.intro
  · exact True.intro
  · exact ⟨(storeMatches_of_selected dbg c mint maxt kept raw s wf hc hs hkept).imp_left
      (fun hr => mem_matchingStores.mpr ⟨c, hi, hr⟩), hkept⟩

/-! ### with a TSDB selector (`--selector.relabel-config`): `TSDBSelector`, the union of the matched
  label sets in `matchingStores`, `MatchersForLabelSets` -/

/-- **C05 with a TSDB selector, end to end.**  A store holding a series that is served under a label
    set the selector keeps, carries the proxy's selector labels and is selected by the request within
    the requested time range is sent the request — with the request's forwarded matchers *and* the
    matchers generated for the union of the selected label sets still selecting that series — unless it
    was excluded by the debug store matchers or its own filter (or the request was rejected as a whole).
    `hclash`: the series has no label of its own under an external-label name its label set lacks
    (external label names are a namespace of their own). -/
theorem C05_selector_sound (sel : Selector) (selLabels : Labels) (abort : Bool) (dbg : List (List Matcher))
    (cs : List Client) (mint maxt : Int) (ms : List Matcher)
    (i : Nat) (c : Client) (raw : List Series) (r : Series) (e : Labels)
    (hi : cs[i]? = some c) (wf : ∀ e ∈ c.extSets, WF e) (hc : Contract c raw) (hr : r ∈ raw)
    (he : e ∈ c.extSets) (hkeep : sel.isNil = true ∨ sel.keep e = true)
    (hcar : Carries (extend r.lbls e) selLabels)
    (hsel : selects ms mint maxt { r with lbls := extend r.lbls e } = true)
    (hclash : ∀ n ∈ labelNames (cs.flatMap (·.extSets)), has e n = false → get (extend r.lbls e) n = "") :
    match seriesDecisionSel sel selLabels abort dbg cs mint maxt ms with
    | .nomatch => False
    | .invalid => True
    | .unavailable => True
    | .queried idx kept extra =>
        (i ∈ idx ∧ selects (kept ++ extra) mint maxt { r with lbls := extend r.lbls e } = true) ∨
        otherReason (storeMatches dbg c mint maxt kept) := by
  obtain ⟨kept, hk, hkept⟩ := kept_of_selected selLabels mint maxt ms _ hcar hsel
  rcases seriesDecisionSel_of_kept hk sel abort dbg cs mint maxt with h | h | h <;> rw [h]
  · exact True.intro
  · exact True.intro
  rw [selStores_eq]
  dsimp only
  refine (storeMatches_of_selected dbg c mint maxt kept raw _ wf hc
    (mem_served.mpr (Or.inr ⟨e, he, r, hr, rfl⟩)) hkept).imp_left (fun hr' => ?_)
  have htp : takesPart sel dbg mint maxt kept c = true := by
    simp [takesPart, (matchLabelSets_of_kept sel c.extSets e he hkeep).1, hr']
  refine ⟨List.mem_map.mpr ⟨(c, i), List.mem_filter.mpr ⟨List.mem_zipIdx_iff_getElem?.mpr hi, htp⟩, rfl⟩, ?_⟩
  simp only [selects, Bool.and_eq_true] at hkept ⊢
  refine ⟨?_, hkept.2⟩
  rw [matchAll_append, hkept.1, Bool.true_and]
  exact matchAll_selUnion sel cs _ c (List.mem_filter.mpr ⟨List.mem_of_getElem? hi, htp⟩) e he hkeep (wf e he) _ hclash

/-! ### regenerated facts: the conditions in the sources are the ones the model transliterates -/

/-- `storeMatches`: `if mint > c.maxt ∨ maxt < c.mint then .time` -/
theorem C05_fact_time : Thanos.Facts.pruneTimeCond = "mint > storeMaxTime || maxt < storeMinTime" := rfl
/-- `LabelSetsMatch`: `has ls m.name && !(m.matches (get ls m.name))` in `lsetRejects` -/
theorem C05_fact_label : Thanos.Facts.pruneLabelCond = "ls.Has(m.Name) && !m.Matches(lv)" := rfl
/-- `LabelSetsMatch`: `sets.isEmpty ||` -/
theorem C05_fact_empty : Thanos.Facts.pruneEmptySetsCond = "len(lset) == 0" := rfl
/-- `matchesExternalLabels`: `if ev = "" then keep` / `else if !(tm.matches ev) then none` in `extLoop` -/
theorem C05_fact_ext : Thanos.Facts.pruneExtAgnosticCond = "extValue == \"\"" ∧
    Thanos.Facts.pruneExtRejectCond = "!tm.Matches(extValue)" := ⟨rfl, rfl⟩

/-- TSDB selector: `MatchLabelSets` has the single early return of `matchLabelSets`, every matched
    label set of a selected store enters the union (`selStores`), values are quoted (`selMatcher`) -/
theorem C05_fact_selector :
    Thanos.Facts.selMatchLabelSetsConds = ["sr.relabelConfig == nil || len(labelSets) == 0"] ∧
    Thanos.Facts.selValueInsert = ["labelNameValues[l.Name][regexp.QuoteMeta(l.Value)] = struct{}{}"] ∧
    Thanos.Facts.selUnionAppend = ["storeLabelSets = append(storeLabelSets, extraMatchers...)"] := ⟨rfl, rfl, rfl⟩

/-! ### non-vacuity: concrete stores, matchers and decisions -/

private def mEq (n v : String) : Matcher := { ty := .eq, name := n, value := v, acc := fun _ => false }
private def mNeq (n v : String) : Matcher := { ty := .neq, name := n, value := v, acc := fun _ => false }
private def mRe (n : String) (acc : String → Bool) : Matcher := { ty := .re, name := n, value := "", acc := acc }

private def stA : Client :=
  { mint := 0, maxt := 100, filterOK := true, isLocal := false, addr := "s0",
    extSets := [[("cluster", "eu"), ("replica", "r1")], [("cluster", "us")]] }

-- skipped because of labels: both label sets are rejected (hypotheses of `C05_sound_labels` are met) …
example : labelSetsMatch [mEq "cluster" "ap"] stA.extSets = false := by decide
example : storeMatches [] stA 10 20 [mEq "cluster" "ap"] = .extlabels := by decide
-- … skipped because of time …
example : storeMatches [] stA 101 200 [mEq "cluster" "eu"] = .time := by decide
-- … and not skipped: empty-value and negative matchers on labels the store does not advertise
example : storeMatches [] stA 10 20 [mEq "job" "", mNeq "cluster" "us", mRe "replica" (fun v => v = "r1" ∨ v = "")] = .ok := by decide +kernel
-- a served series really is the raw series with the external labels overriding
example : get (extend [("cluster", "raw"), ("job", "api")] [("cluster", "eu"), ("replica", "r1")]) "cluster" = "eu" := by decide
example : ∀ e ∈ stA.extSets, WF e := by
  intro e he; simp [stA] at he; rcases he with rfl | rfl <;> simp [WF]
-- selector labels: a matcher on a selector label is validated and dropped
example : (matchesExternalLabels [mEq "region" "x", mEq "job" "api"] [("region", "x")]).map (·.length) = some 1 := by decide
example : (matchesExternalLabels [mEq "region" "y", mEq "job" "api"] [("region", "x")]).isNone = true := by decide
-- end to end: store 1 is skipped by time, store 0 is asked
example : (match seriesDecision [] true [] [stA, { stA with mint := 500, maxt := 600 }] 10 20 [mEq "cluster" "eu"] with
    | .queried idx _ => idx | _ => [99]) = [0] := by decide

-- TSDB selector: store 0 = {tenant="a+b"} fully kept, store 1 = {tenant="b1"} kept / {tenant="b2"} dropped:
-- both are asked, with tenant=~"a\\+b|b1" (quoted) — the situation `C05_selector_sound` is about
private def selEx : Selector := { isNil := false, keep := fun ls => !(get ls "tenant" = "b2") }
private def stT (vs : List String) : Client :=
  { mint := 0, maxt := 100, filterOK := true, isLocal := false, addr := "s", extSets := vs.map (fun v => [("tenant", v)]) }
example : (match seriesDecisionSel selEx [] false [] [stT ["a+b"], stT ["b1", "b2"]] 0 50 [mEq "job" "x"] with
    | .queried idx _ extra => (idx, extra.map (fun m => (m.name, m.value))) | _ => ([], [])) = ([0, 1], [("tenant", "a\\+b|b1")]) := by decide +kernel
example : (selMatcher [[("tenant", "a+b")], [("tenant", "b1")]] "tenant").matches "a+b" = true := by decide

end Thanos.Prune
