import Thanos.Model.Merge
import Thanos.Lemmas.Chain
import Thanos.Lemmas.Proxy
import Thanos.Lemmas.ProxyAnswer
import Thanos.Lemmas.LoserTreeFrames
import Thanos.Generated.Facts
/-
  C06 — Partial-response strategy is honoured under store failures.

  Model: `proxySeriesWith merge` of `Model/Merge.lean` — the fan-out loop (a failing `Series()` call:
  warning + continue, or return the error), the receivers (a failing / timed-out `Recv` becomes a
  warning frame at that point of the stream), the k-way merge (parameter), the response
  deduplicator, the response loop (`Aborted` on a warning under the abort strategy) and the batching
  server.  A store is its scripted frame list plus its failure point: `openErr`, `recvErr k`
  (the Recv after k delivered frames fails), `hang k` (… never returns; the frame timeout cancels it).

  The theorems hold for every `merge` that neither loses nor invents responses (`MergeMem`) — all
  they need of the loser tree, which has it (`losertree_refines`, `Lemmas/LoserTreeFrames.lean`; `C06_*_tree` below) —
  for any number of stores, any subset failing at any point, lazy and eager retrieval, any batch
  size, with and without deduplication, sharded or not.  `Limit = 0` (a limit may legitimately cut
  the stream before the failure is seen).

  After the proxy theorems (`C06_abort`, `C06_warn_*`): which errors of a failing `Recv` count as a failure
  (`C06_errkind`, `C06_errorsIs_false`), and the same two strategies as the user of the Query API sees them, at
  `querier.selectFn` (`C06_querier_*`, `C06_errkind_querier`, `C06_querier_fastpath_false`).
-/
namespace Thanos.Merge

/-- the store fails while it is being read: its scripted failure point lies within (or right at
    the end of) its stream -/
def FailsInStream (st : Store) : Prop :=
  (∃ k, st.failure = .recvErr k ∧ k ≤ st.frames.length) ∨ (∃ k, st.failure = .hang k ∧ k ≤ st.frames.length)

/-- the warning a store that fails in its stream is reported with -/
def failureMsg (st : Store) : Bytes :=
  match st.failure with
  | .hang _ => st.timeoutMsg
  | _ => st.recvMsg

/-- a failure inside the stream becomes a warning response of that store, whatever the retrieval
    strategy (lazy / eager / eager with re-sort) -/
theorem failure_reaches_merge (lazy sharded : Bool) (without : List Bytes) (st : Store)
    (h : FailsInStream st) : .warning (failureMsg st) ∈ respSet lazy sharded without st := by
  rw [mem_respSet_nonSeries _ _ _ st rfl]
  rcases h with ⟨k, hf, hk⟩ | ⟨k, hf, hk⟩
  · exact recvLoop_fail _ st (k := k) (fun j => by simp [failAt_recvErr hf, failureMsg, hf]) st.frames 0 (Nat.zero_le _) (by omega)
  · exact recvLoop_fail _ st (k := k) (fun j => by simp [failAt_hang hf, failureMsg, hf]) st.frames 0 (Nat.zero_le _) (by omega)

/-- **C06, abort.**  If a queried store fails — its `Series()` call, or a `Recv` at any point of
    its stream, or by timing out — a request with the abort strategy does not succeed.  A failure in the
    stream counts when its warning has a text (`failureMsg st ≠ []`): the response loop tests
    `resp.GetWarning() != ""`. -/
theorem C06_abort (merge : List (List Frame) → List Frame) (hm : MergeMem merge)
    (rq : Request) (stores : List Store) (hab : rq.abort = true) (hlim : rq.limit = 0)
    (st : Store) (hst : st ∈ stores)
    (hfail : st.openErr = true ∨ (FailsInStream st ∧ failureMsg st ≠ [])) :
    (proxySeriesWith merge rq stores).2 ≠ .ok := by
  have h := proxy_eq merge rq stores hlim
  -- `st` does not open, or it fails in its stream and its warning is among the responses read
  cases ho : st.openErr with
  | true => rwa [hab, List.any_eq_true.mpr ⟨st, hst, ho⟩, if_pos (by simp)] at h
  | false =>
    obtain ⟨hfs, hne⟩ := hfail.resolve_left (ho ▸ Bool.false_ne_true)
    have hw := (mem_respsOf_nonSeries hm (rq := rq) rfl).mpr ⟨st, hst, ho, failure_reaches_merge _ _ _ st hfs⟩
    rwa [hab, List.any_eq_true.mpr ⟨_, hw, isTextWarning_warning hne⟩, if_pos (by simp)] at h

/-- **C06, warn: the call succeeds** — whatever fails. -/
theorem C06_warn_ok (merge : List (List Frame) → List Frame) (rq : Request) (stores : List Store)
    (hab : rq.abort = false) (hlim : rq.limit = 0) :
    (proxySeriesWith merge rq stores).2 = .ok :=
  congrArg Prod.snd (proxy_warn merge rq stores hab hlim)

/-- **C06, warn: every failed store is reported.**  A store whose `Series()` call fails is
    reported with its open warning, a store that fails inside its stream with its receive /
    timeout warning — in the answer the client gets. -/
theorem C06_warn_reported (merge : List (List Frame) → List Frame) (hm : MergeMem merge)
    (rq : Request) (stores : List Store) (hab : rq.abort = false) (hlim : rq.limit = 0)
    (st : Store) (hst : st ∈ stores) :
    (st.openErr = true → .warning st.openMsg ∈ (proxySeriesWith merge rq stores).1) ∧
    (st.openErr = false → FailsInStream st → .warning (failureMsg st) ∈ (proxySeriesWith merge rq stores).1) := by
  rw [proxy_warn merge rq stores hab hlim]
  constructor
  · intro ho
    exact mem_serverOut_nonSeries rfl
      (List.mem_append_left _ (List.mem_map.mpr ⟨st, List.mem_filter.mpr ⟨hst, ho⟩, rfl⟩))
  · intro ho hfs
    exact mem_serverOut_nonSeries rfl (List.mem_append_right _
      ((mem_respsOf_nonSeries hm rfl).mpr ⟨st, hst, ho, failure_reaches_merge _ _ _ st hfs⟩))

/-- **C06, warn: nothing a store delivered is lost.**  Every series response that reaches the
    merge from any store that opened (in particular from every store that did not fail; and from a
    failing store, everything it sent before failing) is in the answer: with deduplication as part
    of a merged series that compares equal in labels and — when the chunk keys tell the chunks of
    that label set apart — carries each of its chunks; without deduplication verbatim. -/
theorem C06_warn_complete (merge : List (List Frame) → List Frame) (hm : MergeMem merge)
    (rq : Request) (stores : List Store) (hab : rq.abort = false) (hlim : rq.limit = 0)
    (st : Store) (hst : st ∈ stores) (ho : st.openErr = false)
    (s : Series) (hs : .series s ∈ respSet rq.lazy rq.sharded rq.without st) :
    if rq.dedup then
      ∃ f r, chain rq.fixedDedup f r ∈ flatten (proxySeriesWith merge rq stores).1 ∧ s ∈ f :: r ∧
        (∀ x ∈ r, cmpLabels f.lbls x.lbls = .eq) ∧
        (rq.fixedDedup = true → KeyInj ((f :: r).flatMap (·.chunks)) → Populated ((f :: r).flatMap (·.chunks)) →
          ∀ c ∈ s.chunks, c ∈ (chain rq.fixedDedup f r).chunks)
    else s ∈ flatten (proxySeriesWith merge rq stores).1 := by
  have hsm := (delivered_iff hm).mpr ⟨st, hst, ho, hs⟩
  rw [flatten_proxy_warn merge hm rq stores hab hlim, answerOf, respsOf]
  cases hd : rq.dedup with
  | false => exact hsm
  | true =>
    rw [if_pos rfl, if_pos rfl, seriesOf_dedup]
    obtain ⟨p, hp, hsp⟩ := mem_runs_join.mp hsm
    refine ⟨p.1, p.2, List.mem_map.mpr ⟨p, hp, rfl⟩, hsp, runs_labelEq _ none (by simp) p hp, ?_⟩
    intro hfix hinj hpop c hc
    rw [hfix]
    -- `chain_of_keyed` on the run, not `exactOf_proxy`: the statement is also about the unrepaired deduplicator
    -- and about `dedup = false`, and asks the keys to tell apart the chunks of this run only
    exact ((chain_of_keyed true keyOf p.1 p.2 (dedupMap_fixed _) hinj hpop).2.1 c).mpr (List.mem_flatMap.mpr ⟨s, hsp, hc⟩)

/-! ### the same for the merge the proxy really uses (`losertree_refines`) -/

theorem C06_abort_tree (rq : Request) (stores : List Store) (hab : rq.abort = true) (hlim : rq.limit = 0)
    (st : Store) (hst : st ∈ stores)
    (hfail : st.openErr = true ∨ (FailsInStream st ∧ failureMsg st ≠ [])) :
    (proxySeries rq stores).2 ≠ .ok :=
  C06_abort treeMerge (mergeMem_of_spec losertree_refines) rq stores hab hlim st hst hfail

theorem C06_warn_tree (rq : Request) (stores : List Store) (hab : rq.abort = false) (hlim : rq.limit = 0)
    (st : Store) (hst : st ∈ stores) :
    (proxySeries rq stores).2 = .ok ∧
    (st.openErr = true → .warning st.openMsg ∈ (proxySeries rq stores).1) ∧
    (st.openErr = false → FailsInStream st → .warning (failureMsg st) ∈ (proxySeries rq stores).1) :=
  ⟨C06_warn_ok treeMerge rq stores hab hlim,
   C06_warn_reported treeMerge (mergeMem_of_spec losertree_refines) rq stores hab hlim st hst⟩

/-! ### which errors end a stream: the error-kind dimension

  A failing `Recv` returns an error value; the receivers end the stream cleanly iff that value *is*
  io.EOF (`isEnd`, fact `recvEndOfStreamTests`).  Every other error — plain, gRPC status, context
  deadline, io.ErrUnexpectedEOF, an error that wraps io.EOF or claims `Is(io.EOF)` — is a failure and
  is reported / aborts.  `Store.seen` applies the test; the driver runs `proxySeriesSeen` /
  `selectFnSeen`. -/

/-- the store's scripted Recv failure is not io.EOF itself -/
def NotEnd (st : Store) : Prop := ∀ k, st.failure = .recvErr k → isEnd st.recvError = false

theorem seen_of_notEnd (st : Store) (h : NotEnd st) : st.seen = st := by
  unfold Store.seen Store.seenWith
  split
  · next k hf => simp [h k hf]
  · rfl

/-- in particular: an error that only has io.EOF in its chain (`%w`, custom `Is`) is not the end -/
theorem notEnd_of_not_identical (st : Store) (h : st.recvError.isEOF = false) : NotEnd st := fun _ _ => h

/-- **C06 over all error kinds.**  Whatever error value the failing call returns, as long as a
    failing Recv does not return io.EOF itself: abort ⇒ the request fails, warn ⇒ it succeeds and
    the store's warning is in the answer. -/
theorem C06_errkind (rq : Request) (stores : List Store) (hlim : rq.limit = 0) (st : Store) (hst : st ∈ stores)
    (hne : NotEnd st) :
    (rq.abort = true → (st.openErr = true ∨ (FailsInStream st ∧ failureMsg st ≠ [])) →
      (proxySeriesSeen rq stores).2 ≠ .ok) ∧
    (rq.abort = false →
      (proxySeriesSeen rq stores).2 = .ok ∧
      (st.openErr = true → .warning st.openMsg ∈ (proxySeriesSeen rq stores).1) ∧
      (st.openErr = false → FailsInStream st → .warning (failureMsg st) ∈ (proxySeriesSeen rq stores).1)) := by
  have hmem : st ∈ stores.map Store.seen := List.mem_map.2 ⟨st, hst, seen_of_notEnd st hne⟩
  exact ⟨fun hab hf => C06_abort_tree rq _ hab hlim st hmem hf, fun hab => C06_warn_tree rq _ hab hlim st hmem⟩

/-- Why the end test must be identity: with `errors.Is(err, io.EOF)` as the test
    (`seenWith (·.chainEOF)`), a store whose second Recv fails with an error wrapping io.EOF is taken
    for complete — an abort request succeeds on truncated data. -/
theorem C06_errorsIs_false :
    ¬ (∀ (rq : Request) (stores : List Store) (st : Store), rq.abort = true → rq.limit = 0 → st ∈ stores →
        FailsInStream st → failureMsg st ≠ [] → st.recvError.isEOF = false →
        (proxySeries rq (stores.map (Store.seenWith (·.chainEOF)))).2 ≠ .ok) := by
  intro h
  let st : Store :=
    { supportsSharding := true, supportsWithout := true, openErr := false, failure := .recvErr 1,
      frames := [(.series ⟨[([98], [1])], []⟩, true), (.series ⟨[([98], [2])], []⟩, true)],
      recvMsg := [114], timeoutMsg := [116], openMsg := [111], recvError := { isEOF := false, chainEOF := true } }
  have := h { fixedDedup := true, lazy := true, batchSize := 0, limit := 0, abort := true, dedup := true, sharded := false, without := [] }
    [st] st rfl rfl List.mem_cons_self (Or.inl ⟨1, rfl, by decide⟩) (by decide) rfl
  revert this
  decide

/-- the end test in the sources: both receivers compare the error with io.EOF by identity, and
    nowhere else is a Recv error tested against io.EOF -/
theorem C06_fact_end_test :
    Thanos.Facts.recvEndOfStreamTests = ["lazy:err == io.EOF", "eager:err == io.EOF"] := rfl

/-! ### one level up: the querier (`querier.selectFn`) — what the user of the Query API sees -/

theorem mem_collect_warning (fs : List Frame) (m : Bytes) (hm : m ≠ []) (h : Frame.warning m ∈ fs) :
    m ∈ (collectAnswer fs).2 := by
  cases m with
  | nil => exact absurd rfl hm
  | cons a r => exact List.mem_filterMap.mpr ⟨_, h, rfl⟩

/-- **C06 at the querier, warn strategy.**  Whatever fails — including when *every* store fails or
    the healthy ones return nothing, so that the merged result has no series at all — `Select`
    succeeds and its annotations contain the warning of each failed store, if it has a text (`openMsg ≠ []`,
    `failureMsg st ≠ []`: the series server keeps a warning only when `r.GetWarning() != ""`). -/
theorem C06_querier_warn (merge : List (List Frame) → List Frame) (hm : MergeMem merge)
    (rq : Request) (stores : List Store) (hab : rq.abort = false) (hlim : rq.limit = 0)
    (st : Store) (hst : st ∈ stores) :
    (selectFnWith false merge rq stores).failed = false ∧
    (st.openErr = true → st.openMsg ≠ [] → st.openMsg ∈ (selectFnWith false merge rq stores).warnings) ∧
    (st.openErr = false → FailsInStream st → failureMsg st ≠ [] →
      failureMsg st ∈ (selectFnWith false merge rq stores).warnings) := by
  have hrep := C06_warn_reported merge hm rq stores hab hlim st hst
  unfold selectFnWith
  rw [proxy_warn merge rq stores hab hlim] at hrep ⊢
  exact ⟨rfl, fun ho hne => mem_collect_warning _ _ hne (hrep.1 ho),
    fun ho hf hne => mem_collect_warning _ _ hne (hrep.2 ho hf)⟩

/-- **C06 at the querier, abort strategy.**  If a queried store fails, `Select` fails. -/
theorem C06_querier_abort (merge : List (List Frame) → List Frame) (hm : MergeMem merge)
    (rq : Request) (stores : List Store) (hab : rq.abort = true) (hlim : rq.limit = 0)
    (st : Store) (hst : st ∈ stores)
    (hfail : st.openErr = true ∨ (FailsInStream st ∧ failureMsg st ≠ [])) (d : Bool) :
    (selectFnWith d merge rq stores).failed = true := by
  have h := C06_abort merge hm rq stores hab hlim st hst hfail
  unfold selectFnWith
  split
  · next out heq => exact absurd (congrArg Prod.snd heq) h
  · rfl

/-- the same for the querier as it is (`selectFn` = no fast path, loser-tree merge) -/
theorem C06_querier_tree (rq : Request) (stores : List Store) (hlim : rq.limit = 0) (st : Store) (hst : st ∈ stores) :
    (rq.abort = false →
      (selectFn rq stores).failed = false ∧
      (st.openErr = true → st.openMsg ≠ [] → st.openMsg ∈ (selectFn rq stores).warnings) ∧
      (st.openErr = false → FailsInStream st → failureMsg st ≠ [] → failureMsg st ∈ (selectFn rq stores).warnings)) ∧
    (rq.abort = true → (st.openErr = true ∨ (FailsInStream st ∧ failureMsg st ≠ [])) →
      (selectFn rq stores).failed = true) :=
  ⟨fun hab => C06_querier_warn treeMerge (mergeMem_of_spec losertree_refines) rq stores hab hlim st hst,
   fun hab hf => C06_querier_abort treeMerge (mergeMem_of_spec losertree_refines) rq stores hab hlim st hst hf false⟩

/-- `C06_errkind` at the querier -/
theorem C06_errkind_querier (rq : Request) (stores : List Store) (hlim : rq.limit = 0) (st : Store) (hst : st ∈ stores)
    (hne : NotEnd st) :
    (rq.abort = false →
      (selectFnSeen rq stores).failed = false ∧
      (st.openErr = true → st.openMsg ≠ [] → st.openMsg ∈ (selectFnSeen rq stores).warnings) ∧
      (st.openErr = false → FailsInStream st → failureMsg st ≠ [] → failureMsg st ∈ (selectFnSeen rq stores).warnings)) ∧
    (rq.abort = true → (st.openErr = true ∨ (FailsInStream st ∧ failureMsg st ≠ [])) →
      (selectFnSeen rq stores).failed = true) :=
  C06_querier_tree rq _ hlim st (List.mem_map.2 ⟨st, hst, seen_of_notEnd st hne⟩)

/-- Why "the warnings are read on every successful path" is an obligation: a variant of `selectFn`
    that returns an empty series set before reading them loses the warning of a store that fails
    before its first series (one store, Recv fails at once, warn strategy). -/
theorem C06_querier_fastpath_false :
    ¬ (∀ (rq : Request) (stores : List Store) (st : Store), rq.abort = false → rq.limit = 0 → st ∈ stores →
        st.openErr = false → FailsInStream st → failureMsg st ≠ [] →
        failureMsg st ∈ (selectFnWith true treeMerge rq stores).warnings) := by
  intro h
  let st : Store :=
    { supportsSharding := true, supportsWithout := true, openErr := false, failure := .recvErr 0, frames := [],
      recvMsg := [114], timeoutMsg := [116], openMsg := [111] }
  have := h { fixedDedup := true, lazy := true, batchSize := 0, limit := 0, abort := false, dedup := true, sharded := false, without := [] }
    [st] st rfl rfl List.mem_cons_self rfl (Or.inl ⟨0, rfl, Nat.le_refl _⟩) (by decide)
  revert this
  decide

/-- `selectFn` in the sources: the two successful returns both carry `warns` (directly, or through
    `set`, which is built with `warns`), and `warns` is the collected `resp.warnings` -/
theorem C06_fact_querier :
    Thanos.Facts.selectFnSuccessReturns =
      ["NewPromSeriesSet( newStoreSeriesSet(resp.seriesSet), q.mint, q.maxt, aggrs, warns, )",
       "dedup.NewSeriesSet(set, hints.Func, q.deduplicationFunc)"] ∧
    Thanos.Facts.selectFnWarns = ["warns := annotations.New().Merge(resp.warnings)",
       "set := NewPromSeriesSet( dedup.NewOverlapSplit(newStoreSeriesSet(resp.seriesSet)), q.mint, q.maxt, aggrs, warns, )"] ∧
    Thanos.Facts.seriesServerWarning = "r.GetWarning() != \"\"" := ⟨rfl, rfl, rfl⟩

/-! ### regenerated facts: the strategy tests in the sources -/

/-- the fan-out loop continues after a failing `Series()` call only under the warn strategy, and
    the response loop returns `Aborted` on a warning under the abort strategy (`fanOut`, `respLoop`) -/
theorem C06_fact_strategy :
    Thanos.Facts.proxyOpenErrContinueCond = "!r.PartialResponseDisabled && r.PartialResponseStrategy != storepb.PartialResponseStrategy_ABORT" ∧
    Thanos.Facts.proxyAbortOnWarningCond = "resp.GetWarning() != \"\" && (r.PartialResponseDisabled || r.PartialResponseStrategy == storepb.PartialResponseStrategy_ABORT)" := ⟨rfl, rfl⟩

/-- a failing `Recv` is turned into a warning response by both receivers (`failAt` in `recvLoop`) -/
theorem C06_fact_recv_warning :
    Thanos.Facts.recvErrorToWarning = ["lazy:l.rb.append(storepb.NewWarnSeriesResponse(rerr))", "eager:l.bufferedResponses = append(l.bufferedResponses, storepb.NewWarnSeriesResponse(rerr))"] := rfl

/-! ### non-vacuity -/

private def okStore (fs : List (Frame × Bool)) : Store :=
  { supportsSharding := true, supportsWithout := true, openErr := false, failure := .none, frames := fs,
    recvMsg := [114], timeoutMsg := [116], openMsg := [111] }
private def ser (b : Nat) : Frame := .series ⟨[([98], [b])], []⟩
private def rqW : Request := { fixedDedup := true, lazy := true, batchSize := 0, limit := 0, abort := false, dedup := true, sharded := false, without := [] }

-- the hypotheses of C06_abort / C06_warn_reported are met by concrete stores …
example : FailsInStream { okStore [(ser 1, true), (ser 2, true)] with failure := .recvErr 1 } := by
  left; exact ⟨1, rfl, by decide⟩
-- … and the model run shows what the theorems say: store 1 fails after one frame, store 2 at open
example : proxySeries rqW [okStore [(ser 1, true), (ser 3, true)],
      { okStore [(ser 2, true), (ser 4, true)] with failure := .recvErr 1 },
      { okStore [] with openErr := true }]
    = ([.warning [111], ser 1, .warning [114], ser 2, ser 3], .ok) := by decide +kernel
example : (proxySeries { rqW with abort := true } [okStore [(ser 1, true)],
      { okStore [(ser 2, true)] with failure := .hang 0 }]).2 = .aborted := by decide
example : (proxySeries { rqW with abort := true } [okStore [(ser 1, true)], { okStore [] with openErr := true }]).2
    = .openFailed := by decide

-- the querier level, zero-series case: both stores fail before their first series; the warn strategy
-- still succeeds with both warnings, the abort strategy fails
example : (selectFn rqW [{ okStore [(ser 1, true)] with failure := .recvErr 0 }, { okStore [] with openErr := true }]).warnings
    = [[111], [114]] := by decide
example : (selectFn rqW [{ okStore [(ser 1, true)] with failure := .recvErr 0 }, { okStore [] with openErr := true }]).series = [] := by decide
example : (selectFn { rqW with abort := true } [{ okStore [(ser 1, true)] with failure := .hang 0 }]).failed = true := by decide

-- error kinds: a Recv that returns io.EOF itself after one frame is a (short) healthy stream; an error
-- that merely wraps io.EOF is a failure like any other
example : (proxySeriesSeen rqW [{ okStore [(ser 1, true), (ser 2, true)] with failure := .recvErr 1, recvError := { isEOF := true, chainEOF := true } }])
    = proxySeries rqW [okStore [(ser 1, true)]] := by decide
example : (selectFnSeen rqW [{ okStore [(ser 1, true), (ser 2, true)] with failure := .recvErr 1, recvError := { isEOF := false, chainEOF := true } }]).warnings
    = [[114]] := by decide
example : (proxySeriesSeen { rqW with abort := true } [{ okStore [(ser 1, true), (ser 2, true)] with failure := .recvErr 1, recvError := { isEOF := false, chainEOF := true } }]).2
    = .aborted := by decide

end Thanos.Merge
