import Thanos.Model.MultiRing
import Thanos.Lemmas.MultiRing
import Thanos.Generated.Facts
/-
  C27 — Tenants are routed to the hashring their configuration selects.

  `route` transliterates the loop of `multiHashring.GetN` over the tenant sets, `getN`/`getNSeq`
  add the cache.  `filepath.Match` results are inputs (`Cfg.glob`), so every theorem holds for
  whatever the library answers.  Hypothesis of the routing theorems: no malformed glob pattern
  (`WellFormed`); with a malformed pattern next to a matching one in the same set the Go map
  iteration order decides between an error and a match (`Route.ringOrErr`, theorem
  `C27_malformed_ambiguous`) — recorded by the harness' malformed stream, not claimed.
  `Accepts`, `WellFormed` and the cache invariant `Sound` are defined in Lemmas/MultiRing.lean: the routing theorems
  read `routeFrom_eq` there, the cache theorems are `Sound` at the empty cache.
-/
namespace Thanos.MultiRing

/-- The second disjunct of `Accepts` in terms of the configuration: an exact member, or a glob pattern says yes and none
    is malformed.  Not used by the theorems below. -/
theorem setMatch_yes_iff (c : Cfg) (tenant : String) :
    setMatch c tenant = .yes ↔
      (c.typ = .exact ∧ tenant ∈ c.tenants) ∨ (c.typ = .glob ∧ GlobRes.yes ∈ c.glob ∧ GlobRes.bad ∉ c.glob) := by
  unfold setMatch
  cases h : c.typ with
  | exact => by_cases hm : tenant ∈ c.tenants <;> simp [hm]
  | glob =>
    simp only [globSet]
    by_cases hb : GlobRes.bad ∈ c.glob <;> by_cases hy : GlobRes.yes ∈ c.glob <;> simp [hb, hy]
  | other => simp

/-- **C27, first match.**  With well-formed patterns the tenant is routed to hashring `i` iff
    configuration `i` accepts it and no earlier configuration does. -/
theorem C27_first_match (tenant : String) (cfgs : List Cfg) (i : Nat) (wf : WellFormed cfgs) :
    route tenant cfgs = .ring i ↔
      (∃ c, cfgs[i]? = some c ∧ Accepts c tenant) ∧
        ∀ j, j < i → ∀ c, cfgs[j]? = some c → ¬ Accepts c tenant := by
  rw [← findIdx?_decide_eq_some_iff, route, routeFrom_eq tenant cfgs 0 wf]
  cases cfgs.findIdx? fun c => decide (Accepts c tenant) with
  | none => exact ⟨nofun, nofun⟩
  | some j => dsimp only; rw [Nat.zero_add, Route.ring.injEq, Option.some.injEq]

/-- With well-formed patterns routing never errs: a hashring, or "no matching hashring" exactly
    when no configuration accepts the tenant. -/
theorem C27_total (tenant : String) (cfgs : List Cfg) (wf : WellFormed cfgs) :
    (∃ i, route tenant cfgs = .ring i) ∨ (route tenant cfgs = .none ∧ ∀ c ∈ cfgs, ¬ Accepts c tenant) := by
  rw [route, routeFrom_eq tenant cfgs 0 wf]
  cases h : cfgs.findIdx? fun c => decide (Accepts c tenant) with
  | some j => exact Or.inl ⟨_, rfl⟩
  | none => exact Or.inr ⟨rfl, fun c hc => of_decide_eq_false (List.findIdx?_eq_none_iff.mp h c hc)⟩

/-- **C27, default fallback.**  A hashring without tenant list serves every tenant that no
    earlier configuration accepts. -/
theorem C27_default_fallback (tenant : String) (cfgs : List Cfg) (i : Nat) (c : Cfg)
    (wf : WellFormed cfgs) (hget : cfgs[i]? = some c) (hdef : c.tenants = [])
    (hearlier : ∀ j, j < i → ∀ c', cfgs[j]? = some c' → ¬ Accepts c' tenant) :
    route tenant cfgs = .ring i :=
  (C27_first_match tenant cfgs i wf).mpr ⟨⟨c, hget, Or.inl hdef⟩, hearlier⟩

/-- **C27, cache transparency.**  For every history of requests on a fresh multi hashring, each
    answer (first, repeated, after other tenants) is the uncached routing decision. -/
theorem C27_cache_transparent (view : String → List Cfg) (ts : List String) :
    getNSeq view [] ts = ts.map (fun t => route t (view t)) :=
  getNSeq_eq view ts [] (sound_nil view)

/-- **C27 with replica indices.**  For every history of `(tenant, n)` requests on a fresh multi
    hashring, each answer is the answer of the hashring that routing selects for the tenant —
    independent of `n`, of earlier requests and of earlier failures: an out-of-range replica index
    gets the selected hashring's error, never a node of a later matching hashring. -/
theorem C27_selected_ring_answers (view : String → List Cfg) (sizes : List Nat) (reqs : List (String × Nat)) :
    getNSeqN view sizes [] reqs = reqs.map (fun r => answer sizes r.2 (route r.1 (view r.1))) :=
  getNSeqN_eq view sizes reqs [] (sound_nil view)

/-- **C27, first match, restated with errors.**  With well-formed patterns: hashring `i` answers
    the request — with a node or with its own "insufficient nodes" error — iff configuration `i`
    accepts the tenant and no earlier configuration does. -/
theorem C27_first_match_errors (tenant : String) (cfgs : List Cfg) (sizes : List Nat) (n i : Nat)
    (wf : WellFormed cfgs) (hi : i < sizes.length) :
    (answer sizes n (route tenant cfgs) = .served i ∨ ∃ s, answer sizes n (route tenant cfgs) = .insufficient i s) ↔
      (∃ c, cfgs[i]? = some c ∧ Accepts c tenant) ∧
        ∀ j, j < i → ∀ c, cfgs[j]? = some c → ¬ Accepts c tenant :=
  (answer_by_iff hi _).trans (C27_first_match tenant cfgs i wf)

/-
  Concurrent requests.  `GetN` reads the cache under the read lock, and on a miss routes without any lock and then
  stores under the write lock.  A schedule of several goroutines is a sequence of these two
  kinds of atomic steps in any order; a `store` step for tenant `t` is only ever performed by a
  goroutine that routed `t` itself.
-/

inductive Step where
  | read (tenant : String)    -- RLock; h, ok := cache[tenant]; RUnlock  — answers on a hit
  | store (tenant : String)   -- Lock; cache[tenant] = hashrings[route tenant]; Unlock
  deriving Repr

/-- the store step of a goroutine that routed `tenant` itself: nothing is stored when routing selects no hashring -/
def applyStore (view : String → List Cfg) (cache : Cache) (tenant : String) : Cache :=
  match route tenant (view tenant) with
  | .ring i => (tenant, i) :: cache
  | _ => cache

/-- the answers of the read steps that hit, along a schedule -/
def runSchedule (view : String → List Cfg) : Cache → List Step → List (String × Nat)
  | _, [] => []
  | cache, .read t :: rest =>
    match cache.get t with
    | some i => (t, i) :: runSchedule view cache rest
    | none => runSchedule view cache rest
  | cache, .store t :: rest => runSchedule view (applyStore view cache t) rest

theorem applyStore_sound (view : String → List Cfg) (cache : Cache) (tenant : String) (hs : Sound view cache) :
    Sound view (applyStore view cache tenant) := by
  unfold applyStore
  cases hr : route tenant (view tenant) with
  | ring i => exact sound_cons hs hr
  | _ => exact hs

/-- **C27, schedules.**  Whatever the interleaving of cache reads and stores of any number of
    goroutines, every cache hit answers the hashring that uncached routing selects (misses
    route themselves), so concurrent requests never see a different choice. -/
theorem C27_concurrent (view : String → List Cfg) : ∀ (steps : List Step) (cache : Cache), Sound view cache →
    ∀ p ∈ runSchedule view cache steps, route p.1 (view p.1) = .ring p.2 := by
  intro steps
  induction steps with
  | nil => exact fun _ _ _ h => nomatch h
  | cons step rest ih =>
    intro cache hs p h
    cases step with
    | store t => exact ih _ (applyStore_sound view cache t hs) p h
    | read t =>
      rw [runSchedule] at h
      split at h
      · rename_i i hg
        rcases List.mem_cons.mp h with rfl | h
        · exact hs t i hg
        · exact ih cache hs p h
      · exact ih cache hs p h

/-- malformed patterns: the excluded case is really ambiguous in the model -/
theorem C27_malformed_ambiguous :
    route "a" [⟨.glob, ["[", "a*"], [.bad, .yes]⟩, ⟨.exact, [], []⟩] = .ringOrErr 0 := by decide

/-- lock skeleton of `multiHashring.GetN`: read under RLock, store under Lock -/
theorem C27_fact_locks : Thanos.Facts.multiGetNLocks = ["m.mu.RLock", "m.mu.RUnlock", "m.mu.Lock", "m.mu.Unlock"] := rfl

/-- what is stored is the hashring of the matching index, and the same one answers -/
theorem C27_fact_store : Thanos.Facts.multiGetNStore = ["m.cache[tenant] = m.hashrings[i]", "m.hashrings[i].GetN(tenant, ts, n)"] := rfl

/-- exact means "exact" or the empty string -/
theorem C27_fact_exact : Thanos.Facts.isExactMatcherBody = "m == TenantMatcherTypeExact || m == \"\"" := rfl

-- non-vacuity: exact before glob before default; the second configuration wins for "team-b"
-- although the third (default) would accept it too
example : route "team-b" [⟨.exact, ["team-a"], []⟩, ⟨.glob, ["team-*"], [.yes]⟩, ⟨.exact, [], []⟩] = .ring 1 := by decide
example : route "other" [⟨.exact, ["team-a"], []⟩, ⟨.glob, ["team-*"], [.no]⟩, ⟨.exact, [], []⟩] = .ring 2 := by decide
example : route "other" [⟨.exact, ["team-a"], []⟩, ⟨.glob, ["team-*"], [.no]⟩] = .none := by decide
example : WellFormed [⟨.exact, ["team-a"], []⟩, ⟨.glob, ["team-*"], [.yes]⟩, ⟨.exact, [], []⟩] := by
  intro c hc; simp at hc; rcases hc with rfl | rfl | rfl <;> decide
example : getNSeq (fun _ => [⟨.exact, ["a"], []⟩, ⟨.exact, [], []⟩]) [] ["a", "b", "a"] = [.ring 0, .ring 1, .ring 0] := by decide
-- hashring 0 (one node) is selected for "a"; asking it for replica 1 FIRST gives its error, not a node of the
-- default hashring 1 (two nodes), and "a" stays with hashring 0 afterwards
example : getNSeqN (fun _ => [⟨.exact, ["a"], []⟩, ⟨.exact, [], []⟩]) [1, 2] [] [("a", 1), ("a", 0), ("b", 1), ("b", 2)]
    = [.insufficient 0 1, .served 0, .served 1, .insufficient 1 2] := by decide

end Thanos.MultiRing
