import Thanos.Model.Hashring
import Thanos.Lemmas.Hashring
import Thanos.Lemmas.HashringBalance
import Thanos.Lemmas.HashringBuild
import Thanos.Model.RingMetrics
import Thanos.Lemmas.RingMetrics
import Thanos.Generated.Facts
/-
  C19 — Building a hashring from any configuration terminates.

  The replica loop of `calculateSectionReplicas` (model: `loop`) had no bound: for zone layouts
  that cannot be balanced for the replication factor (F19: zones a:1, b:3, rf 4) it spun forever.
  The repair (a `fix:` commit in /repo) counts consecutive skipped sections and reports a
  configuration error after a full lap without progress; `lapCheck = true` is the repaired loop,
  `lapCheck = false` the loop as it was.
  `namespace Thanos.Hashring`: the repaired loop ends whatever the fuel (`C19_loop_terminates`,
  `C19_fuel_irrelevant`) and the loop as it was hangs on the F19 ring (`C19_unrepaired_false`); the
  whole construction answers an error or a usable table (`C19_build_total`); the error comes exactly
  when `rf` exceeds what the zone sizes allow, which is also exactly where the loop as it was hangs
  (`C19_stuck_iff`, `C19_build_stuck_iff`, `C19_unrepaired_hangs_iff`).
  `namespace Thanos.RingMetrics` (Model/RingMetrics.lean, closed forms of `load` in Lemmas/RingMetrics.lean): loading a
  configuration must not panic on the metrics of shuffle sharded hashrings either, which `NewMultiHashring` registers
  with `promauto` (`MustRegister`); `shared = false` is the constructor as it was (duplicate registration:
  `C19_load_unrepaired_false`, `C19_reload_unrepaired_panics`), `shared = true` the repaired one (`C19_load_total`,
  `C19_reload_keeps_metrics`, `C19_metrics_released`).
-/
namespace Thanos.Hashring

/-- C19 for the loop, at full strength: from every cursor position of every ring, for every zone
    list and replication factor, the loop answers after finitely many iterations. -/
def C19_loop_full (lapCheck : Bool) : Prop :=
  ∀ (ring : List Sec) (zones : List Nat) (rf : Nat) (start : List Sec),
    ∃ fuel, loop lapCheck ring ring.length zones rf fuel start 0 [] ≠ .fuelOut

/-- The repaired loop terminates — within `fuelBound n rf = (rf+1)(n+1)+1` iterations, which is
    the fuel the executable model runs with. -/
theorem C19_loop_terminates : C19_loop_full true :=
  fun ring zones rf start => ⟨fuelBound ring.length rf, replicasFor_repaired_ne_fuelOut ring zones rf start⟩

/-- … and any larger fuel gives the same answer: `fuelBound` is not a cut-off of the Go loop. -/
theorem C19_fuel_irrelevant (ring : List Sec) (zones : List Nat) (rf : Nat) (start : List Sec) (k : Nat) :
    loop true ring ring.length zones rf (fuelBound ring.length rf + k) start 0 [] =
      replicasFor true ring zones rf start :=
  loop_fuel_mono k (replicasFor_repaired_ne_fuelOut ring zones rf start)

/-- zones a = 0 (one endpoint), b = 1 (three endpoints), one section per endpoint -/
def f19Ring : List Sec := [⟨10, 0, 0⟩, ⟨20, 1, 1⟩, ⟨30, 2, 1⟩, ⟨40, 3, 1⟩]

/-- the state the loop reaches from section 0 with rf = 4: a, b, b chosen; the last endpoint
    (zone b) is refused because zone a is less occupied, and zone a has no endpoint left -/
def f19Chosen : List Sec := [⟨10, 0, 0⟩, ⟨20, 1, 1⟩, ⟨30, 2, 1⟩]

theorem f19_stuck : Stuck f19Ring [0, 1] f19Chosen := by decide

/-- The loop as it was never answers on the witness, whatever the fuel. -/
theorem f19_hangs : ∀ fuel, loop false f19Ring f19Ring.length [0, 1] 4 fuel f19Ring 0 [] = .fuelOut := by
  intro fuel
  match fuel with
  | 0 => rfl
  | 1 => decide
  | 2 => decide
  | fuel + 3 =>
    -- three iterations admit the first three sections (zones a, b, b); then the state is stuck
    exact stuck_forever (chosen := f19Chosen) (rest := [⟨40, 3, 1⟩]) (by decide) f19_stuck (by decide) (by decide)

/-- C19 is false of the unrepaired loop. -/
theorem C19_unrepaired_false : ¬ C19_loop_full false := by
  intro h
  obtain ⟨fuel, hf⟩ := h f19Ring [0, 1] 4 f19Ring
  exact hf (f19_hangs fuel)

/-- On the same witness the repaired loop reports the configuration error. -/
theorem f19_repaired_stuck : replicasFor true f19Ring [0, 1] 4 f19Ring = .stuck := by decide

/-- every row of the table has exactly `rf` pairwise distinct replicas, each a position of the endpoint list -/
def Usable (numEps rf : Nat) (secs : List (Sec × List Nat)) : Prop :=
  ∀ p ∈ secs, p.2.length = rf ∧ p.2.Nodup ∧ ∀ e ∈ p.2, e < numEps

/-- **C19 (repaired code).**  For every endpoint list and replication factor
    `newKetamaHashring` returns: either one of the two configuration errors, or a ring with one
    table row per section, each with exactly `rf` distinct valid replicas.  It never hangs and never
    panics. -/
theorem C19_build_total (eps : List Ep) (rf : Nat) :
    (build true eps rf = .tooFew ∧ eps.length < rf) ∨
    (build true eps rf = .stuck ∧ rf ≤ eps.length) ∨
    ∃ secs, build true eps rf = .ring secs ∧ rf ≤ eps.length ∧ secs.map (·.1) = mkRing eps ∧
      Usable eps.length rf secs := by
  rcases Nat.lt_or_ge eps.length rf with h | hle
  · exact Or.inl ⟨build_of_lt h, h⟩
  · rw [build_of_le hle]
    rcases table_spec true (mkRing eps) (zonesOf eps) rf (mkRing eps) (fun _ h => h) with h1 | h1 | ⟨t, ht, hmap, hall⟩
    · exact Or.inr (Or.inl ⟨h1.2, hle⟩)
    · cases h1.1
    · refine Or.inr (Or.inr ⟨t, ht, hle, hmap, ?_⟩)
      intro p hp
      obtain ⟨a, b, c⟩ := hall p hp
      refine ⟨a, b, fun e he => ?_⟩
      obtain ⟨s, hs, rfl⟩ := c e he
      exact mkRing_ep hs

/-- the F19 layout as an endpoint list: one endpoint in zone 0, three in zone 1 -/
def f19Eps : List Ep := [⟨0, [10]⟩, ⟨1, [20]⟩, ⟨1, [30]⟩, ⟨1, [40]⟩]

theorem f19_mkRing : mkRing f19Eps = f19Ring := by
  simp [mkRing, sectionsFrom, List.mergeSort, List.MergeSort.Internal.splitInTwo, hashLe, f19Eps, f19Ring]

theorem f19_build (lc : Bool) : build lc f19Eps 4 = table lc f19Ring [0, 1] 4 f19Ring := by
  have hz : zonesOf f19Eps = [0, 1] := by decide
  have hl : ¬ f19Eps.length < 4 := by decide
  simp only [build, hl, if_false, f19_mkRing, hz]

/-- the unrepaired construction on the F19 layout, with the model's fuel: never returns -/
theorem f19_build_unrepaired : build false f19Eps 4 = .hang :=
  (f19_build false).trans (table_cons_hang (f19_hangs _))

/-- … and the repaired one reports the configuration error -/
theorem f19_build_repaired : build true f19Eps 4 = .stuck :=
  (f19_build true).trans (table_cons_stuck f19_repaired_stuck)

/-- **C19 / C18, exactness.**  For every ring whose endpoints each live in one zone, every start
    section and every replication factor: the repaired loop reports "stuck" iff the zone sizes
    cannot take `rf` balanced replicas — independently of all hash values — and answers `rf`
    replicas otherwise. -/
theorem C19_stuck_iff (ring : List Sec) (zones : List Nat) (rf : Nat) (start : List Sec)
    (hne : ring ≠ []) (hstart : ∃ pre, ring = pre ++ start) (hcons : AzConsistent ring)
    (hn : zones.Nodup) (hcover : ∀ s ∈ ring, s.az ∈ zones) (hb : rf < 2 ^ 63 - 1) :
    (replicasFor true ring zones rf start = .stuck ↔ canBalance (zones.map (zsize ring)) rf = false) ∧
    ((∃ reps, replicasFor true ring zones rf start = .ok reps) ↔ canBalance (zones.map (zsize ring)) rf = true) := by
  refine iff_of_exclusive (fun h1 ⟨_, h2⟩ => by rw [h1] at h2; cases h2) ?_
  cases hr : replicasFor true ring zones rf start with
  | ok reps => exact Or.inr ⟨⟨reps, rfl⟩, loop_ok_canBalance (mem_of_suffix hstart) hn hcover hr⟩
  | stuck => exact Or.inl ⟨rfl, replicasFor_stuck_canBalance hstart hcons hn hcover hb hr⟩
  | fuelOut => exact absurd hr (replicasFor_repaired_ne_fuelOut _ _ _ _)
  | oob => exact absurd hr (loop_ne_oob hne)

/-- **C19, partial theorem for the loop as it was.**  On every layout that can be balanced the
    unrepaired loop terminates too (with the same answer): F19 is confined to the layouts that
    cannot. -/
theorem C19_unrepaired_partial (ring : List Sec) (zones : List Nat) (rf : Nat) (start : List Sec)
    (hne : ring ≠ []) (hstart : ∃ pre, ring = pre ++ start) (hcons : AzConsistent ring)
    (hn : zones.Nodup) (hcover : ∀ s ∈ ring, s.az ∈ zones) (hb : rf < 2 ^ 63 - 1)
    (hcan : canBalance (zones.map (zsize ring)) rf = true) :
    ∃ fuel reps, loop false ring ring.length zones rf fuel start 0 [] = .ok reps := by
  obtain ⟨reps, hr⟩ := (C19_stuck_iff ring zones rf start hne hstart hcons hn hcover hb).2.mpr hcan
  exact ⟨_, reps, loop_ok_unrepaired hr⟩

/-- the endpoints-per-zone counts of a configuration, in the order of `zonesOf eps`: the `zsize`s of its ring when every
    endpoint has a section (`zsize_mkRing`) -/
def zoneSizesOf (eps : List Ep) : List Nat :=
  (zonesOf eps).map fun z => (eps.filter (·.az == z)).length

/-- **C19 / C18 for the whole construction.**  When every endpoint has at least one section
    (production: 1000), `newKetamaHashring` reports the zone error iff `rf ≤ #endpoints` and the
    endpoints-per-zone counts of the configuration cannot take `rf` balanced replicas; it builds a
    ring iff they can.  Hash values, section counts and the order of the endpoints play no role. -/
theorem C19_build_stuck_iff (eps : List Ep) (rf : Nat) (hh : ∀ e ∈ eps, e.hashes ≠ []) (hb : rf < 2 ^ 63 - 1) :
    (build true eps rf = .stuck ↔ rf ≤ eps.length ∧ canBalance (zoneSizesOf eps) rf = false) ∧
    ((∃ secs, build true eps rf = .ring secs) ↔ rf ≤ eps.length ∧ canBalance (zoneSizesOf eps) rf = true) := by
  have hsizes : (zonesOf eps).map (zsize (mkRing eps)) = zoneSizesOf eps :=
    List.map_congr_left fun z _ => zsize_mkRing eps z hh
  rcases Nat.lt_or_ge eps.length rf with hlt | hle
  · rw [build_of_lt hlt]
    exact ⟨⟨nofun, fun h => absurd h.1 (Nat.not_le.mpr hlt)⟩, ⟨nofun, fun h => absurd h.1 (Nat.not_le.mpr hlt)⟩⟩
  · rw [build_of_le hle, and_iff_right hle, and_iff_right hle]
    cases eps with
    | nil =>
      -- no endpoints at all: an empty ring, rf = 0
      obtain rfl : rf = 0 := Nat.le_zero.mp hle
      simp [mkRing, sectionsFrom, table, zoneSizesOf, zonesOf, dedup, canBalance]
    | cons e es =>
      rw [← hsizes]
      exact table_stuck_iff (mkRing_ne_nil List.mem_cons_self (hh e List.mem_cons_self)) (azConsistent_mkRing _)
        (nodup_dedup _) (mkRing_cover _) hb

/-- **F19, exact extent.**  The loop as it was never answers — for any amount of fuel — exactly
    on the zone layouts that cannot be balanced for the replication factor; everywhere else it
    terminates (`C19_unrepaired_partial`).  Hash values and the start section play no role. -/
theorem C19_unrepaired_hangs_iff (ring : List Sec) (zones : List Nat) (rf : Nat) (start : List Sec)
    (hne : ring ≠ []) (hstart : ∃ pre, ring = pre ++ start) (hcons : AzConsistent ring)
    (hn : zones.Nodup) (hcover : ∀ s ∈ ring, s.az ∈ zones) (hb : rf < 2 ^ 63 - 1) :
    (∀ fuel, loop false ring ring.length zones rf fuel start 0 [] = .fuelOut) ↔
      canBalance (zones.map (zsize ring)) rf = false := by
  constructor
  · intro hall
    cases hc : canBalance (zones.map (zsize ring)) rf with
    | false => rfl
    | true =>
      obtain ⟨fuel, reps, hr⟩ := C19_unrepaired_partial ring zones rf start hne hstart hcons hn hcover hb hc
      rw [hall fuel] at hr; cases hr
  · exact fun hc fuel => loop_unrepaired_hangs hne (mem_of_suffix hstart) hn hcover hc

-- non-vacuity of C19_stuck_iff / C19_build_stuck_iff: the F19 ring meets every hypothesis, and the
-- two sides of the equivalence are the interesting ones on it
example : AzConsistent f19Ring := by unfold AzConsistent; decide
example : ([0, 1] : List Nat).Nodup ∧ (∀ s ∈ f19Ring, s.az ∈ [0, 1]) ∧ (∃ pre, f19Ring = pre ++ f19Ring) :=
  ⟨by decide, by decide, ⟨[], rfl⟩⟩
example : replicasFor true f19Ring [0, 1] 4 f19Ring = .stuck ∧ canBalance ([0, 1].map (zsize f19Ring)) 4 = false := by
  decide
example : (∀ e ∈ f19Eps, e.hashes ≠ []) ∧ zoneSizesOf f19Eps = [1, 3] := by decide
-- the F19 layout: zone sizes 1 and 3, rf 4 exceeds the capacity 1 + 2; rf 3 fits
example : canBalance [1, 3] 4 = false := by decide
example : canBalance [1, 3] 3 = true := by decide
example : canBalance [2, 4] 4 = true := by decide
example : canBalance [1, 2, 3] 5 = true ∧ canBalance [1, 2, 3] 6 = false := by decide
example : (f19Ring.map (·.az)) = [0, 1, 1, 1] ∧ [0, 1].map (zsize f19Ring) = [1, 3] := by decide

end Thanos.Hashring

namespace Thanos.RingMetrics

/-- C19 for the loader, at full strength: loading a configuration never panics, whatever is
    registered already -/
def C19_load_full (shared : Bool) : Prop := ∀ reg cfg, load shared reg cfg ≠ .panic

/-- **C19 for the loader (repaired code).**  Hashrings of the same name share their collectors, so nothing is
    registered twice. -/
theorem C19_load_total : C19_load_full true := by
  intro reg cfg
  induction cfg generalizing reg with
  | nil => simp [load]
  | cons c rest ih =>
    obtain ⟨name, sharded⟩ := c
    cases sharded <;> simp [load, ih]

/-- as it was: false — two shuffle sharded hashrings without a name (fixed finding
    load-panic-duplicate-metrics) -/
theorem C19_load_unrepaired_false : ¬ C19_load_full false := by
  intro h
  exact h [] [("", true), ("", true)] (by decide)

theorem load_shared_eq (cfg : List (String × Bool)) (reg : Registry) :
    load true reg cfg = .ok ((shardedNames cfg).reverse ++ reg) := by
  cases h : load true reg cfg with
  | panic => exact absurd h (C19_load_total reg cfg)
  | ok r => rw [load_ok_eq h]

/-- **repaired code, configuration update.**  After any update every shuffle sharded hashring
    of the new configuration still has its metrics registered (the old hashring's `Close` only
    releases its own use), and the update never panics. -/
theorem C19_reload_keeps_metrics (old new : List (String × Bool)) (reg reg' : Registry)
    (hold : load true [] old = .ok reg) (h : update true reg old new = .ok reg') :
    ∀ n, (n, true) ∈ new → n ∈ reg' := by
  intro n hn
  obtain rfl : reg = (shardedNames old).reverse := (load_ok_eq hold).trans (List.append_nil _)
  rw [update, load_shared_eq] at h
  have hc := count_release n (shardedNames old) ((shardedNames new).reverse ++ (shardedNames old).reverse)
  rw [← close, Load.ok.inj h, List.count_append, List.count_reverse, List.count_reverse] at hc
  have hnew : 0 < (shardedNames new).count n := List.count_pos_iff.mpr (mem_shardedNames.mpr hn)
  exact List.count_pos_iff.mp (by omega)

/-- … and closing every hashring that was loaded leaves nothing registered -/
theorem C19_metrics_released (cfg : List (String × Bool)) (reg : Registry)
    (h : load true [] cfg = .ok reg) : close reg cfg = [] := by
  obtain rfl : reg = (shardedNames cfg).reverse := (load_ok_eq h).trans (List.append_nil _)
  refine List.eq_nil_iff_forall_not_mem.mpr fun n hn => ?_
  have hc := count_release n (shardedNames cfg) (shardedNames cfg).reverse
  rw [← close, List.count_reverse, Nat.sub_self] at hc
  exact absurd (List.count_pos_iff.mpr hn) (by omega)

/-- **as it was (fixed finding reload-panic-duplicate-metrics), in general.**  Whatever the
    configuration: if it loads and contains a shuffle sharded hashring, loading it again with the
    same registerer — the first step of every hashring file update — panicked. -/
theorem C19_reload_unrepaired_panics (cfg : List (String × Bool)) (reg : Registry) (n : String)
    (hs : (n, true) ∈ cfg) (h : load false [] cfg = .ok reg) : update false reg cfg cfg = .panic := by
  have hm : n ∈ reg := load_ok_eq h ▸ List.mem_append_left _ (List.mem_reverse.mpr (mem_shardedNames.mpr hs))
  rw [update, load_panic_of_registered cfg reg n hs hm]

/-- the constructor looks the shared metrics up before it registers anything, and `close` only
    unregisters for the last user -/
theorem C19_fact_metrics_shared :
    Thanos.Facts.shuffleShardMetricsShared =
      ["if:ok", "m.users++", "return", "registerShuffleShardCacheMetrics"] ∧
    Thanos.Facts.shuffleShardMetricsClose = ["s.users--", "if:s.users > 0", "return", "delete", "Unregister"] := ⟨rfl, rfl⟩

/-- a file update builds the new hashring first; the handler closes the old one when the new one is installed -/
theorem C19_fact_reload_order :
    Thanos.Facts.hashringReloadOrder = ["receive.NewMultiHashring", "webHandler.Hashring"] ∧
      Thanos.Facts.handlerHashringSwap = ["h.hashring.Close"] := ⟨rfl, rfl⟩

example : update false ["h"] [("h", true)] [("h", true)] = .panic := by decide
example : update true ["h"] [("h", true)] [("h", true)] = .ok ["h"] := by decide
example : load true [] [("a", true), ("", false), ("a", true)] = .ok ["a", "a"] := by decide
example : close ["a", "a"] [("a", true), ("", false), ("a", true)] = [] := by decide

end Thanos.RingMetrics

namespace Thanos.Hashring

-- the source has the loop shape the model transliterates

theorem C19_fact_loop_cond : Thanos.Facts.ketamaLoopCond = "uint64(len(replicas)) < replicationFactor" := rfl

/-- the lap check is the first statement of the loop body and compares the consecutive skips
    with the number of sections -/
theorem C19_fact_lap_check : Thanos.Facts.ketamaLapCheck = "skipped == len(ringSections)" := rfl

/-- both skip branches count, progress resets the counter -/
theorem C19_fact_skip_counter :
    Thanos.Facts.ketamaSkipCounter = ["if:skipped == len(ringSections)", "return", "if:ok", "skipped++", "continue",
      "if:len(azSpread) > 1 && azSpread[rep.az] > 0 && azSpread[rep.az] > sizeOfLeastOccupiedAZ(azSpread)",
      "skipped++", "continue", "skipped = 0"] := rfl

/-- the endpoint-count test in front of the construction -/
theorem C19_fact_too_few : Thanos.Facts.ketamaTooFew = "len(endpoints) < int(replicationFactor)" := rfl

-- non-vacuity of `C18_balance` (Props/C18.lean): on a balanced layout (2 + 2 endpoints, two sections each) the rows of
-- the last two sections are zone-balanced after every replica
example : table true [⟨5, 2, 1⟩, ⟨10, 0, 0⟩, ⟨20, 1, 1⟩, ⟨30, 2, 1⟩, ⟨40, 3, 0⟩, ⟨45, 3, 0⟩, ⟨50, 0, 0⟩, ⟨60, 1, 1⟩] [0, 1] 4
    [⟨50, 0, 0⟩, ⟨60, 1, 1⟩] = .ring [(⟨50, 0, 0⟩, [0, 1, 2, 3]), (⟨60, 1, 1⟩, [1, 0, 2, 3])] := by decide +kernel
example : build true [⟨0, [10]⟩, ⟨1, [20]⟩] 3 = .tooFew := by decide
example : replicasFor true f19Ring [0, 1] 3 f19Ring = .ok [0, 1, 2] := by decide

end Thanos.Hashring
