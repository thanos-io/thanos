import Thanos.Model.ShuffleShard
import Thanos.Lemmas.ShuffleShard
import Thanos.Props.C18
import Thanos.Generated.Facts
/-
  C21 — Shuffle-sharded tenants get stable, correctly sized sub-rings.

  `tenantShard` transliterates `getTenantShard` up to the call of `newKetamaHashring` on the
  selected nodes; the sub-ring itself is the ketama ring of C18/C19.  Random positions
  (`math/rand` seeded by `ShuffleShardSeed`) and glob results are inputs: every theorem is for
  ALL positions and all glob tables.
  Groups: the shard size (first matching override; `C21_size_zone_aware`, `C21_size_zone_unaware`,
  `C21_too_big_iff`); the same nodes after a reordering of the endpoint list (`C21_endpoint_order`);
  `GetN` stays inside the tenant's nodes (`C21_inside`); a shard of at least `rf` nodes is served
  exactly when its zones can be balanced (`C21_serves_full_false`, `C21_serves_partial`,
  `C21_stuck_iff`); the LRU of sub-rings answers what `getTenantShard` computes, whatever the capacity
  and history, and a replacement ring starts with an empty one (`C21_cache_transparent`,
  `C21_update_transparent`).
  Builds on Props/C18 (`C18_getN_distinct`) and, through it, Props/C19 (`C19_build_stuck_iff`, the F19 layout).
-/
namespace Thanos.ShuffleShard
open Thanos.Hashring Thanos.MultiRing

theorem shardSize_eq_find? (dflt : Nat) (tenant : String) : ∀ ovs : List Override,
    shardSize dflt ovs tenant = ((ovs.find? (·.applies tenant)).map (·.size)).getD dflt
  | [] => rfl
  | o :: os => by
    rw [shardSize, List.find?_cons, shardSize_eq_find? dflt tenant os]
    cases o.applies tenant <;> rfl

/-- `getShardSize` answers the size of the first override that applies, the default when none does -/
theorem C21_shardSize_first_match (dflt : Nat) (tenant : String) : ∀ (ovs : List Override),
    (∃ pre o post, ovs = pre ++ o :: post ∧ (∀ p ∈ pre, p.applies tenant = false) ∧
        o.applies tenant = true ∧ shardSize dflt ovs tenant = o.size) ∨
      ((∀ o ∈ ovs, o.applies tenant = false) ∧ shardSize dflt ovs tenant = dflt) := by
  intro ovs
  rw [shardSize_eq_find?]
  cases h : ovs.find? (·.applies tenant) with
  | none => exact Or.inr ⟨fun o ho => by simpa using List.find?_eq_none.mp h o ho, rfl⟩
  | some o =>
    obtain ⟨ho, pre, post, e, hpre⟩ := List.find?_eq_some_iff_append.mp h
    exact Or.inl ⟨pre, o, post, e, fun p hp => by simpa using hpre p hp, ho, rfl⟩

/-- For ALL random positions: drawing `take` positions in a zone with at least `take` nodes
    selects exactly `take` pairwise distinct nodes of that zone. -/
theorem C21_pick_count (secs : List Sec) (positions : List Nat) (take : Nat)
    (hpos : take ≤ positions.length) (hnodes : take ≤ (zoneNodes secs).length) :
    (pickZone secs (positions.take take) []).length = take ∧
    (pickZone secs (positions.take take) []).Nodup ∧
    ∀ e ∈ pickZone secs (positions.take take) [], ∃ s ∈ secs, s.ep = e := by
  have hl : (positions.take take).length = take := List.length_take_of_le hpos
  obtain ⟨r1, r2, r4⟩ := pickZone_spec secs (positions.take take) [] List.nodup_nil nofun
    (by rw [hl, List.length_nil, Nat.zero_add]; exact hnodes)
  exact ⟨by rw [r2, hl]; exact Nat.zero_add _, r1, fun e he => mem_zoneNodes.mp (r4 e he)⟩

/-- **C21, size (zone aware).**  When the selection succeeds every zone contributes exactly
    ⌈shardSize / #zones⌉ pairwise distinct nodes of that zone, so the sub-ring has
    ⌈shardSize / #zones⌉ · #zones nodes. -/
theorem C21_size_zone_aware (ring : List Sec) (dflt : Nat) (ovs : List Override) (tenant : String)
    (positions : Nat → List Nat) (final : List Nat)
    (hpos : ∀ z, perZone (shardSize dflt ovs tenant) (dedup (ring.map (·.az))).length ≤ (positions z).length)
    (h : tenantShard true ring dflt ovs tenant positions = .nodes final) :
    let zones := dedup (ring.map (·.az))
    let take := perZone (shardSize dflt ovs tenant) zones.length
    final = zones.flatMap (fun z => pickZone (ring.filter (·.az == z)) ((positions z).take take) []) ∧
    final.length = take * zones.length ∧
    ∀ z ∈ zones,
      (pickZone (ring.filter (·.az == z)) ((positions z).take take) []).length = take ∧
      (pickZone (ring.filter (·.az == z)) ((positions z).take take) []).Nodup ∧
      ∀ e ∈ pickZone (ring.filter (·.az == z)) ((positions z).take take) [], ∃ s ∈ ring, s.ep = e ∧ s.az = z := by
  intro zones take
  simp only [tenantShard, if_true] at h
  rcases selectNodes_spec take (fun z => ring.filter (·.az == z)) positions zones with ⟨h1, _⟩ | ⟨h1, h2⟩
  · rw [h1] at h; cases h
  · rw [h1] at h
    injection h with h
    have hblocks := fun z (hz : z ∈ zones) =>
      C21_pick_count (ring.filter (·.az == z)) (positions z) take (hpos z) (h2 z hz)
    refine ⟨h.symm, ?_, fun z hz => ⟨(hblocks z hz).1, (hblocks z hz).2.1, fun e he => ?_⟩⟩
    · rw [← h, List.length_flatMap, List.map_congr_left fun z hz => (hblocks z hz).1, List.map_const',
        List.sum_replicate_nat, Nat.mul_comm]
    · obtain ⟨s, hs, hse⟩ := (hblocks z hz).2.2 e he
      exact ⟨s, (List.mem_filter.mp hs).1, hse, beq_iff_eq.mp (List.mem_filter.mp hs).2⟩

/-- **C21, size (zone awareness disabled).**  The sub-ring has exactly `shardSize` pairwise
    distinct nodes of the base ring. -/
theorem C21_size_zone_unaware (ring : List Sec) (dflt : Nat) (ovs : List Override) (tenant : String)
    (positions : Nat → List Nat) (final : List Nat)
    (hpos : shardSize dflt ovs tenant ≤ (positions 0).length)
    (h : tenantShard false ring dflt ovs tenant positions = .nodes final) :
    final.length = shardSize dflt ovs tenant ∧ final.Nodup ∧ ∀ e ∈ final, ∃ s ∈ ring, s.ep = e := by
  simp only [tenantShard, Bool.false_eq_true, if_false] at h
  rcases selectNodes_spec (shardSize dflt ovs tenant) (fun _ => ring) positions [0] with ⟨h1, _⟩ | ⟨h1, h2⟩
  · rw [h1] at h; cases h
  · rw [h1] at h
    injection h with h
    simp only [List.flatMap_cons, List.flatMap_nil, List.append_nil] at h
    rw [← h]
    exact C21_pick_count ring (positions 0) _ hpos (h2 0 (by simp))

/-- **C21, too big.**  The selection is refused exactly when some zone has fewer nodes than are
    to be taken from it.  `hpos` is not used: the refusal does not look at the drawn positions
    (`tenantShard_tooBig_iff`). -/
theorem C21_too_big_iff (ring : List Sec) (dflt : Nat) (ovs : List Override) (tenant : String)
    (positions : Nat → List Nat)
    (hpos : ∀ z, perZone (shardSize dflt ovs tenant) (dedup (ring.map (·.az))).length ≤ (positions z).length) :
    tenantShard true ring dflt ovs tenant positions = .tooBig ↔
      ∃ z ∈ dedup (ring.map (·.az)),
        (zoneNodes (ring.filter (·.az == z))).length < perZone (shardSize dflt ovs tenant) (dedup (ring.map (·.az))).length :=
  tenantShard_tooBig_iff ring dflt ovs tenant positions

/-- **C21, stability under reordering.**  Reordering the configured endpoint list (any
    permutation, no hash ties) gives the tenant the same nodes: the selection on the original base
    ring is the selection on the reordered one with positions translated back.  (The order in
    which Go's map iteration visits the zones only permutes the selected list, and the sub-ring
    over a permuted node list is the same ring by `C18_ketama_perm`.) -/
theorem C21_endpoint_order (eps : List Ep) (perm : List Nat) (h : IsPermOf perm eps.length) (hnt : NoTies eps)
    (zoneAware : Bool) (dflt : Nat) (ovs : List Override) (tenant : String) (positions : Nat → List Nat) :
    tenantShard zoneAware (mkRing eps) dflt ovs tenant positions =
      (tenantShard zoneAware (mkRing (permute eps perm)) dflt ovs tenant positions).map (permFun perm) := by
  rw [← mkRing_permute eps perm h hnt]
  exact tenantShard_ren _ _ _ _ _ _ _ (injOn_permFun eps perm h).toL

/-- **C21, inside.**  The sub-ring is the ketama ring over the selected nodes: whatever their
    sections' hashes, every `GetN(n)`, `n < rf`, answers a position of the selected node list,
    i.e. one of the tenant's nodes, and the positions for different `n` differ. -/
theorem C21_inside (sub : List Ep) (rf : Nat) (secs : List (Sec × List Nat)) (v : Nat)
    (hb : build true sub rf = .ring secs) (hne : secs ≠ []) :
    ∃ row : List Nat, row.length = rf ∧ row.Nodup ∧ (∀ e ∈ row, e < sub.length) ∧
      ∀ n, n < rf → ∃ e, row[n]? = some e ∧ getN sub.length secs v n = .node e :=
  C18_getN_distinct sub rf secs v hb hne

/-- C21 (service) at full strength: a tenant whose shard has at least `rf` nodes gets a sub-ring. -/
def C21_serves_full : Prop :=
  ∀ (sub : List Ep) (rf : Nat), rf ≤ sub.length → ∃ secs, build true sub rf = .ring secs

/-- It is false.  The sub-ring is a zone aware ketama ring over the selected nodes WITH their
    real zones, also when zone awareness of the shard selection is disabled.  A selection of one
    node in zone a and three in zone b cannot be balanced for rf = 4 (F19's layout): the repaired
    constructor reports the configuration error (before the repair of F19 it never returned), so
    every request of such a tenant fails although its shard has enough nodes. -/
theorem C21_serves_full_false : ¬ C21_serves_full := by
  intro h
  obtain ⟨secs, hs⟩ := h f19Eps 4 (by decide)
  rw [f19_build_repaired] at hs
  cases hs

example : zoneSizesOf f19Eps = [1, 3] ∧ canBalance (zoneSizesOf f19Eps) 4 = false := by decide

/-- … and holds exactly when the zones of the selected nodes can be balanced: a shard whose
    nodes (each with at least one section) have endpoints-per-zone counts that can take `rf`
    balanced replicas is served (the converse is `C21_stuck_iff`).  Equal counts can always be balanced
    (`canBalance_equal`); that the node list of a zone aware shard has equal counts is read off
    `C21_size_zone_aware`, which counts the picks per zone, and is not a theorem about `zoneSizesOf`. -/
theorem C21_serves_partial (sub : List Ep) (rf : Nat) (hh : ∀ e ∈ sub, e.hashes ≠ []) (hb : rf < 2 ^ 63 - 1)
    (hle : rf ≤ sub.length) (hcan : canBalance (zoneSizesOf sub) rf = true) :
    ∃ secs, build true sub rf = .ring secs :=
  (C19_build_stuck_iff sub rf hh hb).2.mpr ⟨hle, hcan⟩

/-- the tenant is refused with the zone error exactly when its nodes' zones cannot be balanced -/
theorem C21_stuck_iff (sub : List Ep) (rf : Nat) (hh : ∀ e ∈ sub, e.hashes ≠ []) (hb : rf < 2 ^ 63 - 1) :
    build true sub rf = .stuck ↔ rf ≤ sub.length ∧ canBalance (zoneSizesOf sub) rf = false :=
  (C19_build_stuck_iff sub rf hh hb).1

theorem listMin_replicate (k : Nat) {n : Nat} (h : 0 < n) : listMin (List.replicate n k) = k :=
  List.eq_of_mem_replicate (listMin_mem (List.ne_nil_of_length_pos (by rwa [List.length_replicate])))

/-- equal zone sizes (`k` nodes in each of `n` zones, what a zone aware selection picks) can take as many
    replicas as there are nodes -/
theorem canBalance_equal (k n rf : Nat) (h : rf ≤ k * n) : canBalance (List.replicate n k) rf = true := by
  have h : rf ≤ (List.replicate n k).sum := by rwa [List.sum_replicate_nat, Nat.mul_comm]
  rw [canBalance, List.length_replicate]
  split
  · exact decide_eq_true h
  · rename_i hn
    rw [listMin_replicate k (by omega), List.map_replicate, Nat.min_eq_left (Nat.le_succ k)]
    exact decide_eq_true h

/-- **C21, stability.**  Whatever the cache capacity (evictions included) and the history of
    requests, `getTenantShardCached` answers what the uncached `getTenantShard` computes — which
    is a function of the tenant, the base ring and the configuration only. -/
theorem C21_cache_transparent {α : Type} (compute : String → Option α) (cap : Nat) (ts : List String) :
    getCachedSeq compute cap [] ts = ts.map compute :=
  getCachedSeq_eq compute cap ts [] nofun

/-- **C21, configuration update.**  Whatever was asked of the old ring (and is cached there), every
    answer of its replacement is what the replacement's own configuration computes: a new ring
    instance starts with an empty cache, so nothing computed under the previous overrides, shard
    size or node list can survive the update. -/
theorem C21_update_transparent {α : Type} (old : Instance α) (histOld : List String)
    (computeNew : String → Option α) (capNew : Nat) (histNew : List String) :
    (update old histOld computeNew capNew histNew).2 = histNew.map computeNew := by
  simp only [update]
  exact Instance.run_eq histNew (Instance.new computeNew capNew) nofun

/-- Handing the old ring's cache to the replacement is only sound if every cached entry is what
    the NEW configuration computes (`LruSound`); otherwise stale sub-rings are served: here the old
    configuration gave tenant "big" one node, the new one gives it two, and a replacement that
    inherits the cache keeps answering one. -/
example :
    let old : Instance Nat := Instance.new (fun _ => some 1) 10
    let cacheAfter := (old.run ["big"]).2.cache
    (({ compute := fun t => if t = "big" then some 2 else some 1, cap := 10, cache := cacheAfter } : Instance Nat).run ["big"]).1
      = [some 1] ∧
    (update old ["big"] (fun t => if t = "big" then some 2 else some 1) 10 ["big"]).2 = [some 2] := by decide

/-- the LRU is constructed in the hashring's constructor, the hashring keeps it in its own field, and
    the shared metrics value carries no cache -/
theorem C21_fact_cache_per_instance :
    Thanos.Facts.shuffleShardLruConstructedIn = ["newShuffleShardHashring"] ∧
    Thanos.Facts.shuffleShardMetricsFields = ["requestsTotal", "hitsTotal", "numItems", "maxItems", "evicted", "reg", "key", "users"] ∧
    Thanos.Facts.shuffleShardCacheField = "cache: cache" := ⟨rfl, rfl, rfl⟩

/-- the matcher types `getShardSize` knows (the empty type counts as exact, as in `isExactMatcher`) -/
theorem C21_fact_shard_size_cases :
    Thanos.Facts.shardSizeCases = ["TenantMatcherTypeExact, \"\"", "TenantMatcherGlob"] := rfl

/-- the set of already selected endpoints is a map keyed by the (ring-global) endpoint index: membership is
    exact for every index, as `selected.contains` in `pickOne` -/
theorem C21_fact_selected_set : Thanos.Facts.shardSelectedInit = "make(map[uint64]struct{})" := rfl

theorem C21_fact_take :
    Thanos.Facts.shardTake = ["if:s.shuffleShardingConfig.ZoneAwarenessDisabled", "take = ss", "else",
      "take = ShuffleShardExpectedInstancesPerZone(ss, len(nodesByAZ))"] := rfl

/-- the sub-ring is the ketama ring over the selected nodes with the handler's replication factor -/
theorem C21_fact_sub_ring :
    Thanos.Facts.shardSubRing = "newKetamaHashring(finalNodes, SectionsPerNode, s.replicationFactor)" := rfl

-- non-vacuity: two zones with two nodes each, one node per zone; two different tenants (position
-- lists) get different shards; an override applies to the listed tenant only
example : tenantShard true [⟨10, 0, 0⟩, ⟨20, 1, 1⟩, ⟨30, 2, 0⟩, ⟨40, 3, 1⟩] 2 [] "t"
    (fun z => if z = 0 then [25] else [5]) = .nodes [2, 1] := by decide
example : tenantShard true [⟨10, 0, 0⟩, ⟨20, 1, 1⟩, ⟨30, 2, 0⟩, ⟨40, 3, 1⟩] 2 [] "u"
    (fun z => if z = 0 then [35] else [21]) = .nodes [0, 3] := by decide
example : tenantShard true [⟨10, 0, 0⟩, ⟨20, 1, 1⟩, ⟨30, 2, 0⟩, ⟨40, 3, 1⟩] 2 [⟨.exact, 6, ["big"], []⟩] "big"
    (fun _ => [1, 2, 3]) = .tooBig := by decide
example : tenantShard false [⟨10, 0, 0⟩, ⟨20, 1, 1⟩, ⟨30, 2, 0⟩, ⟨40, 3, 1⟩] 3 [] "t" (fun _ => [15, 15, 15]) = .nodes [1, 2, 3] := by decide
-- C21_pick_count: three positions on a zone of four nodes (two sections each) pick three distinct nodes,
-- whatever the positions — here two of them hit the same node first
example : pickZone [⟨10, 0, 0⟩, ⟨20, 1, 0⟩, ⟨30, 2, 0⟩, ⟨40, 3, 0⟩, ⟨50, 0, 0⟩, ⟨60, 1, 0⟩, ⟨70, 2, 0⟩, ⟨80, 3, 0⟩]
    ([15, 15, 99].take 3) [] = [1, 2, 0] := by decide
example : (zoneNodes [⟨10, 0, 0⟩, ⟨20, 1, 0⟩, ⟨30, 2, 0⟩, ⟨40, 3, 0⟩, ⟨50, 0, 0⟩]).length = 4 := by decide
example : shardSize 2 [⟨.other, 5, ["t"], []⟩, ⟨.glob, 3, ["t*"], [.yes]⟩] "t" = 3 := by decide
example : getCachedSeq (fun t => if t = "bad" then none else some t.length) 1 [] ["a", "bb", "a", "bad", "a"]
    = [some 1, some 2, some 1, none, some 1] := by decide

end Thanos.ShuffleShard
