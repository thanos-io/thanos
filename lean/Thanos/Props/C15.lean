import Thanos.Model.BlockSet
import Thanos.Lemmas.BlockSetInv
import Thanos.Generated.Facts
/-
  C15 — Store gateway picks blocks that cover the query at allowed resolutions.

  "For any layout of blocks at raw, 5m and 1h resolution and any query range and maximum resolution,
   the blocks selected for a query never exceed the maximum resolution, never duplicate a block, all
   overlap the query range, and together cover every instant of the range that some block of an allowed
   resolution covers."

  The model (`Model/BlockSet.lean`) transliterates `bucketBlockSet.add` / `getFor`.  The theorems are
  stated over any well-formed set (`WF`; with `resolution_wf`, `cover_wf`, `getFor_nodup` and its preservation by `add`
  and `remove` in Lemmas/BlockSetInv.lean), over every set that is built by adding an arbitrary list of
  blocks, in any order, to the empty set (`built`; the registered property theorems `C15_*`), and over
  every set reachable by `add` and `remove` (`Reachable`, `C15_reachable_*`; `C15_swap_delete_breaks`
  shows what an order-changing delete would lose), for every query range and every maximum resolution.
  `dd`/`guard` select the code before (`false`) or after (`true`) the two repairs; the clauses that do
  not depend on a repair are proved for both.
-/
namespace Thanos.BlockSet

def built (bs : List Block) : BSet := (addAll empty bs).1

theorem built_wf (bs : List Block) : WF (built bs) := addAll_wf bs empty empty_wf

/-- selected blocks never exceed the maximum resolution (code before and after the repairs) -/
theorem C15_resolution (dd guard : Bool) (bs : List Block) (mint maxt maxRes : Int) (r : List Block) (b : Block)
    (hg : getFor dd guard (built bs) mint maxt maxRes = some r) (hb : b ∈ r) : b.res ≤ maxRes :=
  resolution_wf (built_wf bs) hg hb

/-- selected blocks all overlap the query range `[mint, maxt]` (block ranges are half-open) and satisfy the
    block matchers -/
theorem C15_overlap (dd guard : Bool) (bs : List Block) (mint maxt maxRes : Int) (r : List Block) (b : Block)
    (hg : getFor dd guard (built bs) mint maxt maxRes = some r) (hb : b ∈ r) :
    mint < b.maxt ∧ b.mint ≤ maxt ∧ b.keep = true :=
  let ⟨_, hk, h1, h2⟩ := getFor_sound hg hb
  ⟨h1, h2, hk⟩

/-- selected blocks cover every instant of the range that some added block of an allowed resolution covers
    (requests without block matchers: every `keep` is true) -/
theorem C15_cover (dd guard : Bool) (bs : List Block) (mint maxt maxRes t : Int) (r : List Block)
    (hkeep : ∀ b ∈ bs, b.keep = true)
    (hg : getFor dd guard (built bs) mint maxt maxRes = some r) (h1 : mint ≤ t) (h2 : t ≤ maxt)
    (hex : ∃ l ∈ (built bs).blocks, ∃ b ∈ l, b.res ≤ maxRes ∧ covers b t) : ∃ b' ∈ r, covers b' t := by
  refine cover_wf (built_wf bs) (fun l hl b hb => ?_) hg h1 h2 hex
  -- every block of the set is one of the added blocks
  exact hkeep b ((addAll_mem bs empty b (List.mem_flatten.mpr ⟨l, hl, hb⟩)).resolve_right List.not_mem_nil)

/-- C15 "never duplicate a block", at full strength, for the code selected by `dd` -/
def C15_nodup_full (dd : Bool) : Prop :=
  ∀ (bs : List Block) (mint maxt maxRes : Int) (r : List Block), bs.Nodup →
    getFor dd true (built bs) mint maxt maxRes = some r → r.Nodup

/-- the repaired `getFor` (recursive results appended with `appendMissing`) never returns a block twice -/
theorem C15_nodup : C15_nodup_full true := by
  intro bs mint maxt maxRes r hnd hg
  exact getFor_nodup (addAll_nodup bs empty List.nodup_nil hnd fun _ _ => List.not_mem_nil) hg

/-- the code before the repair did: 1h block [100,200), 5m block [0,300), query [0,300] at 1h (F15) -/
theorem C15_nodup_unrepaired_false : ¬ C15_nodup_full false := by
  intro h
  have := h [⟨0, 3600000, 100, 200, true⟩, ⟨1, 300000, 0, 300, true⟩] 0 300 3600000
    [⟨1, 300000, 0, 300, true⟩, ⟨0, 3600000, 100, 200, true⟩, ⟨1, 300000, 0, 300, true⟩] (by decide) (by decide)
  revert this
  decide

/-- C15 "for any … maximum resolution": the call returns (no run-time panic) -/
def C15_total_full (guard : Bool) : Prop :=
  ∀ (dd : Bool) (s : BSet) (mint maxt maxRes : Int), (getFor dd guard s mint maxt maxRes).isSome = true

theorem C15_total : C15_total_full true := by
  intro dd s mint maxt maxRes
  fun_cases getFor dd true s mint maxt maxRes with
  | case4 _ _ _ hg => exact absurd rfl hg
  | _ => rfl

/-- before the repair a maximum resolution below every level indexed `s.blocks[3]` -/
theorem C15_total_unrepaired_false : ¬ C15_total_full false := by
  intro h
  have := h false empty 0 0 (-1)
  revert this
  decide

/-- … and only then: with some allowed resolution the unrepaired code returns as well -/
theorem C15_total_unrepaired_partial (dd : Bool) (s : BSet) (h : WF s) (mint maxt maxRes : Int)
    (hres : ∃ r ∈ s.ress, r ≤ maxRes) : (getFor dd false s mint maxt maxRes).isSome = true := by
  obtain ⟨r, hr, hle⟩ := hres
  obtain ⟨j, hj⟩ := List.mem_iff_getElem?.mp hr
  have hlt : firstIdx s.ress maxRes < s.blocks.length :=
    h.len ▸ Nat.lt_of_le_of_lt (firstIdx_le_of_le hj hle) (List.getElem?_eq_some_iff.mp hj).1
  by_cases hm : mint > maxt
  · simp only [getFor, if_pos hm, Option.isSome_some]
  · rw [getFor_of_lt hm hlt, Option.isSome_some]

/-- the sets the store gateway can hold: built from the empty set by `add` (of a block object that is not in the
    set: a block is loaded once; a re-added block is a new object) and `remove`, in any order.  The driver replays a
    history with `run` (Model/BlockSet.lean), which does not check that side condition of `add`; no theorem is about
    `run`. -/
inductive Reachable : BSet → Prop where
  | empty : Reachable empty
  | add {s s' : BSet} {b : Block} : Reachable s → b ∉ s.blocks.flatten → add s b = some s' → Reachable s'
  | remove {s : BSet} (id : Nat) : Reachable s → Reachable (remove s id)

theorem reachable_wf {s : BSet} (h : Reachable s) : WF s := by
  induction h with
  | empty => exact empty_wf
  | add _ _ ha ih => exact add_wf ih ha
  | remove id _ ih => exact remove_wf ih id

theorem reachable_distinct {s : BSet} (h : Reachable s) : s.blocks.flatten.Nodup := by
  induction h with
  | empty => exact List.nodup_nil
  | add _ hb ha ih => exact (add_perm ha).nodup_iff.mpr (List.nodup_cons.mpr ⟨hb, ih⟩)
  | remove id _ ih => exact remove_distinct ih id

/-- C15 for every reachable set: resolution, overlap and block matchers -/
theorem C15_reachable_resolution_overlap (dd guard : Bool) (s : BSet) (hs : Reachable s) (mint maxt maxRes : Int)
    (r : List Block) (b : Block) (hg : getFor dd guard s mint maxt maxRes = some r) (hb : b ∈ r) :
    b.res ≤ maxRes ∧ mint < b.maxt ∧ b.mint ≤ maxt ∧ b.keep = true :=
  let ⟨_, hk, h1, h2⟩ := getFor_sound hg hb
  ⟨resolution_wf (reachable_wf hs) hg hb, h1, h2, hk⟩

/-- C15 for every reachable set: coverage (requests without block matchers) -/
theorem C15_reachable_cover (dd guard : Bool) (s : BSet) (hs : Reachable s) (mint maxt maxRes t : Int) (r : List Block)
    (hkeep : ∀ l ∈ s.blocks, ∀ b ∈ l, b.keep = true)
    (hg : getFor dd guard s mint maxt maxRes = some r) (h1 : mint ≤ t) (h2 : t ≤ maxt)
    (hex : ∃ l ∈ s.blocks, ∃ b ∈ l, b.res ≤ maxRes ∧ covers b t) : ∃ b' ∈ r, covers b' t :=
  cover_wf (reachable_wf hs) hkeep hg h1 h2 hex

/-- C15 for every reachable set: no block twice (repaired `getFor`) -/
theorem C15_reachable_nodup (guard : Bool) (s : BSet) (hs : Reachable s) (mint maxt maxRes : Int) (r : List Block)
    (hg : getFor true guard s mint maxt maxRes = some r) : r.Nodup :=
  getFor_nodup (reachable_distinct hs) hg

/-- an order-destroying delete (swap with the last block) breaks the invariant `getFor` relies on: after removing the
    first of three raw blocks that way the level is not sorted, and the block [100,200) is lost from the selection for
    [0,150] (the scan ends at the block [200,300), which then comes first) — what the order-preserving `remove` of the
    model (and of the code) avoids -/
theorem C15_swap_delete_breaks :
    let swapped : BSet := { empty with blocks := [[], [], [⟨2, 0, 200, 300, true⟩, ⟨1, 0, 100, 200, true⟩]] }
    (getFor true true swapped 0 150 0).map (·.map (·.id)) = some [] ∧
    (getFor true true (remove (built [⟨0, 0, 0, 100, true⟩, ⟨1, 0, 100, 200, true⟩, ⟨2, 0, 200, 300, true⟩]) 0) 0 150 0).map
      (·.map (·.id)) = some [1] := by decide

/-! ### regenerated facts: the level table, the loop conditions and the delete of `remove` are the modelled ones -/

theorem C15_fact_resolutions :
    Thanos.Facts.storesBlockSetResolutions = "[]int64{downsample.ResLevel2, downsample.ResLevel1, downsample.ResLevel0}"
    ∧ Thanos.Facts.storesResLevels = ["int64(0)", "int64(5 * 60 * 1000)", "int64(60 * 60 * 1000)"]
    ∧ resolutions = [60 * 60 * 1000, 5 * 60 * 1000, 0] := ⟨rfl, rfl, rfl⟩

theorem C15_fact_getFor :
    Thanos.Facts.storesGetForConds = ["mint > maxt", "i == len(s.resolutions)", "b.meta.MaxTime <= mint", "b.meta.MinTime > maxt",
      "i+1 < len(s.resolutions)", "len(blockMatchers) == 0 || b.matchRelabelLabels(blockMatchers)",
      "i+1 < len(s.resolutions)"]
    ∧ Thanos.Facts.storesGetForRecursion = ["start, b.meta.MinTime - 1, s.resolutions[i+1], blockMatchers",
      "start, maxt, s.resolutions[i+1], blockMatchers"]
    ∧ Thanos.Facts.storesGetForAppends = ["appendMissingBlocks", "append", "appendMissingBlocks"] := ⟨rfl, rfl, rfl⟩

/-- `remove` deletes with the order-preserving `append(bs[:j], bs[j+1:]...)` -/
theorem C15_fact_remove :
    Thanos.Facts.storesBlockSetRemove = ["s.blocks[i] = append(bs[:j], bs[j+1:]...)", "Lock", "Unlock", "append"] := rfl

/-- the recursive call passes `s.resolutions[i+1]` as maximum resolution and searches the level again:
    with the (strictly descending) level table that search ends at level `i+1`, which is what `getForL` does -/
theorem C15_recursion_level (i : Nat) (r : Int) (h : resolutions[i]? = some r) : firstIdx resolutions r = i :=
  firstIdx_next resolutions i r (by decide) h

-- a layout with a gap, an overlap and partial downsampling; the 5m block spans the 1h block
def exampleBlocks : List Block :=
  [⟨0, 0, 0, 100, true⟩, ⟨1, 300000, 0, 300, true⟩, ⟨2, 3600000, 100, 200, true⟩, ⟨3, 0, 250, 400, true⟩,
   ⟨4, 0, 350, 500, true⟩]

example : exampleBlocks.Nodup := by decide
example : ∀ b ∈ exampleBlocks, b.keep = true := by decide
-- the repaired code returns the 5m block once, the unrepaired one twice; the raw blocks fill what is left
example : (getFor true true (built exampleBlocks) 0 450 3600000).map (·.map (·.id)) = some [1, 2, 3, 4] := rfl
example : (getFor false true (built exampleBlocks) 0 450 3600000).map (·.map (·.id)) = some [1, 2, 1, 3, 4] := rfl
-- instant 420 is covered by the raw block 4 only, and block 4 is selected
example : ∃ l ∈ (built exampleBlocks).blocks, ∃ b ∈ l, b.res ≤ 3600000 ∧ covers b 420 := by decide
example : (getFor true true (built exampleBlocks) 0 450 (-1)) = some [] := rfl
example : (getFor true false (built exampleBlocks) 0 450 (-1)) = none := rfl
example : ∃ r ∈ (built exampleBlocks).ress, r ≤ 0 := by decide

end Thanos.BlockSet
