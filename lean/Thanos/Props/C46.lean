import Thanos.Model.AlertQueue
import Thanos.Generated.Facts
/-
  C46 — The alert queue is a bounded FIFO that never loses a wake-up.

  `C46_cap`, `C46_fifo` and `C46_wakeup` are invariants of `Reach c`: every state reachable by any
  interleaving of any number of pushers and poppers (the skeleton of Push/Pop: Push atomic under
  the mutex; Pop = channel receive outside the mutex, then the body under it).  The others hold of
  every single `push` or `pop`.

  The file is self-contained, there is no lemma module: the invariant `Inv` with one preservation lemma per
  event (`inv_push`, `inv_take`, `inv_pop`) and the closed form of the two truncation rules of `Push`
  (`pushQueue_eq_drop`) are here.
-/
namespace Thanos.AlertQueue

variable {α : Type}

/-- the two truncation rules of `Push` together: the new queue is the last `cap` elements of
    old queue ++ kept -/
theorem pushQueue_eq_drop (cap : Nat) (queue kept : List α) :
    pushQueue cap queue kept = (queue ++ kept).drop (queue.length + kept.length - cap) := by
  unfold pushQueue
  rw [List.drop_append]
  by_cases h1 : kept.length > cap
  · -- `cap` alerts survive the first rule and push the whole old queue out
    have hc := Nat.le_of_lt h1
    rw [if_pos h1]
    dsimp only
    rw [List.length_drop, Nat.sub_sub_self hc, Nat.add_sub_cancel, Nat.add_sub_assoc hc, Nat.add_sub_cancel_left,
      List.drop_eq_nil_of_le (Nat.le_add_right _ _), List.drop_length]
    split
    · rfl
    · rename_i h2
      rw [List.eq_nil_of_length_eq_zero (l := queue) (by omega)]
  · rw [if_neg h1, Nat.sub_eq_zero_of_le (Nat.sub_le_iff_le_add.mpr (Nat.add_le_add_left (Nat.le_of_not_lt h1) _)),
      List.drop_zero]
    dsimp only
    split
    · rfl
    · rename_i h2
      rw [Nat.sub_eq_zero_of_le (Nat.le_of_not_lt h2), List.drop_zero]

theorem pushQueue_length (cap : Nat) (queue kept : List α) : (pushQueue cap queue kept).length ≤ cap := by
  rw [pushQueue_eq_drop, List.length_drop, List.length_append]
  omega

/-- a push only ever discards the OLDEST alerts: the new queue is a suffix of old queue ++ kept -/
theorem push_drops_oldest (cap : Nat) (queue kept : List α) :
    ∃ dropped, queue ++ kept = dropped ++ pushQueue cap queue kept :=
  ⟨(queue ++ kept).take (queue.length + kept.length - cap), by rw [pushQueue_eq_drop, List.take_append_drop]⟩

theorem pop_eq_some {c : Cfg} {s s' : State α} {b : List α} (h : pop c s = some (b, s')) :
    s.holding ≠ 0 ∧ b = s.queue.take c.maxBatch ∧
    s' = { s with queue := s.queue.drop c.maxBatch, holding := s.holding - 1, out := s.out ++ s.queue.take c.maxBatch,
                  token := if (s.queue.drop c.maxBatch).isEmpty then s.token else true } := by
  unfold pop at h
  split at h
  · cases h
  · rename_i hh
    cases h
    exact ⟨hh, rfl, rfl⟩

/-- the invariant of `Reach c`; its fields are the conclusions of `C46_cap`, `C46_wakeup` and `C46_fifo` -/
structure Inv (c : Cfg) (s : State α) : Prop where
  cap : s.queue.length ≤ c.cap
  wake : s.queue ≠ [] → s.token = true ∨ 0 < s.holding
  fifo : ∃ pre, s.hist = pre ++ s.queue ∧ s.out.Sublist pre

theorem inv_init (c : Cfg) : Inv c (init : State α) :=
  ⟨by simp [init], by simp [init], ⟨[], by simp [init], by simp [init]⟩⟩

theorem inv_push (c : Cfg) (s : State α) (kept : List α) (h : Inv c s) : Inv c (push c s kept) := by
  unfold push
  by_cases he : kept.isEmpty
  · simpa [he] using h
  · simp only [he, Bool.false_eq_true, if_false]
    refine ⟨pushQueue_length c.cap s.queue kept, fun _ => Or.inl rfl, ?_⟩
    obtain ⟨pre, hh, hs⟩ := h.fifo
    obtain ⟨dropped, hd⟩ := push_drops_oldest c.cap s.queue kept
    refine ⟨pre ++ dropped, ?_, hs.trans (List.sublist_append_left pre dropped)⟩
    simp only
    rw [hh, List.append_assoc, hd, List.append_assoc]

theorem inv_take (c : Cfg) (s s' : State α) (h : Inv c s) (ht : take s = some s') : Inv c s' := by
  unfold take at ht
  by_cases hk : s.token
  · simp only [hk, if_true, Option.some.injEq] at ht
    subst ht
    exact ⟨h.cap, fun _ => Or.inr (Nat.succ_pos _), h.fifo⟩
  · simp [hk] at ht

/-- a popper that finds its way to the body with alerts still left afterwards re-arms the
    token itself (the `if len(q.queue) > 0` send of Pop). -/
theorem C46_rearm (c : Cfg) (s s' : State α) (b : List α) (hp : pop c s = some (b, s')) (hne : s'.queue ≠ []) :
    s'.token = true := by
  obtain ⟨_, _, rfl⟩ := pop_eq_some hp
  show (if (s.queue.drop c.maxBatch).isEmpty then s.token else true) = true
  rw [if_neg (by rw [List.isEmpty_iff]; exact hne)]

theorem inv_pop (c : Cfg) (s s' : State α) (b : List α) (h : Inv c s) (hp : pop c s = some (b, s')) :
    Inv c s' := by
  have hre := C46_rearm c s s' b hp
  obtain ⟨_, _, rfl⟩ := pop_eq_some hp
  refine ⟨Nat.le_trans (List.length_drop ▸ Nat.sub_le _ _) h.cap, fun hne => Or.inl (hre hne), ?_⟩
  · obtain ⟨pre, hh', hs⟩ := h.fifo
    refine ⟨pre ++ s.queue.take c.maxBatch, ?_, List.Sublist.append hs (List.Sublist.refl _)⟩
    show s.hist = _
    rw [hh', List.append_assoc, List.take_append_drop]

theorem inv_reach (c : Cfg) (s : State α) (h : Reach c s) : Inv c s := by
  induction h with
  | init => exact inv_init c
  | push kept _ ih => exact inv_push c _ kept ih
  | take _ ht ih => exact inv_take c _ _ ih ht
  | pop _ hp ih => exact inv_pop c _ _ _ ih hp

/-- **bounded**: in every reachable state the queue holds at most `capacity` alerts -/
theorem C46_cap (c : Cfg) (s : State α) (h : Reach c s) : s.queue.length ≤ c.cap := (inv_reach c s h).cap

/-- **batches**: every batch a pop body returns has at most `maxBatchSize` alerts -/
theorem C46_batch (c : Cfg) (s s' : State α) (b : List α) (hp : pop c s = some (b, s')) :
    b.length ≤ c.maxBatch := by
  rw [(pop_eq_some hp).2.1, List.length_take]
  exact Nat.min_le_left _ _

/-- **FIFO**: the queue is always the tail end of everything pushed (and kept by relabelling), and
    the alerts popped so far are, in order, a subsequence of what came before that tail — so
    alerts leave in push order, nothing is duplicated or invented, and whatever is missing was cut
    off at the old end (`push_drops_oldest`). -/
theorem C46_fifo (c : Cfg) (s : State α) (h : Reach c s) :
    ∃ pre, s.hist = pre ++ s.queue ∧ s.out.Sublist pre := (inv_reach c s h).fifo

/-- **no lost wake-up**: whenever alerts are queued, the channel holds a token or some popper has
    received one and is on its way to the pop body — a popper can never sleep on a non-empty queue
    with nobody coming.  (Safety only: that a waiting popper is served needs `C46_rearm` and a fair
    scheduler, which is not modelled.) -/
theorem C46_wakeup (c : Cfg) (s : State α) (h : Reach c s) (hne : s.queue ≠ []) :
    s.token = true ∨ 0 < s.holding := (inv_reach c s h).wake hne

/-- **no loss below capacity**: a push that fits (queue + kept ≤ capacity) appends all kept alerts and
    drops nothing — truncation happens only on overflow (`push_drops_oldest`). -/
theorem C46_no_drop_under_cap (c : Cfg) (s : State α) (kept : List α)
    (h : s.queue.length + kept.length ≤ c.cap) : (push c s kept).queue = s.queue ++ kept := by
  unfold push
  split
  · rename_i he
    rw [List.isEmpty_iff.mp he, List.append_nil]
  · show pushQueue c.cap s.queue kept = _
    rw [pushQueue_eq_drop, Nat.sub_eq_zero_of_le h, List.drop_zero]

-- non-vacuity: two fitting pushes keep everything
example : (push ⟨4, 2⟩ (push ⟨4, 2⟩ (init : State Nat) [1, 2]) [3]).queue = [1, 2, 3] := by decide

/-- **pop conserves**: a pop body moves exactly its batch — the front of the queue — to the output;
    popped ++ queued is unchanged, so `Pop` itself never loses, duplicates or reorders an alert. -/
theorem C46_pop_conserves (c : Cfg) (s s' : State α) (b : List α) (hp : pop c s = some (b, s')) :
    s'.out ++ s'.queue = s.out ++ s.queue ∧ s'.out = s.out ++ b ∧ s.queue = b ++ s'.queue ∧ s'.hist = s.hist := by
  obtain ⟨_, rfl, rfl⟩ := pop_eq_some hp
  exact ⟨by rw [List.append_assoc, List.take_append_drop], rfl, (List.take_append_drop _ _).symm, rfl⟩

/-- Without the send in `Push` the wake-up clause is false: one push, and the queue is non-empty
    with no token and nobody holding (the seeded change "morec send removed from Push"). -/
theorem C46_wakeup_needs_push_send :
    let s : State Nat := { (init : State Nat) with queue := [1], hist := [1] }
    s.queue ≠ [] ∧ ¬ (s.token = true ∨ 0 < s.holding) := by decide

/-- A Pop body that is NOT one step — cut the batch under the mutex, unlock, and only then, having seen
    the queue empty, take a pending token out of the channel — loses a wake-up when a whole Push fits
    in between: push [1]; receive; cut (queue empty); push [2] (token set); discard the token ⇒ alert 2
    is queued, no token, nobody inside Pop.  (The seeded change C46-a; the replay item
    `K` parks a Pop at that point on the real queue.) -/
theorem C46_split_pop_loses_wakeup :
    let c : Cfg := ⟨10, 10⟩
    let s1 := push c (init : State Nat) [1]
    let s2 := { s1 with token := false, holding := 1 }                       -- receive
    let s3 := { s2 with queue := [], out := [1], holding := 0 }              -- cut the batch, unlock
    let s4 := push c s3 [2]                                                   -- a whole Push
    let s5 := { s4 with token := false }                                      -- discard the token
    s5.queue ≠ [] ∧ ¬ (s5.token = true ∨ 0 < s5.holding) := by decide

/-- Regenerated obligations: the synchronisation skeleton of the two methods, in source order —
    Pop receives from `morec` (or `termc`) BEFORE it locks and re-arms under the lock only when
    alerts are left; Push returns early on an empty list before locking and again after
    relabelling, and otherwise ends with the non-blocking send under the lock. -/
theorem C46_pop_skeleton : Thanos.Facts.alertQueuePopSkeleton =
    ["select{recv termc|recv q.morec}", "return", "q.mtx.Lock", "defer q.mtx.Unlock", "if len(q.queue) > 0",
     "select{send q.morec|default}", "return"] := rfl

theorem C46_push_skeleton : Thanos.Facts.alertQueuePushSkeleton =
    ["if len(alerts) == 0", "return", "q.mtx.Lock", "defer q.mtx.Unlock", "if len(alerts) == 0", "return",
     "if d := len(alerts) - q.capacity; d > 0", "if d := (len(q.queue) + len(alerts)) - q.capacity; d > 0",
     "select{send q.morec|default}"] := rfl

-- non-vacuity: a concrete interleaving — push 3, a popper receives, another push arrives before
-- its body runs, the body pops 2 and re-arms
example : Reach ⟨4, 2⟩ (push ⟨4, 2⟩ (init : State Nat) [1, 2, 3]) := Reach.push _ Reach.init
example : take (push ⟨4, 2⟩ (init : State Nat) [1, 2, 3]) =
    some { queue := [1, 2, 3], token := false, holding := 1, hist := [1, 2, 3], out := [] } := by decide
example : (pop ⟨4, 2⟩ ({ queue := [2, 3, 4, 5], token := true, holding := 1, hist := [1, 2, 3, 4, 5], out := [] } : State Nat)).map (·.1)
    = some [2, 3] := by decide
example : pushQueue 4 [1, 2, 3] [4, 5] = [2, 3, 4, 5] := by decide
example : pushQueue 2 [1] [4, 5, 6] = [5, 6] := by decide

end Thanos.AlertQueue
