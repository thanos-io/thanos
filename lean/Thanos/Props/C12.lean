import Thanos.Model.PostingsCodec
import Thanos.Lemmas.PostingsCodec
import Thanos.Generated.Facts
/-
  C12 — Cached posting-list encodings decode to the original list.

  Both cache codecs ("dvs": one snappy block, "dss": framed snappy stream) store the same
  diff+uvarint payload.  Snappy/s2 is third party: the theorems are stated on the payload, and
  what is assumed of the compression layer is the hypothesis `chunks.flatten = bs` ("the payloads
  of the stream's data chunks, in order, concatenate to the bytes that were written") — for
  *every* way the library may have cut the payload into chunks, including cuts inside a varint
  and empty chunks.  The harness extracts the real chunking of every generated case.
-/
namespace Thanos.PostingsCodec

/-- the list handed to the encoder: sorted (equal neighbours allowed), entries below 2^64 -/
abbrev SortedRefs (l : List Nat) : Prop := Nondec 0 l

/-- sorted lists are always encoded … -/
theorem C12_encode_accepts_sorted (l : List Nat) (h : SortedRefs l) : ∃ bs, encode l = some bs :=
  ((nondec_iff_encodeFrom l 0).mp h).2

/-- … and unsorted ones are rejected ("postings entries must be in increasing order") -/
theorem C12_encode_rejects_unsorted (l : List Nat) (hb : ∀ v ∈ l, v < M64) (h : ¬ SortedRefs l) :
    encode l = none := by
  cases he : encode l with
  | none => rfl
  | some bs => exact absurd ((nondec_iff_encodeFrom l 0).mpr ⟨hb, bs, he⟩) h

private theorem streamInv0 {l bs : List Nat} {chunks : List (List Nat)} (hs : SortedRefs l)
    (he : encode l = some bs) (hc : chunks.flatten = bs) : StreamInv ⟨0, [], chunks⟩ ⟨0, l⟩ :=
  ⟨rfl, hs, hc ▸ he⟩

private theorem plainInv0 {l bs : List Nat} (hs : SortedRefs l) (he : encode l = some bs) :
    PlainInv ⟨0, bs, false⟩ ⟨0, l⟩ :=
  ⟨rfl, rfl, hs, he⟩

/-- Round trip, streamed codec: whatever the chunk boundaries of the snappy stream are (a varint
    split across chunks is reassembled), decoding gives back the list.  No bound on the length. -/
theorem C12_roundtrip_streamed (l bs : List Nat) (chunks : List (List Nat)) (hs : SortedRefs l)
    (he : encode l = some bs) (hc : chunks.flatten = bs) : decodeStream chunks = l := by
  have hinv := streamInv0 hs he hc
  exact drain_sim stream_sim l _ 0 _ hinv (Nat.succ_le_succ (stream_sim.size_ok _ _ hinv))

/-- Round trip, plain codec. -/
theorem C12_roundtrip_plain (l bs : List Nat) (hs : SortedRefs l) (he : encode l = some bs) :
    decodePlain bs = l := by
  have hinv := plainInv0 hs he
  exact drain_sim plain_sim l _ 0 _ hinv (Nat.succ_le_succ (plain_sim.size_ok _ _ hinv))

/-- Seeking/stepping in the decoded list behaves as in the original list: every script of
    Next/Seek calls yields the same results and the same `At()` values (streamed codec, any
    chunking). -/
theorem C12_seek_streamed (l bs : List Nat) (chunks : List (List Nat)) (hs : SortedRefs l)
    (he : encode l = some bs) (hc : chunks.flatten = bs) (ops : List Op) :
    runG streamOps ops ⟨0, [], chunks⟩ = Ref.run ops ⟨0, l⟩ :=
  run_sim stream_sim ops _ _ (streamInv0 hs he hc)

/-- … and for the plain codec. -/
theorem C12_seek_plain (l bs : List Nat) (hs : SortedRefs l) (he : encode l = some bs)
    (ops : List Op) : runG plainOps ops ⟨0, bs, false⟩ = Ref.run ops ⟨0, l⟩ :=
  run_sim plain_sim ops _ _ (plainInv0 hs he)

/-- the chunking chosen by the compression library is unobservable -/
theorem C12_chunking_irrelevant (l bs : List Nat) (c1 c2 : List (List Nat)) (hs : SortedRefs l)
    (he : encode l = some bs) (h1 : c1.flatten = bs) (h2 : c2.flatten = bs) (ops : List Op) :
    runG streamOps ops ⟨0, [], c1⟩ = runG streamOps ops ⟨0, [], c2⟩ := by
  rw [C12_seek_streamed l bs c1 hs he h1, C12_seek_streamed l bs c2 hs he h2]

/-- the first `Next` of a decoded plain iterator reports no error on what the encoder wrote (that no later call does
    is in `PlainInv`, which `next_sim` and `seek_sim` carry along every script; it is not stated) -/
theorem C12_plain_no_error (l bs : List Nat) (hs : SortedRefs l) (he : encode l = some bs) :
    (plainOps.next ⟨0, bs, false⟩).2.err = false := by
  have h := next_sim plain_sim _ _ (plainInv0 hs he)
  exact h.2.1

/-! ### regenerated facts: the order test of the encoders and the guards of Seek -/

theorem C12_order_test_fact :
    Thanos.Facts.postingsEncodeOrderTest = "v < prev" ∧
    Thanos.Facts.postingsStreamedEncodeOrderTest = "v < prev" := ⟨rfl, rfl⟩

theorem C12_seek_guard_fact :
    Thanos.Facts.postingsSeekGuard = "it.cur >= x" ∧
    Thanos.Facts.postingsStreamedSeekGuard = "it.curSeries >= x" := ⟨rfl, rfl⟩

/-- the streamed codec writes through `snappy.NewBufferedWriter` (s2 in snappy-compatible mode,
    no `WriterPadding`): its output has identifier, compressed and uncompressed chunks only, so the
    decoder's refusal of padding chunks (type 0xfe) is unreachable from the encoders — the harness
    checks the chunk types of every real encoding -/
theorem C12_writer_fact : Thanos.Facts.snappyStreamWriterCtor = "snappy.NewBufferedWriter(nil)" := rfl

-- non-vacuity: a list with a duplicate, a two-byte diff and a large gap; its payload cut inside the
-- two-byte varint and with an empty chunk
example : SortedRefs [3, 3, 300, 2 ^ 40] := by simp [Nondec, M64]
example : encode [3, 3, 300, 2 ^ 40] = some [3, 0, 169, 2, 212, 253, 255, 255, 255, 31] := by rfl
example : decodeStream [[3, 0, 169], [], [2, 212, 253], [255, 255, 255, 31]] = [3, 3, 300, 2 ^ 40] := by
  rfl
example : runG streamOps [.seek 4, .next, .seek 2, .next, .next]
    ⟨0, [], [[3, 0, 169], [], [2, 212, 253], [255, 255, 255, 31]]⟩ =
    [some 300, some (2 ^ 40), some (2 ^ 40), none, none] := by rfl
example : encode [5, 3] = none := by decide
-- a cut-off varint at the end of a malformed payload: streamed Next just ends, plain Next sets the error
example : (plainOps.next ⟨0, [129], false⟩).2.err = true := by decide
example : (streamOps.next ⟨0, [129], []⟩).1 = false := by decide

end Thanos.PostingsCodec
