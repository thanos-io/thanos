import Thanos.Model.Iter
import Thanos.Model.ReadPath
import Thanos.Lemmas.ListLike
import Thanos.Lemmas.SeriesSet
import Thanos.Generated.Facts
/-
  C01 — Penalty replica deduplication yields a well-formed merge of replica samples.

  About `dedupSeries.Iterator` / `dedupSeriesIterator` of pkg/dedup/iter.go as transliterated in
  Model/Iter.lean (`mk fixed counter r rs`; `fixed` selects `Seek` before (`false`) or after (`true`) the
  repair of F01), for any number of replicas.  Read with `Next` the deduplicated series is the left fold of
  the pure penalty merge `pm2` over the replicas (`C01_drain`), from which order, provenance, the single
  and the identical-replica cases follow; every `Next`/`Seek` script sees a list iterator over that merged
  series (`C01_script`), a first `Seek` included once repaired (`C01_seek_first_fixed`, and
  `C01_seek_first_orig_false` for the unrepaired one); what a reader sees (`seekDrain`; `trunc`, `specF` for scripts)
  is defined in Lemmas/ListLike.lean.  Then the series-set level (`groupAdj`: which input series are replicas of which
  output series; Lemmas/SeriesSet.lean) and the int64 range (`C01_no_overflow`).
-/
namespace Thanos.Dedup

/-- input domain: every replica is sorted by time and its timestamps are not the sentinel
    `math.MinInt64` (which the code uses for "nothing emitted yet"); written out in `C01_seek_first` and
    `C01_set_provenance` -/
def ValidReplicas (r : List Sample) (rs : List (List Sample)) : Prop :=
  ∀ q ∈ r :: rs, SSorted q ∧ ∀ x ∈ q, minT < x.t

/-- "A reader that first seeks to some time t sees exactly the suffix (from t on) of what a
    reader iterating from the start sees", for the `Seek` selected by `fixed`. -/
def C01_seek_first (fixed : Bool) : Prop :=
  ∀ (r : List Sample) (rs : List (List Sample)) (t : Int),
    (∀ q ∈ r :: rs, SSorted q ∧ ∀ x ∈ q, minT < x.t) →
    seekDrain t (mk fixed false r rs) = (drain (mk fixed false r rs)).filter (fun x => t ≤ x.t)

/-- F01: the unrepaired `dedupSeriesIterator.Seek` answers a first `Seek` from side `a`
    while nothing has been emitted; the following `Next` goes back in time. -/
theorem C01_seek_first_orig_false : ¬ C01_seek_first false := by
  intro h
  have := h [⟨10000, 1⟩, ⟨20000, 2⟩, ⟨30000, 3⟩] [[⟨5000, 4⟩, ⟨15000, 5⟩, ⟨25000, 6⟩]] 1 (by
    unfold SSorted
    decide)
  revert this
  decide +kernel

/-! ### the deduplicated series is the fold of the pure penalty merge -/

theorem mk_goodL (r : List Sample) (rs : List (List Sample))
    (h : ∀ q ∈ r :: rs, ∀ x ∈ q, minT < x.t) : GoodL (mk true false r rs) (pmFold r rs) := by
  have hr := leaf_goodL r (h r List.mem_cons_self)
  cases rs with
  | nil => exact hr
  | cons r2 rs =>
    -- one replica more: `dedupSeriesIterator` over a fresh list-like iterator and a list iterator
    exact List.foldl_rel (r := GoodL) hr fun q hq _ _ hacc =>
      node_goodL hacc.toN (leaf_goodL q (h q (List.mem_cons_of_mem _ hq))).toN

/-- **Refinement.**  Reading the deduplicated series with `Next` yields exactly the fold of the
    pure penalty merge over the replicas: no sample is lost to a panic or to the loop fuel (`drain` does not show
    whether the `Next` after the last sample panics; that it does not is `C01_script`).  The replicas need not be
    sorted by time for this, nor for `C01_script`: only the sentinel is excluded. -/
theorem C01_drain (r : List Sample) (rs : List (List Sample))
    (h : ∀ q ∈ r :: rs, ∀ x ∈ q, minT < x.t) : drain (mk true false r rs) = pmFold r rs :=
  drain_good (mk_goodL r rs h)

/-- **C01, order.**  For any number of replicas the merged series has strictly increasing timestamps. -/
theorem C01_increasing (r : List Sample) (rs : List (List Sample)) (h : ValidReplicas r rs) :
    SSorted (drain (mk true false r rs)) := by
  rw [C01_drain r rs (fun q hq => (h q hq).2)]
  exact pmFold_sorted (h r List.mem_cons_self).1 (h r List.mem_cons_self).2 (fun q hq => (h q (List.mem_cons_of_mem _ hq)).2)

/-- **C01, provenance.**  Every sample of the merged series is a sample (same timestamp and
    value) of one of the replicas. -/
theorem C01_provenance (r : List Sample) (rs : List (List Sample)) (h : ValidReplicas r rs)
    (z : Sample) (hz : z ∈ drain (mk true false r rs)) : ∃ q ∈ r :: rs, z ∈ q := by
  rw [C01_drain r rs (fun q hq => (h q hq).2)] at hz
  rcases pmFold_mem hz with h | ⟨q, hq, hz⟩
  · exact ⟨r, List.mem_cons_self, h⟩
  · exact ⟨q, List.mem_cons_of_mem _ hq, hz⟩

/-- **C01, provenance, for every function name outside `isCounter`'s set** (gauge functions,
    `*_over_time`, aggregations, the Thanos x-functions `xrate`/`xincrease`/`xdelta`, unknown
    names, the empty name). -/
theorem C01_provenance_fn (f : String) (hf : f ∉ counterFuncs) (r : List Sample)
    (rs : List (List Sample)) (h : ValidReplicas r rs)
    (z : Sample) (hz : z ∈ drain (mkF true f r rs)) : ∃ q ∈ r :: rs, z ∈ q := by
  have : isCounter f = false := Bool.eq_false_iff.mpr fun hc => hf (List.contains_iff_mem.mp hc)
  unfold mkF at hz
  rw [this] at hz
  exact C01_provenance r rs h z hz

/-- the boundary the classification must not cross: the extended range functions of the Thanos
    engine and the gauge functions are NOT counter functions -/
example : ["xrate", "xincrease", "xdelta", "delta", "idelta", "deriv", "", "sum", "max_over_time"].all
    (fun f => !isCounter f) = true := by decide +kernel

/-! ### the series-SET level: which input series are replicas of which output series -/

/-- **one output series per distinct label set**: if the input arrives in label order (any order
    `le` in which different label sets are not mutually `le` — `labels.Compare`), the output label
    sets are pairwise different -/
theorem C01_set_one_per_labelset (le : List Lbl → List Lbl → Prop)
    (antisymm : ∀ a b, le a b → le b a → a = b)
    (l : List (List Lbl × List Sample)) (hs : (l.map (·.1)).Pairwise le) :
    (groupAdj l).Pairwise (fun a b => a.1 ≠ b.1) :=
  AdjDistinct.pairwise antisymm (List.Pairwise.sublist (groupAdj_labels_sublist l) hs) (groupAdj_adjDistinct l)

/-- **C01 at the set level**: for every function name outside `isCounter`'s set, every sample of
    every output series of `dedup.NewSeriesSet` is a sample (timestamp and value) of an input
    series WITH THAT OUTPUT SERIES' LABEL SET (replica labels removed) — no sample crosses from one
    logical series into another, whatever the label sets are -/
theorem C01_set_provenance (f : String) (hf : f ∉ counterFuncs) (rl : List String)
    (series : List (List Lbl × List Sample))
    (hv : ∀ s ∈ series, SSorted s.2 ∧ ∀ x ∈ s.2, minT < x.t) :
    ∀ o ∈ dedupSet true f rl series, ∀ z ∈ drain o.2,
      ∃ s ∈ series, normLbls (rmLabels rl s.1) = o.1 ∧ z ∈ s.2 := by
  intro o ho z hz
  obtain ⟨⟨ls, reps⟩, hg, rfl⟩ := List.mem_map.mp ho
  -- every replica of the group is an input series under the group's label set
  obtain ⟨hne, hmem⟩ := groupAdj_mem _ _ hg
  cases reps with
  | nil => exact absurd rfl hne
  | cons r rs =>
    have hvalid : ValidReplicas r rs := by
      intro q hq
      obtain ⟨s, hs, hs2⟩ := List.mem_map.mp (hmem q hq)
      cases hs2
      exact hv s hs
    obtain ⟨q, hq, hzq⟩ := C01_provenance_fn f hf r rs hvalid z hz
    obtain ⟨s, hs, hs2⟩ := List.mem_map.mp (hmem q hq)
    cases hs2
    exact ⟨s, hs, rfl, hzq⟩

/-- the hash-colliding label sets of the Prometheus TSDB tests are different label sets: two
    output series -/
example : (dedupSet true "" ["replica"]
    [([("__name__", "metric"), ("lbl1", "value"), ("lbl2", "l6CQ5y"), ("replica", "a")], [⟨10, 1⟩]),
     ([("__name__", "metric"), ("lbl1", "value"), ("lbl2", "l6CQ5y"), ("replica", "b")], [⟨10, 1⟩]),
     ([("__name__", "metric"), ("lbl1", "value"), ("lbl2", "v7uDlF"), ("replica", "a")], [⟨10, 7⟩])]).map
      (fun o => (o.1, drain o.2))
    = [([("__name__", "metric"), ("lbl1", "value"), ("lbl2", "l6CQ5y")], [⟨10, 1⟩]),
       ([("__name__", "metric"), ("lbl1", "value"), ("lbl2", "v7uDlF")], [⟨10, 7⟩])] := by decide +kernel

/-- **C01, single replica.** -/
theorem C01_single (fixed counter : Bool) (r : List Sample) : drain (mk fixed counter r []) = r := by
  -- `dedupSeriesSet.At` returns the replica's own iterator
  show drainN leafOps (r.length + 1) { rest := r, started := false } = r
  rw [leaf_drainN]
  exact List.take_of_length_le (Nat.le_succ _)

/-- **C01, replicas that only hold samples of the first one** (shorter replicas, replicas with
    holes, and — for C04 — virtual replicas cut out of the same sequence): the first replica
    comes out unchanged. -/
theorem C01_subreplicas (r : List Sample) (rs : List (List Sample)) (hs : SSorted r)
    (hl : ∀ x ∈ r, minT < x.t) (hsub : ∀ q ∈ rs, q.Sublist r) :
    drain (mk true false r rs) = r := by
  rw [C01_drain r rs (by
    intro q hq x hx
    rcases List.mem_cons.mp hq with rfl | hq
    · exact hl x hx
    · exact hl x ((hsub q hq).subset hx))]
  exact pmFold_sublists hs hl rs hsub

/-- **C01, identical replicas.**  `n + 1` identical replicas come out as that replica. -/
theorem C01_identical (n : Nat) (r : List Sample) (hs : SSorted r) (hl : ∀ x ∈ r, minT < x.t) :
    drain (mk true false r (List.replicate n r)) = r :=
  C01_subreplicas r _ hs hl fun _ hq => (List.mem_replicate.mp hq).2 ▸ List.Sublist.refl r

/-- **C01, seek first** holds for the repaired `Seek`. -/
theorem C01_seek_first_fixed : C01_seek_first true := by
  intro r rs t h
  have hlow : ∀ q ∈ r :: rs, ∀ x ∈ q, minT < x.t := fun q hq => (h q hq).2
  rw [C01_drain r rs hlow, seekDrain_good (mk_goodL r rs hlow) t]
  exact (filter_ge_eq_dropLt t
    (pmFold_sorted (h r List.mem_cons_self).1 (h r List.mem_cons_self).2 (fun q hq => (h q (List.mem_cons_of_mem _ hq)).2))).symm

/-! ### every script: the deduplicated iterator is a list iterator over the merged series -/

/-- **C01, any script.**  For every sequence of `Next`/`Seek`
    calls (any targets, also going back) the deduplicated iterator shows, up to its exhaustion,
    exactly what a plain list iterator over the merged series `pmFold r rs` shows: no panic, no
    sample out of order, no sample repeated or lost by a `Seek`. -/
theorem C01_script (r : List Sample) (rs : List (List Sample)) (cs : List Call)
    (h : ∀ q ∈ r :: rs, ∀ x ∈ q, minT < x.t) :
    trunc ((mk true false r rs).run cs) = specF (pmFold r rs) cs :=
  run_specF (mk_goodL r rs h) cs

/-- the value fits Go's `int64` -/
def InInt64 (x : Int) : Prop := -9223372036854775808 ≤ x ∧ x ≤ 9223372036854775807

/-- **no_overflow.**  With all timestamps of magnitude below `2^59` every value
    `dedupSeriesIterator.Next` computes from the last emitted timestamp `lastT` (the sentinel
    `math.MinInt64` or an earlier sample's timestamp) and the chosen sample's timestamp `t` —
    the difference, the penalty `2 * (t - lastT)` or `initialPenalty`, and both `Seek` targets
    `t + 1` and `t + 1 + penalty` — fits `int64`, so the `Int` model and the Go code coincide. -/
theorem C01_no_overflow (lastT t : Int)
    (hl : lastT = minT ∨ (-576460752303423488 < lastT ∧ lastT < 576460752303423488))
    (ht : -576460752303423488 < t ∧ t < 576460752303423488) :
    (lastT ≠ minT → InInt64 (t - lastT)) ∧ InInt64 (pen lastT t) ∧ InInt64 (t + 1) ∧
    InInt64 (t + 1 + pen lastT t) ∧ InInt64 (lastT + 1) := by
  rcases hl with rfl | hl
  · rw [show pen minT t = 5000 from if_neg (fun h => h rfl)]
    unfold InInt64 minT
    omega
  · have hne : lastT ≠ minT := by simp only [minT]; omega
    rw [show pen lastT t = 2 * (t - lastT) from if_pos hne]
    unfold InInt64
    omega

/-! ### non-vacuity -/

example : ValidReplicas [⟨10000, 1⟩, ⟨20000, 2⟩, ⟨30000, 3⟩] [[⟨5000, 4⟩, ⟨15000, 5⟩, ⟨25000, 6⟩], [⟨7000, 7⟩, ⟨27000, 9⟩]] := by
  unfold ValidReplicas SSorted
  decide +kernel

/-- three replicas: the penalty window drops close samples, the result mixes replicas -/
example : drain (mk true false [⟨10000, 1⟩, ⟨20000, 2⟩, ⟨30000, 3⟩]
    [[⟨5000, 4⟩, ⟨15000, 5⟩, ⟨25000, 6⟩], [⟨7000, 7⟩, ⟨27000, 9⟩]]) = [⟨5000, 4⟩, ⟨15000, 5⟩, ⟨25000, 6⟩] := by
  decide +kernel

/-- the repaired `Seek` on the F01 witness -/
example : seekDrain 1 (mk true false [⟨10000, 1⟩, ⟨20000, 2⟩, ⟨30000, 3⟩] [[⟨5000, 4⟩, ⟨15000, 5⟩, ⟨25000, 6⟩]])
    = [⟨5000, 4⟩, ⟨15000, 5⟩, ⟨25000, 6⟩] := by decide

example : seekDrain 15001 (mk true false [⟨10000, 1⟩, ⟨20000, 2⟩, ⟨30000, 3⟩] [[⟨5000, 4⟩, ⟨15000, 5⟩, ⟨25000, 6⟩]])
    = [⟨25000, 6⟩] := by decide

/-! ### regenerated facts: the source still has the shape the model transliterates -/

/-- the repaired `Seek` starts with one `Next` exactly when nothing has been emitted
    (`nodeSeekFixed`); on a tree without the repair this fact is "unknown" and the model with
    `fixed = false` is the faithful one -/
theorem C01_fact_seek_guard : Thanos.Facts.dedupSeekGuard = "it.lastT == math.MinInt64" := rfl

theorem C01_fact_seek_calls :
    Thanos.Facts.dedupSeekCalls = ["it.Next", "it.AtT", "it.a.Seek", "it.b.Seek", "it.Next"] := rfl

/-- `initialPenalty`, the seek targets `lastT + 1 + pen`, the penalties `2 * (t - lastT)` and the
    choice `ta <= tb` of `nodeStep` are the ones in the source -/
theorem C01_fact_next_shape :
    Thanos.Facts.dedupInitialPenalty = "5000" ∧
    Thanos.Facts.dedupSeekArgsA = ["it.lastT + 1 + it.penA"] ∧
    Thanos.Facts.dedupSeekArgsB = ["it.lastT + 1 + it.penB"] ∧
    Thanos.Facts.dedupPenA = ["0", "0", "2 * (tb - it.lastT)", "initialPenalty"] ∧
    Thanos.Facts.dedupPenB = ["0", "2 * (ta - it.lastT)", "initialPenalty", "0"] ∧
    Thanos.Facts.dedupUseA = ["false", "true", "ta <= tb"] := ⟨rfl, rfl, rfl, rfl, rfl, rfl⟩

/-- the set of function names `isCounter` accepts is exactly the model's `counterFuncs`: the
    function is one disjunction of equality tests against these four names and nothing else
    (C01's provenance holds for every other name, C02's monotonicity for these) -/
theorem C01_fact_counter_funcs :
    Thanos.Facts.dedupCounterFuncs = counterFuncs ∧
    Thanos.Facts.dedupCounterReturns =
      ["f == \"increase\" || f == \"rate\" || f == \"irate\" || f == \"resets\""] ∧
    Thanos.Facts.dedupNewSeriesCounter = ["f"] := ⟨rfl, rfl, rfl⟩

/-- `dedupSeriesSet.next` decides "replica of the current series" by EQUALITY of the label sets
    (the model's `groupAdj`), of the label set `Next` took from the first series of the group -/
theorem C01_fact_set_grouping :
    Thanos.Facts.dedupSetNextConds = ["!s.ok", "!labels.Equal(s.lset, nextLset)"] ∧
    Thanos.Facts.dedupSetNextLset = "nextLset := s.peek.Labels()" ∧
    Thanos.Facts.dedupSetCurLset = ["s.peek.Labels()"] := ⟨rfl, rfl, rfl⟩

end Thanos.Dedup
