import Thanos.Model.Rules
import Thanos.Lemmas.Rules
import Thanos.Lemmas.SortCmp
import Thanos.Generated.Facts
/-
  C45 — Rules API label filters follow Prometheus semantics; replicas deduplicated to one per rule.

  `matchesOr` is the specification (Prometheus: a rule is returned iff its non-templated labels
  satisfy all selectors of at least one set); `codeMatches fixedLoop freshTmpl` (Model/Rules.lean)
  is the transliteration of `rules.matches` with two independent switches, each `false` for the
  defective code and `true` for the repaired one: the loop over the selector sets, and one
  template per label value instead of one per rule.  Each defect alone violates the property
  (`C45_full_false`, `C45_stale_false`) and is harmless on a stated class of inputs (`C45_partial`,
  `C45_stale_partial`); with both repairs the code is the specification (`C45_fixed`).
  The whole answer, with `dedupRules` and `filterRulesByMatchers`: `C45_pipeline`; from the
  `match[]` strings of the request: `C45_request`.
-/
namespace Thanos.Rules

/-- C45 (filter clause) at full strength for the code selected by the two switches. -/
def C45_full (fixedLoop freshTmpl : Bool) : Prop :=
  ∀ (sets : List (List Matcher)) (l : List Label), codeMatches fixedLoop freshTmpl sets l = matchesOr sets l

/-- The loop with AND across sets violates the property: rule {a="1"} with selector sets
    {a="1"} and {a="2"} is filtered out although the first set matches. -/
theorem C45_full_false : ¬ C45_full false true := by
  intro h
  have := h [[⟨"a", fun v => v == "1"⟩], [⟨"a", fun v => v == "2"⟩]] [⟨"a", "1", .plain⟩]
  revert this
  decide

/-- … and holds for at most one selector set (what the existing tests exercise). -/
theorem C45_partial (sets : List (List Matcher)) (l : List Label) (h : sets.length ≤ 1) :
    codeMatches false true sets l = matchesOr sets l := by
  match sets, h with
  | [], _ => rfl
  | [s], _ => simp [codeMatches, matchesAnd, matchesOr, matchesAny]

/-- One template shared by all labels of a rule also violates the property: after
    the plain label a="x" the comment-only value of b keeps a's parse tree and is taken for plain
    text, so the selector {b="{{/* c */}}"} matches a templated label. -/
theorem C45_stale_false : ¬ C45_full true false := by
  intro h
  have := h [[⟨"b", fun v => v == "{{/* c */}}"⟩]] [⟨"a", "x", .plain⟩, ⟨"b", "{{/* c */}}", .emptyOther⟩]
  revert this
  decide

theorem nonTemplatedStale_eq (l : List Label) (h : ∀ x ∈ l, x.cls ≠ .emptyText ∧ x.cls ≠ .emptyOther)
    (st : Option Bool) : nonTemplatedStale st l = nonTemplated l := by
  -- without empty trees the installed tree is never consulted.  Arms: no label; a value that fails to parse, plain
  -- text, a template (2–4); an empty tree, of text or not (5, 6)
  fun_induction nonTemplatedStale st l with
  | case1 => rfl
  | case2 st x xs hc ih | case3 st x xs hc ih | case4 st x xs hc ih =>
    rw [ih fun y hy => h y (List.mem_cons_of_mem _ hy), nonTemplated, nonTemplated, List.filter_cons, hc]
    rfl
  | case5 st x xs hc => exact absurd hc (h x List.mem_cons_self).1
  | case6 st x xs hc => exact absurd hc (h x List.mem_cons_self).2

/-- … and holds when no label value parses to an empty tree. -/
theorem C45_stale_partial (fixedLoop : Bool) (sets : List (List Matcher)) (l : List Label)
    (h : ∀ x ∈ l, x.cls ≠ .emptyText ∧ x.cls ≠ .emptyOther) :
    codeMatches fixedLoop false sets l = codeMatches fixedLoop true sets l := by
  simp [codeMatches, nonTemplatedStale_eq l h]

/-- The repaired `matches` is the specification, for any number of sets, matchers and labels. -/
theorem C45_fixed : C45_full true true := fun _ _ => rfl

/-- What the specification says, spelled out: no sets ⇒ everything; otherwise some set all of
    whose matchers accept the value of their label among the non-templated labels (`""` when the
    label is absent or templated). -/
theorem matchesOr_iff (sets : List (List Matcher)) (l : List Label) :
    matchesOr sets l = true ↔
      sets = [] ∨ ∃ s ∈ sets, ∀ m ∈ s, m.pred (get (nonTemplated l) m.name) = true := by
  cases sets with
  | nil => simp [matchesOr, matchesAny]
  | cons s ss => simp [matchesOr, matchesAny, setMatches, List.any_eq_true, List.all_eq_true]

/-- a templated label is invisible to the matchers: it reads as the empty value -/
theorem templated_reads_empty (l : List Label) (n : String)
    (h : ∀ x ∈ l, x.name = n → x.cls.ownText = false) : get (nonTemplated l) n = "" := by
  unfold get
  have : (nonTemplated l).find? (fun p => p.1 == n) = none := by
    rw [List.find?_eq_none]
    intro p hp
    simp only [nonTemplated, List.mem_map, List.mem_filter] at hp
    obtain ⟨x, ⟨hx, ht⟩, rfl⟩ := hp
    intro hn
    have := h x hx (by simpa using hn)
    simp [this] at ht
  simp [this]

/-- **One per rule.**  For any list of rules, `dedupRules` returns a list that is strictly
    increasing in `Rule.Compare` (so no two results are equal up to replica labels), every
    result is one of the inputs without its replica labels, every input is represented by a
    result of the same identity, and no replica of that identity is better (more critical state /
    later evaluation) than the survivor. -/
theorem dedup_one_per_rule (repl : List String) (rs : List Rule) :
    let out := dedupRules repl rs
    out.Pairwise (fun a b => ruleCmp a b = .lt) ∧
    (∀ o ∈ out, o ∈ rs.map (removeReplica repl)) ∧
    (∀ r ∈ rs, ∃ o ∈ out, sameRule o (removeReplica repl r) = true ∧ worse o (removeReplica repl r) = false) := by
  obtain ⟨h1, h2, h3⟩ := sortDedup_spec (rs.map (removeReplica repl))
  exact ⟨h1, h2, fun r hr => h3 _ (List.mem_map_of_mem hr)⟩

/-- Groups: the result has one group per `file;name` key, sorted by key, and its rules are the
    rules of all input groups with that key. -/
theorem dedup_groups_one_per_key (gs : List Group) :
    let out := dedupGroups gs
    out.Pairwise (fun a b => compare a.key b.key = .lt) ∧
    (∀ g ∈ gs, ∃ o ∈ out, o.key = g.key ∧ ∀ r ∈ g.rules, r ∈ o.rules) ∧
    (∀ o ∈ out, ∀ r ∈ o.rules, ∃ g ∈ gs, g.key = o.key ∧ r ∈ g.rules) := by
  have hsorted : (gs.mergeSort groupLe).Pairwise (fun a b => (compare a.key b.key).isLE = true) :=
    pairwise_mergeSort_isLE (compareOn Group.key) gs
  have hperm := List.mergeSort_perm gs groupLe
  unfold dedupGroups
  generalize gs.mergeSort groupLe = sorted at hsorted hperm
  cases sorted with
  | nil => cases hperm.symm.eq_nil; simp
  | cons x xs =>
    obtain ⟨h1, _, h3, h4⟩ := mergeLoop_spec x xs hsorted
    refine ⟨h1, fun g hg => h3 g (hperm.mem_iff.mpr hg), fun o ho r hr => ?_⟩
    obtain ⟨g, hg, h⟩ := h4 o ho r hr
    exact ⟨g, hperm.mem_iff.mp hg, h⟩

/-- `filterRulesByMatchers` keeps exactly the rules `matches` accepts and drops emptied groups -/
theorem filterGroups_spec (fixed fresh : Bool) (sets : List (List Matcher)) (hs : sets ≠ []) (gs : List Group)
    (g : Group) : g ∈ filterGroups fixed fresh sets gs ↔
      g.rules ≠ [] ∧ ∃ g0 ∈ gs, g.file = g0.file ∧ g.name = g0.name ∧
        g.rules = g0.rules.filter (fun r => codeMatches fixed fresh sets r.labels) := by
  have : sets.isEmpty = false := by cases sets <;> simp_all
  simp only [filterGroups, this, Bool.false_eq_true, if_false, List.mem_filter, List.mem_map]
  constructor
  · rintro ⟨⟨g0, h0, rfl⟩, hne⟩
    refine ⟨by simpa using hne, g0, h0, rfl, rfl, rfl⟩
  · rintro ⟨hne, g0, h0, hf, hn, hr⟩
    refine ⟨⟨g0, h0, ?_⟩, by simpa using hne⟩
    cases g; cases g0; simp_all

theorem key_with_rules (g : Group) (rs : List Rule) : ({ g with rules := rs } : Group).key = g.key := rfl

/-- what `filterRulesByMatchers` (repaired) leaves, with or without selector sets -/
theorem filterGroups_sound (sets : List (List Matcher)) (gs : List Group) (gf : Group)
    (h : gf ∈ filterGroups true true sets gs) :
    ∃ g ∈ gs, g.key = gf.key ∧ ∀ r ∈ gf.rules, r ∈ g.rules ∧ matchesOr sets r.labels = true := by
  unfold filterGroups at h
  split at h
  · rename_i he
    exact ⟨gf, h, rfl, fun r hr => ⟨hr, by rw [List.isEmpty_iff.mp he]; rfl⟩⟩
  · obtain ⟨g, hg, rfl⟩ := List.mem_map.mp (List.mem_filter.mp h).1
    exact ⟨g, hg, rfl, fun r hr => List.mem_filter.mp hr⟩

theorem filterGroups_complete (sets : List (List Matcher)) (gs : List Group) (g : Group) (hg : g ∈ gs)
    (r : Rule) (hr : r ∈ g.rules) (hm : matchesOr sets r.labels = true) :
    ∃ gf ∈ filterGroups true true sets gs, gf.key = g.key ∧ r ∈ gf.rules := by
  unfold filterGroups
  split
  · exact ⟨g, hg, rfl, hr⟩
  · have hin : r ∈ g.rules.filter (fun r => codeMatches true true sets r.labels) := List.mem_filter.mpr ⟨hr, hm⟩
    exact ⟨_, List.mem_filter.mpr ⟨List.mem_map_of_mem hg, by
      rw [Bool.not_eq_true', List.isEmpty_eq_false_iff]; exact List.ne_nil_of_mem hin⟩, rfl, hin⟩

/-- **The whole answer of the Rules API** (repaired filter): groups strictly sorted by key (one per
    `file;name`), the rules of a group strictly sorted by `Rule.Compare` (one per rule identity);
    every returned rule is an input rule of that group without its replica labels whose
    non-templated labels satisfy all selectors of at least one set; and every such input rule is
    represented in its group by a rule of the same identity that is at least as critical / recent. -/
theorem C45_pipeline (repl : List String) (sets : List (List Matcher)) (gs : List Group) :
    (rulesPipeline true true repl sets gs).Pairwise (fun a b => compare a.key b.key = .lt) ∧
    (∀ o ∈ rulesPipeline true true repl sets gs, o.rules.Pairwise (fun a b => ruleCmp a b = .lt)) ∧
    (∀ o ∈ rulesPipeline true true repl sets gs, ∀ r ∈ o.rules, ∃ g ∈ gs, g.key = o.key ∧
        ∃ r0 ∈ g.rules, r = removeReplica repl r0 ∧ matchesOr sets r0.labels = true) ∧
    (∀ g ∈ gs, ∀ r0 ∈ g.rules, matchesOr sets r0.labels = true →
        ∃ o ∈ rulesPipeline true true repl sets gs, o.key = g.key ∧
          ∃ r ∈ o.rules, sameRule r (removeReplica repl r0) = true ∧ worse r (removeReplica repl r0) = false) := by
  obtain ⟨d1, d2, d3⟩ := dedup_groups_one_per_key (filterGroups true true sets gs)
  unfold rulesPipeline
  refine ⟨?_, ?_, ?_, ?_⟩
  · exact List.Pairwise.map _ (fun a b h => by simpa [key_with_rules] using h) d1
  · intro o ho
    obtain ⟨g', _, rfl⟩ := List.mem_map.mp ho
    exact (dedup_one_per_rule repl g'.rules).1
  · intro o ho r hr
    obtain ⟨g', hg', rfl⟩ := List.mem_map.mp ho
    simp only at hr
    have hr1 := (dedup_one_per_rule repl g'.rules).2.1 r hr
    obtain ⟨r0, hr0, rfl⟩ := List.mem_map.mp hr1
    obtain ⟨gf, hgf, hkey, hmem⟩ := d3 g' hg' r0 hr0
    obtain ⟨g, hg, hk2, hall⟩ := filterGroups_sound sets gs gf hgf
    exact ⟨g, hg, by rw [hk2, hkey]; rfl, r0, (hall r0 hmem).1, rfl, (hall r0 hmem).2⟩
  · intro g hg r0 hr0 hm
    obtain ⟨gf, hgf, hk, hin⟩ := filterGroups_complete sets gs g hg r0 hr0 hm
    obtain ⟨o', ho', hk', hsub⟩ := d2 gf hgf
    obtain ⟨r, hr, hs⟩ := (dedup_one_per_rule repl o'.rules).2.2 r0 (hsub r0 hin)
    exact ⟨{ o' with rules := dedupRules repl o'.rules }, List.mem_map.mpr ⟨o', ho', rfl⟩,
      by rw [key_with_rules, hk', hk], r, hr, hs⟩

/-- the selector loop keeps one set per `match[]` string, in order, none dropped or left empty -/
theorem assembleSets_spec : ∀ (sels : List (Option (List Matcher))) (sets : List (List Matcher)),
    assembleSets sels = some sets ↔ sels = sets.map some
  | [], sets => by
    cases sets <;> simp [assembleSets]
  | none :: rest, sets => by
    cases sets <;> simp [assembleSets]
  | some ms :: rest, sets => by
    cases sets with
    | nil => simp [assembleSets]
    | cons t ts =>
      simp only [assembleSets, Option.map_eq_some_iff, assembleSets_spec rest, List.map_cons, List.cons.injEq,
        Option.some.injEq]
      exact ⟨fun ⟨a, ha, h1, h2⟩ => ⟨h1, h2 ▸ ha⟩, fun ⟨h1, h2⟩ => ⟨ts, h2, h1, rfl⟩⟩

/-- an unparsable `match[]` string fails the request -/
theorem assembleSets_none (sels : List (Option (List Matcher))) (h : none ∈ sels) : assembleSets sels = none := by
  cases he : assembleSets sels with
  | none => rfl
  | some sets =>
    -- the parse results of a request that succeeds are all `some`
    obtain ⟨_, _, h'⟩ := List.mem_map.mp ((assembleSets_spec sels sets).mp he ▸ h)
    cases h'

/-- repeating a selector (a string that parses to a set of matchers already in the list) does not
    change which rules match -/
theorem matchesOr_dup (sets : List (List Matcher)) (s : List Matcher) (hs : s ∈ sets) (l : List Label) :
    matchesOr (sets ++ [s]) l = matchesOr sets l := by
  have hne : sets ≠ [] := List.ne_nil_of_mem hs
  simp only [matchesOr, matchesAny, List.isEmpty_iff, hne, List.append_eq_nil_iff, false_and, if_false,
    List.any_append, List.any_cons, List.any_nil, Bool.or_false]
  -- the repeated set matches only if the list already does
  exact Bool.or_eq_left_iff_imp.mpr fun h => List.any_eq_true.mpr ⟨s, hs, h⟩

/-- **The Rules API from the request strings**: when every `match[]` string parses, `GRPCClient.Rules`
    answers `C45_pipeline`'s result for exactly the parsed sets — one per string, duplicates included,
    nothing skipped or left empty (a nil set would match every rule) —, and it fails when one does not. -/
theorem C45_request (repl : List String) (sels : List (Option (List Matcher))) (gs : List Group) :
    (∀ sets, sels = sets.map some →
        rulesRequest true true repl sels gs = some (rulesPipeline true true repl sets gs)) ∧
    (none ∈ sels → rulesRequest true true repl sels gs = none) := by
  constructor
  · intro sets h
    simp [rulesRequest, (assembleSets_spec sels sets).mpr h]
  · intro h
    simp [rulesRequest, assembleSets_none sels h]

/-- Regenerated obligation: the loop of `GRPCClient.Rules` over `req.MatcherString` — the slice is
    allocated with one slot per string and EVERY iteration assigns its slot from
    `extpromql.ParseMetricSelector(s)`; the only other statements are the error check and its
    return: no `continue`, no `break`, no condition that skips an assignment (`assembleSets`). -/
theorem C45_selector_loop_fact : Thanos.Facts.rulesSelectorLoop =
    ["matcherSets := make([][]*labels.Matcher, len(req.MatcherString))", "range req.MatcherString",
     "matcherSets[i], err = extpromql.ParseMetricSelector(s)", "if err != nil", "return"] := rfl

/-- Regenerated obligations: the `return` statements of `rules.matches` in source order, and
    where `template.New("label")` is called (function body or the per-label closure) — they say the
    source has the repaired loop (`true` for no sets, `true` inside the loop over sets, `false` at
    the end) and a template per label, i.e. the switches the driver uses
    (`Driver/Misc.lean: rulesFixed = rulesFresh = true`) and `C45_fixed` is the theorem about the
    code as it is. -/
theorem C45_code_loop_fact : Thanos.Facts.rulesMatchesReturns = ["true", "true", "false"] := rfl
theorem C45_code_template_fact : Thanos.Facts.rulesMatchesTemplateScope = "closure" := rfl

-- non-vacuity
example : matchesOr [[⟨"a", fun v => v == "1"⟩], [⟨"a", fun v => v == "2"⟩]] [⟨"a", "1", .plain⟩] = true := by decide
example : codeMatches false true [[⟨"a", fun v => v == "1"⟩], [⟨"a", fun v => v == "2"⟩]] [⟨"a", "1", .plain⟩] = false := by decide
example : matchesOr [[⟨"a", fun v => v == "1"⟩]] [⟨"a", "1", .templ⟩] = false := by decide
example : ∀ x ∈ [(⟨"a", "1", .plain⟩ : Label), ⟨"b", "{{ .X }}", .templ⟩], x.cls ≠ .emptyText ∧ x.cls ≠ .emptyOther := by decide
example : ([[⟨"a", fun v => v == "1"⟩]] : List (List Matcher)).length ≤ 1 := by decide
example : (assembleSets [some [⟨"a", fun v => v == "1"⟩], some [⟨"a", fun v => v == "1"⟩]]).map List.length = some 2 := by decide
example : (assembleSets [some [⟨"a", fun v => v == "1"⟩], none]).isNone = true := by decide

end Thanos.Rules
