import Thanos.Model.RWv2
import Thanos.Lemmas.RWv2
import Thanos.Generated.Facts
/-
  C26 — Remote-write v2 requests are translated faithfully and safely.

  "A remote-write 2.0 request is ingested with the same series labels, samples, histograms and
  exemplars it describes through its symbol table, and a request with symbol references outside
  the table is rejected with a client error rather than crashing request handling."

  The specification (`pairsOf`, `Faithful`, `ReqInRange`) and the steps of the translation are in
  Lemmas/RWv2; the theorems here are `mapE_spec` over `translateTS_spec`, at the request.
-/
namespace Thanos.RWv2

/-- **Faithful.**  If every dereferenced reference lies inside the symbol table, the translation
    succeeds (with or without the bounds test) and yields, series by series, exactly what the
    request describes: the labels are the pairwise lookups of the references, samples keep value
    and timestamp, histograms keep every field of `prompb.Histogram` (both oneofs included),
    exemplars keep labels, value and timestamp. -/
theorem C26_faithful (checked : Bool) (symbols : List Sym) (req : List TS2) (h : ReqInRange symbols req) :
    ∃ out, translate checked symbols req = .ok out ∧ AllPairs (Faithful symbols) req out :=
  (mapE_spec (translateTS_spec checked symbols) req).ok h

theorem translate_out_of_range (checked : Bool) (symbols : List Sym) (req : List TS2) (h : ¬ ReqInRange symbols req) :
    translate checked symbols req = .error (errOf checked) :=
  (mapE_spec (translateTS_spec checked symbols) req).err h

/-- **Safe**, at full strength, for the translation selected by `checked`: a request with a
    reference outside the table is answered with the client error 400 (and nothing is forwarded). -/
def C26_safe_full (checked : Bool) : Prop :=
  ∀ (symbols : List Sym) (req : List TS2), ¬ ReqInRange symbols req → handleV2 checked symbols req = .status 400

/-- the translation with the bounds test is safe … -/
theorem C26_safe_fixed : C26_safe_full true := by
  intro symbols req h
  simp [handleV2, translate_out_of_range true symbols req h, errOf]

/-- … the bare index expressions are not: symbols ["", "a", "b"], LabelsRefs [1, 7] panics.
    (Here and in the examples below the symbols are spelled as the driver's tokens, `x` followed by
    the bytes in hex: "x61" stands for "a".) -/
theorem C26_safe_full_false : ¬ C26_safe_full false := by
  intro h
  have := h ["x", "x61", "x62"] [⟨[1, 7], [], [], [], ⟨0, 0, 0⟩⟩] (by
    unfold ReqInRange TSInRange RefsInRange
    decide)
  revert this
  decide

/-- without the bounds test every such request panics (nothing weaker happens, e.g. no silent
    mistranslation) -/
theorem C26_unchecked_panics (symbols : List Sym) (req : List TS2) (h : ¬ ReqInRange symbols req) :
    handleV2 false symbols req = .panic := by
  simp [handleV2, translate_out_of_range false symbols req h, errOf]

/-- requests whose references are in range are accepted whatever the flag, with the written
    counters of the request and the described series handed on -/
theorem C26_accepts (checked : Bool) (symbols : List Sym) (req : List TS2) (h : ReqInRange symbols req) :
    ∃ out, handleV2 checked symbols req =
        .accepted (req.map (·.samples.length)).sum (req.map (·.hists.length)).sum (req.map (·.exemplars.length)).sum out ∧
      AllPairs (Faithful symbols) req out := by
  obtain ⟨out, h1, h2⟩ := C26_faithful checked symbols req h
  exact ⟨out, by simp [handleV2, h1], h2⟩

theorem pairsOf_append_even : ∀ (refs tail : List Nat), refs.length % 2 = 0 →
    pairsOf (refs ++ tail) = pairsOf refs ++ pairsOf tail
  | [], _, _ => rfl
  | [_], _, h => absurd h Nat.one_ne_zero
  | a :: b :: rest, tail, h =>
    congrArg ((a, b) :: ·) (pairsOf_append_even rest tail ((Nat.add_mod_right rest.length 2).symm.trans h))

/-- an unpaired trailing reference describes nothing, wherever it points: `pairsOf` drops it, and
    `resolve` is the lookup of `pairsOf` (`resolve_spec`) -/
theorem C26_unpaired_ignored (refs : List Nat) (x : Nat) (h : refs.length % 2 = 0) :
    pairsOf (refs ++ [x]) = pairsOf refs := by
  rw [pairsOf_append_even refs [x] h]
  exact List.append_nil _

/-- C26 for the translation selected by `checked` -/
def C26_full (checked : Bool) : Prop :=
  (∀ symbols req, ReqInRange symbols req →
    ∃ out, translate checked symbols req = .ok out ∧ AllPairs (Faithful symbols) req out) ∧
  C26_safe_full checked

/-- C26 holds of the code as it is (`codeChecked`, tied to the source by `C26_refs_fact`) … -/
theorem C26_holds : C26_full codeChecked :=
  ⟨fun symbols req h => C26_faithful codeChecked symbols req h, C26_safe_fixed⟩

/-- … and does not hold of the bare index expressions (`checked = false`; see `codeChecked`) -/
theorem C26_full_false : ¬ C26_full false := fun h => C26_safe_full_false h.2

/-- are the symbol references bounds-checked, as far as the source shows: the symbol table is
    indexed in one function only and that function tests both references of a pair against the
    length of the table first -/
def checkedOfFacts (idxFuncs : List String) (cond : String) : Bool :=
  idxFuncs == ["symbolizedLabels"] &&
  cond == "uint64(refs[i]) >= uint64(len(symbols)) || uint64(refs[i+1]) >= uint64(len(symbols))"

/-- Regenerated obligation: the model's flag is what the source shows. -/
theorem C26_refs_fact :
    checkedOfFacts Thanos.Facts.v2SymbolIndexFuncs Thanos.Facts.v2SymbolBoundCheck = codeChecked := by
  -- the two facts are the literals they are compared with
  show (Thanos.Facts.v2SymbolIndexFuncs == Thanos.Facts.v2SymbolIndexFuncs &&
    Thanos.Facts.v2SymbolBoundCheck == Thanos.Facts.v2SymbolBoundCheck) = true
  rw [beq_self_eq_true, beq_self_eq_true]
  rfl

/-- The assigned fields are the v1 fields with the four oneof wrappers of `Histogram` behind the
    nineteenth and `WriteRequest.Timeseries` at the end.  (Evaluating `contains` instead compares
    strings byte by byte.) -/
theorem v1Fields_sublist_assigned : Thanos.Facts.v1MessageFields.Sublist Thanos.Facts.v2TranslateAssigned :=
  show (Thanos.Facts.v2TranslateAssigned.take 19 ++ (Thanos.Facts.v2TranslateAssigned.drop 23).take 6).Sublist
    (Thanos.Facts.v2TranslateAssigned.take 19 ++ Thanos.Facts.v2TranslateAssigned.drop 19) from
  (List.Sublist.refl _).append ((List.take_sublist ..).trans (List.drop_sublist 4 _))

/-- Regenerated obligation: every field of the v1 messages (`Sample`, `Exemplar`, `Histogram`,
    `BucketSpan`, `TimeSeries` of prompb/types.pb.go) is assigned by the translation — the
    programmatic check the TODO in `translateV2ToV1` asks for.  The model's `Hist` has the
    fourteen `Histogram` fields, `Sample1` / `Exemplar1` / `TS1` / `Span` the others. -/
theorem C26_fields_fact :
    Thanos.Facts.v1MessageFields =
      ["BucketSpan.Length", "BucketSpan.Offset", "Exemplar.Labels", "Exemplar.Timestamp", "Exemplar.Value",
       "Histogram.Count", "Histogram.CustomValues", "Histogram.NegativeCounts", "Histogram.NegativeDeltas",
       "Histogram.NegativeSpans", "Histogram.PositiveCounts", "Histogram.PositiveDeltas", "Histogram.PositiveSpans",
       "Histogram.ResetHint", "Histogram.Schema", "Histogram.Sum", "Histogram.Timestamp", "Histogram.ZeroCount",
       "Histogram.ZeroThreshold", "Sample.Timestamp", "Sample.Value", "TimeSeries.Exemplars", "TimeSeries.Histograms",
       "TimeSeries.Labels", "TimeSeries.Samples"] ∧
    Thanos.Facts.v1MessageFields.all (fun f => Thanos.Facts.v2TranslateAssigned.contains f) = true :=
  ⟨rfl, List.all_eq_true.2 fun _ hf => List.contains_iff_mem.2 (v1Fields_sublist_assigned.subset hf)⟩

private def exSyms : List Sym := ["x", "x5f5f6e616d655f5f", "x7570", "x6a6f62", "x61"]
private def exHist : Hist := ⟨.int 3, 5, 2, 0, .float 7, [⟨1, 2⟩], [1, -1], [], [⟨-3, 1⟩], [4], [9], 2, 1000, [11]⟩
private def exReq : List TS2 :=
  [⟨[1, 2, 3, 4, 9], [⟨7, 1000, 5⟩], [⟨[3, 4], 8, 999⟩], [⟨exHist, 17⟩], ⟨1, 0, 0⟩⟩, ⟨[], [], [], [], ⟨0, 9, 9⟩⟩]

example : ReqInRange exSyms exReq := by
  unfold ReqInRange TSInRange RefsInRange
  decide

example : translate true exSyms exReq =
    .ok [⟨[("x5f5f6e616d655f5f", "x7570"), ("x6a6f62", "x61")], [⟨7, 1000⟩], [⟨[("x6a6f62", "x61")], 8, 999⟩], [exHist]⟩,
         ⟨[], [], [], []⟩] := rfl

example : handleV2 false ["x", "x61", "x62"] [⟨[1, 7], [], [], [], ⟨0, 0, 0⟩⟩] = .panic := rfl
example : handleV2 true ["x", "x61", "x62"] [⟨[1, 7], [], [], [], ⟨0, 0, 0⟩⟩] = .status 400 := rfl
example : handleV2 true ["x", "x61", "x62"] [⟨[1, 2, 7], [], [], [], ⟨0, 0, 0⟩⟩] = .accepted 0 0 0 [⟨[("x61", "x62")], [], [], []⟩] := rfl

end Thanos.RWv2
