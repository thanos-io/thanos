import Thanos.Model.CacheKey
import Thanos.Lemmas.CacheKey
import Thanos.Generated.Facts
/-
  C43 — Results-cache keys separate tenants and result-changing parameters.

  The three key formats of `thanosCacheKeyGenerator.GenerateCacheKey` are transliterated in
  Model/CacheKey.lean.  The property is false of the code as it is (golden-tested key formats,
  see `C43_*_full_false`); the `…_partial` theorems say exactly when keys do separate requests,
  for strings of any length and any content.
-/
namespace Thanos.CacheKey

/-- The result-changing parameters of a range request agree (resolution up to the bucket the
    querier distinguishes, replica labels as a sorted list).  `start`/`splitMs` are not part of
    it: requests of one split interval share a key on purpose and are told apart by extents. -/
def SameAnswerRange (a b : RangeReq) : Prop :=
  a.tenant = b.tenant ∧ a.query = b.query ∧ a.step = b.step ∧ bucketOf a.msr = bucketOf b.msr ∧
  a.shard = b.shard ∧ a.lookback = b.lookback ∧ a.engine = b.engine ∧
  a.partialResp = b.partialResp ∧ sortS a.replicas = sortS b.replicas ∧ a.analyze = b.analyze

/-- C43 for range requests at full strength: tenants accepted by the resolver, any strings. -/
def C43_range_full : Prop :=
  ∀ (a b : RangeReq) (k : Str), tenantAccepted a.tenant = true → tenantAccepted b.tenant = true →
    rangeKey a = some k → rangeKey b = some k → SameAnswerRange a b

/-- What the range key does separate, for queries of any content (':' included): `rangeKeyWith_inj`
    (Lemmas/CacheKey.lean) at the request's own step and interval. -/
theorem C43_range_partial (a b : RangeReq) (k : Str) (ha : RangeFieldsOK a) (hb : RangeFieldsOK b)
    (hka : rangeKey a = some k) (hkb : rangeKey b = some k) :
    a.tenant = b.tenant ∧ a.query = b.query ∧ a.step = b.step ∧ a.splitMs = b.splitMs ∧
    a.start.tdiv a.splitMs = b.start.tdiv b.splitMs ∧ bucketOf a.msr = bucketOf b.msr ∧
    shardView a.shard = shardView b.shard ∧ a.lookback = b.lookback ∧ a.engine = b.engine ∧
    a.partialResp = b.partialResp ∧ sortS a.replicas = sortS b.replicas ∧ a.analyze = b.analyze :=
  rangeKeyWith_inj ha hb ((of_ite_none_eq_some hka).trans (of_ite_none_eq_some hkb).symm)

/-- With the separators absent, and with shard labels a function of the query (as they are when
    the frontend's own sharding middleware produced the shard info), equal keys mean equal
    result-changing parameters. -/
theorem C43_range_sameAnswer (a b : RangeReq) (k : Str) (ha : RangeFieldsOK a) (hb : RangeFieldsOK b)
    (hshard : a.query = b.query → shardView a.shard = shardView b.shard → a.shard = b.shard)
    (hka : rangeKey a = some k) (hkb : rangeKey b = some k) : SameAnswerRange a b := by
  obtain ⟨e1, e2, e3, _, _, e6, e7, e8, e9, e10, e11, e12⟩ := C43_range_partial a b k ha hb hka hkb
  exact ⟨e1, e2, e3, e6, hshard e2 e7, e8, e9, e10, e11, e12⟩

private def s (x : String) : Str := x.toList

/-- The kernel evaluates `String.toList` of a literal by decoding its UTF-8 bytes, which is slow;
    a literal *is* `String.ofList` of its characters, so a long one is read off by rewriting with
    this instead. -/
private theorem s_ofList (l : List Char) : s (String.ofList l) = l := String.toList_ofList

private def rq : RangeReq :=
  { tenant := s "a", query := s "up", start := 7200000, step := 60000, splitMs := 3600000, msr := 0,
    shard := none, lookback := 0, engine := s "", partialResp := false, replicas := [], analyze := false }

-- non-vacuity of the partial theorem: an ordinary request meets the hypotheses and has a key
example : RangeFieldsOK { rq with replicas := [s "replica", s "pod"], engine := s "thanos" } := by
  unfold RangeFieldsOK LabelOK
  decide +kernel
example : rangeKey rq = some (s "fe:a:up:60000:3600000:2:2:-:0::false::false") := by
  rw [s_ofList]
  decide +kernel
example : rangeKey { rq with replicas := [s "prometheus", s "pod"], shard := some ⟨4, 1, true, [s "x"]⟩ } =
    some (s "fe:a:up:60000:3600000:2:2:4:1:0::false:pod,prometheus:false") := by
  repeat rw [s_ofList]
  decide +kernel
example : tenantAccepted (s "a:b") = true ∧ tenantAccepted (s "a/b") = false ∧ tenantAccepted (s "..") = false := by decide +kernel

/-- F43a: tenant "a" asking `b:c` and tenant "a:b" asking `c` get the same key — the resolver
    accepts ':' in a tenant id and the key does not escape it. -/
theorem C43_range_full_false : ¬ C43_range_full := by
  intro h
  have := h { rq with tenant := s "a", query := s "b:c" } { rq with tenant := s "a:b", query := s "c" }
    _ (by decide) (by decide) rfl (by decide +kernel)
  exact absurd this.1 (by decide)

/-- further members of the same family, with colon-free tenants: a replica label containing ','
    against two labels, and client supplied shard labels (only total/index are written). -/
theorem C43_range_other_collisions :
    (∃ a b k, ':' ∉ a.tenant ∧ ':' ∉ b.tenant ∧ rangeKey a = some k ∧ rangeKey b = some k ∧ a.replicas ≠ b.replicas ∧
      sortS a.replicas ≠ sortS b.replicas) ∧
    (∃ a b k, ':' ∉ a.tenant ∧ ':' ∉ b.tenant ∧ rangeKey a = some k ∧ rangeKey b = some k ∧ a.shard ≠ b.shard) := by
  have ht : ':' ∉ rq.tenant := by decide
  exact ⟨⟨{ rq with replicas := [s "a,b"] }, { rq with replicas := [s "a", s "b"] }, _, ht, ht, rfl, by decide +kernel, by decide, by decide⟩,
    ⟨{ rq with shard := some ⟨2, 0, true, [s "x"]⟩ }, { rq with shard := some ⟨2, 0, true, [s "y"]⟩ }, _, ht, ht, rfl, by decide +kernel, by decide⟩⟩

/-- the hypothesis "engine is colon-free" is needed: an engine `5:x` shifts every field to its left
    by one, and a query `q:60000` absorbs the shift -/
example :
    rangeKey { rq with query := s "q", start := 12960000000000, shard := some ⟨2, 1, true, []⟩,
                       engine := s "5:x" } =
    rangeKey { rq with query := s "q:60000", step := 3600000, start := 7200000,
                       shard := some ⟨1, 0, true, []⟩, lookback := 5, engine := s "x" } := by
  decide +kernel

/-- result-changing parameters of a labels request -/
def SameAnswerLabels (a b : LabelsReq) : Prop :=
  a.tenant = b.tenant ∧ a.label = b.label ∧ a.matchers = b.matchers ∧ a.partialResp = b.partialResp

def C43_labels_full : Prop :=
  ∀ (a b : LabelsReq) (k : Str), tenantAccepted a.tenant = true → tenantAccepted b.tenant = true →
    labelsKey a = some k → labelsKey b = some k → SameAnswerLabels a b

/-- the labels key separates tenant, label name, matcher text (any content) and interval when
    tenant and label name are colon-free … -/
theorem C43_labels_partial (a b : LabelsReq) (k : Str)
    (ha : ':' ∉ a.tenant ∧ ':' ∉ a.label) (hb : ':' ∉ b.tenant ∧ ':' ∉ b.label)
    (hka : labelsKey a = some k) (hkb : labelsKey b = some k) :
    a.tenant = b.tenant ∧ a.label = b.label ∧ a.matchers = b.matchers ∧ a.splitMs = b.splitMs ∧
    a.start.tdiv a.splitMs = b.start.tdiv b.splitMs := by
  have h := (of_ite_none_eq_some hka).trans (of_ite_none_eq_some hkb).symm
  obtain ⟨h, e5⟩ := col_inj showInt_no_colon showInt_no_colon h
  obtain ⟨h, e4⟩ := col_inj showInt_no_colon showInt_no_colon h
  simp only [col, List.cons_append, List.nil_append, List.cons.injEq, true_and, List.append_assoc] at h
  obtain ⟨e1, h⟩ := split_at ha.1 hb.1 h
  obtain ⟨e2, e3⟩ := split_at ha.2 hb.2 h
  exact ⟨e1, e2, e3, showInt_inj e4, showInt_inj e5⟩

/-- … but never the partial-response flag (F43b), and not (tenant, label) pairs with a ':' -/
theorem C43_labels_full_false : ¬ C43_labels_full := by
  intro h
  have := h ⟨s "t", s "job", s "[[up]]", 0, 3600000, false⟩ ⟨s "t", s "job", s "[[up]]", 0, 3600000, true⟩
    _ (by decide) (by decide) rfl (by decide +kernel)
  exact absurd this.2.2.2 (by decide)

theorem C43_labels_colon_collision :
    labelsKey ⟨s "a", s "b:c", s "[]", 0, 3600000, false⟩ = labelsKey ⟨s "a:b", s "c", s "[]", 0, 3600000, false⟩ := by
  decide +kernel

/-- result-changing parameters of a (dedup-enabled, hence cacheable) series request -/
def SameAnswerSeries (a b : SeriesReq) : Prop :=
  a.tenant = b.tenant ∧ a.matchers = b.matchers ∧ a.partialResp = b.partialResp ∧
  sortS a.replicas = sortS b.replicas

/-- C43 for series requests at full strength, for the key as found (`false`) or as repaired (`true`) -/
def C43_series_full (full : Bool) : Prop :=
  ∀ (a b : SeriesReq) (k : Str), tenantAccepted a.tenant = true → tenantAccepted b.tenant = true →
    seriesKeyWith full a = some k → seriesKeyWith full b = some k → SameAnswerSeries a b

/-- The repaired series key separates tenant, matcher text (any content), interval, partial
    response and the replica label set, for colon-free tenants and separator-free replica labels. -/
theorem C43_series_partial (a b : SeriesReq) (k : Str) (ha : ':' ∉ a.tenant) (hb : ':' ∉ b.tenant)
    (hra : ∀ x ∈ a.replicas, LabelOK x) (hrb : ∀ x ∈ b.replicas, LabelOK x)
    (hka : seriesKey a = some k) (hkb : seriesKey b = some k) :
    SameAnswerSeries a b ∧ a.splitMs = b.splitMs ∧ a.start.tdiv a.splitMs = b.start.tdiv b.splitMs := by
  have hsa := sortS_ok hra
  have hsb := sortS_ok hrb
  have h := (of_ite_none_eq_some hka).trans (of_ite_none_eq_some hkb).symm
  obtain ⟨h, e7⟩ := col_inj (joinComma_no_colon hsa) (joinComma_no_colon hsb) h
  obtain ⟨h, e6⟩ := col_inj showBool_no_colon showBool_no_colon h
  obtain ⟨h, e5⟩ := col_inj showInt_no_colon showInt_no_colon h
  obtain ⟨h, e4⟩ := col_inj showInt_no_colon showInt_no_colon h
  simp only [col, List.cons_append, List.nil_append, List.cons.injEq, true_and] at h
  obtain ⟨e1, e2⟩ := split_at ha hb h
  exact ⟨⟨e1, e2, showBool_inj e6, joinComma_inj hsa hsb e7⟩, showInt_inj e4, showInt_inj e5⟩

/-- F43b (repaired in the repository; this is the key as found): two series requests that differ
    only in the replica labels, or only in the partial-response flag, share a key. -/
theorem C43_series_unrepaired_false : ¬ C43_series_full false := by
  intro h
  have := h ⟨s "t", s "[[up]]", 0, 3600000, false, [s "replica"]⟩ ⟨s "t", s "[[up]]", 0, 3600000, false, []⟩
    _ (by decide) (by decide) rfl (by decide +kernel)
  exact absurd this.2.2.2 (by decide)

example : seriesKeyWith false ⟨s "t", s "[[up]]", 0, 3600000, false, []⟩ = seriesKeyWith false ⟨s "t", s "[[up]]", 0, 3600000, true, []⟩ := by decide +kernel
example : seriesKey ⟨s "t", s "[[up]]", 0, 3600000, false, [s "b", s "a"]⟩ = some (s "fe:t:[[up]]:3600000:0:false:a,b") := by
  repeat rw [s_ofList]
  rfl

/-- the repaired key still does not escape its separators: replica labels ["a,b"] and ["a","b"] -/
theorem C43_series_full_false : ¬ C43_series_full true := by
  intro h
  have := h ⟨s "t", s "[[up]]", 0, 3600000, false, [s "a,b"]⟩ ⟨s "t", s "[[up]]", 0, 3600000, false, [s "a", s "b"]⟩
    _ (by decide) (by decide) rfl (by decide +kernel)
  exact absurd this.2.2.2 (by decide)

/-- a labels key and a repaired series key cannot coincide (the series key ends in
    `…:<bool>:<replica labels>`, the labels key in `…:<number>:<number>`) when the replica labels
    are separator-free; as found, the label-names key of tenant "t" equals the series key of
    tenant "t:" (`C43_cross_type_collision_unrepaired`) -/
theorem C43_cross_type_separated (a : LabelsReq) (b : SeriesReq) (k : Str) (hrb : ∀ x ∈ b.replicas, LabelOK x)
    (hka : labelsKey a = some k) (hkb : seriesKey b = some k) : False := by
  have hsb := sortS_ok hrb
  have h := (of_ite_none_eq_some hka).trans (of_ite_none_eq_some hkb).symm
  obtain ⟨h, _⟩ := col_inj showInt_no_colon (joinComma_no_colon hsb) h
  exact showInt_ne_showBool (col_inj showInt_no_colon showBool_no_colon h).2

theorem C43_cross_type_collision_unrepaired :
    labelsKey ⟨s "t", s "", s "[[up]]", 0, 3600000, false⟩ = seriesKeyWith false ⟨s "t:", s "[[up]]", 0, 3600000, false, []⟩ := by
  decide +kernel

/-- a zero split interval (request that did not pass the split middleware) divides by zero -/
theorem C43_zero_split_panics : rangeKey { rq with splitMs := 0 } = none := rfl

/-! ### from the matcher text to the matcher sets

  The key theorems above end at "equal matcher text".  That the text determines the matcher SETS
  is the rendering hypothesis `Rendered` (Model/CacheKey.lean, "the matcher text"): necessary
  (`C43_raw_rendering_false`), and met by a renderer that escapes `"` and `\`
  (`C43_escaped_rendering_reads_back`). -/

theorem rendered_inj {text : Str} {sa sb : List (List Matcher)} (ha : Rendered text sa) (hb : Rendered text sb) :
    sa = sb :=
  Option.some.inj (Eq.trans (Eq.symm ha) hb)

/-- the labels key separates the matcher sets (same hypotheses as `C43_labels_partial`, plus the
    rendering hypothesis for both requests) -/
theorem C43_labels_sets (a b : LabelsReq) (sa sb : List (List Matcher)) (k : Str)
    (ha : ':' ∉ a.tenant ∧ ':' ∉ a.label) (hb : ':' ∉ b.tenant ∧ ':' ∉ b.label)
    (hra : Rendered a.matchers sa) (hrb : Rendered b.matchers sb)
    (hka : labelsKey a = some k) (hkb : labelsKey b = some k) :
    a.tenant = b.tenant ∧ a.label = b.label ∧ sa = sb := by
  obtain ⟨e1, e2, e3, _, _⟩ := C43_labels_partial a b k ha hb hka hkb
  exact ⟨e1, e2, rendered_inj hra (e3 ▸ hrb)⟩

/-- … and so does the series key -/
theorem C43_series_sets (a b : SeriesReq) (sa sb : List (List Matcher)) (k : Str) (ha : ':' ∉ a.tenant) (hb : ':' ∉ b.tenant)
    (hra : ∀ x ∈ a.replicas, LabelOK x) (hrb : ∀ x ∈ b.replicas, LabelOK x)
    (hsa : Rendered a.matchers sa) (hsb : Rendered b.matchers sb)
    (hka : seriesKey a = some k) (hkb : seriesKey b = some k) :
    a.tenant = b.tenant ∧ sa = sb ∧ a.partialResp = b.partialResp ∧ sortS a.replicas = sortS b.replicas := by
  obtain ⟨⟨e1, e2, e3, e4⟩, _, _⟩ := C43_series_partial a b k ha hb hra hrb hka hkb
  exact ⟨e1, rendered_inj hsa (e2 ▸ hsb), e3, e4⟩

/-- the spelled-out twins: `{foo="a", b="c"}` and `{foo="a\" b=\"c"}`; two selectors `{foo="a"}`,
    `{b="c"}` and the one selector `{foo="a\"] [b=\"c"}` -/
private def twinA : List (List Matcher) := [[⟨s "foo", 0, s "a"⟩, ⟨s "b", 0, s "c"⟩]]
private def twinB : List (List Matcher) := [[⟨s "foo", 0, s "a\" b=\"c"⟩]]
private def twinC : List (List Matcher) := [[⟨s "foo", 0, s "a"⟩], [⟨s "b", 0, s "c"⟩]]
private def twinD : List (List Matcher) := [[⟨s "foo", 0, s "a\"] [b=\"c"⟩]]

/-- the rendering hypothesis is necessary: when values are written raw between the quotes
    (`renderWith id`), different matcher sets have the same text, so no decoder exists … -/
theorem C43_raw_rendering_false :
    ¬ ∃ u : Str → Option (List (List Matcher)), ∀ sets, u (renderWith id sets) = some sets := by
  intro ⟨u, h⟩
  have h1 := h twinA
  have h2 := h twinB
  have e : renderWith id twinA = renderWith id twinB := by decide +kernel
  rw [e, h2] at h1
  exact absurd (Option.some.inj h1) (by decide)

example : renderWith id twinC = renderWith id twinD := by decide +kernel

/-- … and with it equal keys for requests that select different series -/
theorem C43_raw_rendering_collision :
    labelsKey ⟨s "t", s "job", renderWith id twinA, 0, 3600000, false⟩ =
      labelsKey ⟨s "t", s "job", renderWith id twinB, 0, 3600000, false⟩ ∧ twinA ≠ twinB := by
  decide +kernel

/-- the hypothesis is satisfiable, for ALL matcher sets, by a renderer that escapes `"` and `\\`
    (`quoteMin`; names verbatim identifiers, operators `=`, `!=`, `=~`, `!~`) -/
theorem C43_escaped_rendering_reads_back (sets : List (List Matcher)) (hp : ∀ ms ∈ sets, ∀ m ∈ ms, m.Plain) :
    Rendered (renderWith quoteMin sets) sets :=
  rendered_of_readsBack readsBack_quoteMin sets hp

/-- with escaping the twins are told apart and read back -/
example : Rendered (renderWith quoteMin twinA) twinA ∧ Rendered (renderWith quoteMin twinB) twinB ∧
    Rendered (renderWith quoteMin twinC) twinC ∧ Rendered (renderWith quoteMin twinD) twinD := by decide +kernel
example : renderWith quoteMin twinB = s "[[foo=\"a\\\" b=\\\"c\"]]" := by
  rw [s_ofList]
  decide +kernel
-- what strconv.Quote does beyond quoteMin: control characters, quoted (UTF-8) names, every operator
example : Rendered (s "[[\"utf8.name\"!~\"a\\nb\\x01\\u00a0\\\\\"] [__name__=~\"a|b\" x!=\"\"]]")
    [[⟨s "utf8.name", 3, ['a', '\n', 'b', Char.ofNat 1, Char.ofNat 160, '\\']⟩], [⟨s "__name__", 2, s "a|b"⟩, ⟨s "x", 1, []⟩]] := by
  repeat rw [s_ofList]
  decide +kernel
example : Rendered (s "[]") [] := by decide

/-! ### regenerated obligations: field order and formats in the source are the modelled ones -/

theorem C43_fact_range_writes :
    Thanos.Facts.rangeKeyWrites =
      ["buf.WriteString(\"fe:\")", "buf.WriteString(userID)", "buf.WriteByte(':')", "buf.WriteString(tr.Query)",
       "writeCacheKeyInt64(buf, step)", "writeCacheKeyInt64(buf, splitInterval)", "writeCacheKeyInt64(buf, currentInterval)",
       "writeCacheKeyInt(buf, i)", "buf.WriteByte(':')", "buf.WriteString(shardInfoKey)",
       "writeCacheKeyInt64(buf, tr.LookbackDelta)", "buf.WriteByte(':')", "buf.WriteString(tr.Engine)",
       "writeCacheKeyBool(buf, tr.PartialResponse)", "buf.WriteByte(':')",
       "writeCacheKeyReplicaLabels(buf, replicaLabels)", "writeCacheKeyBool(buf, tr.Analyze)"] ∧
    Thanos.Facts.rangeKeyCall =
      ["return t.generateQueryRangeCacheKey(userID, tr, tr.Step, splitInterval, currentInterval)"] ∧
    Thanos.Facts.shardInfoKeyBody =
      ["if r.ShardInfo == nil {", "return \"-\"", "}",
       "return fmt.Sprintf(\"%d:%d\", r.ShardInfo.TotalShards, r.ShardInfo.ShardIndex)"] ∧
    Thanos.Facts.cacheKeyResolutions =
      ["return thanosCacheKeyGenerator{ resolutions: []int64{downsample.ResLevel2, downsample.ResLevel1, downsample.ResLevel0}, }"] :=
  ⟨rfl, rfl, rfl, rfl⟩

theorem C43_fact_meta_formats :
    Thanos.Facts.labelsKeyFormat =
      ["return fmt.Sprintf(\"fe:%s:%s:%s:%d:%d\", userID, tr.Label, tr.Matchers, splitInterval, currentInterval)"] ∧
    Thanos.Facts.seriesKeyFormat =
      ["replicaLabels := append([]string(nil), tr.ReplicaLabels...)", "sort.Strings(replicaLabels)",
       "return fmt.Sprintf(\"fe:%s:%s:%d:%d:%t:%s\", userID, tr.Matchers, splitInterval, currentInterval, tr.PartialResponse, strings.Join(replicaLabels, \",\"))"] :=
  ⟨rfl, rfl⟩

/-- the purity assumption of the model (head of Model/CacheKey.lean) as the sources show it: the
    one field `resolutions` is only read, by methods with value receivers; the pooled buffer is
    copied out by `String()` before it is given back. -/
theorem C43_fact_generator_pure :
    Thanos.Facts.cacheKeyGenFields = ["resolutions []int64"] ∧
    Thanos.Facts.cacheKeyGenUses =
      ["func (t thanosCacheKeyGenerator) GenerateCacheKey", "GenerateCacheKey: call t.generateQueryRangeCacheKey",
       "func (t thanosCacheKeyGenerator) GenerateCacheKeyAlternatives",
       "GenerateCacheKeyAlternatives: call t.generateQueryRangeCacheKey",
       "func (t thanosCacheKeyGenerator) generateQueryRangeCacheKey",
       "generateQueryRangeCacheKey: len(t.resolutions)", "generateQueryRangeCacheKey: t.resolutions[i]"] ∧
    Thanos.Facts.rangeKeyBufferLife =
      ["buf := queryRangeCacheKeyBufferPool.Get().(*bytes.Buffer)", "buf.Reset()", "cacheKey := buf.String()",
       "buf.Reset()", "queryRangeCacheKeyBufferPool.Put(buf)", "return cacheKey"] :=
  ⟨rfl, rfl, rfl⟩

theorem C43_fact_should_cache :
    Thanos.Facts.shouldCacheBody =
      ["if thanosReqStoreMatcherGettable, ok := r.(ThanosRequestStoreMatcherGetter); ok {",
       "if len(thanosReqStoreMatcherGettable.GetStoreMatchers()) > 0 {", "return false", "}", "}",
       "if thanosReqDedup, ok := r.(ThanosRequestDedup); ok {", "if !thanosReqDedup.IsDedupEnabled() {",
       "return false", "}", "}", "return !r.GetCachingOptions().Disabled"] ∧
    Thanos.Facts.unsafeTenantBody =
      ["if id == \".\" || id == \"..\" {", "return true", "}", "return strings.ContainsAny(id, \"\\\\/\")"] :=
  ⟨rfl, rfl⟩

end Thanos.CacheKey
