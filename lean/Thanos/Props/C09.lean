import Thanos.Model.Limiter
import Thanos.Model.StoreSpec
import Thanos.Generated.Facts
import Thanos.Lemmas.ListFacts
import Thanos.Lemmas.StoreSpec
/-
  C09 — Series request limits are enforced.

  "A Series call that succeeds never returns more series than the configured series limit or more
   chunks than the configured chunk limit, and a request that would exceed a limit fails with a
   resource-exhausted error instead of returning truncated data silently."

  Code level (transliteration, unbounded; `namespace Thanos.Limiter`): `Limiter.Reserve` — granted
  reservations never sum above the limit, a sum above the limit is refused whatever the order in which
  goroutines reach the counter, and once refused always refused.  Specification level (`namespace
  Thanos.StoreSpec`): what `BucketStore.Series` reserves per block (expanded postings; chunk metas in range of
  the served series) bounds what the merged answer holds, so a granted request is within both limits and is
  the complete answer (`C09_spec`).  The real store is compared with the specification on every run (lazy
  expanded postings off: reservations are determined by the data; on: the oracle's interval relation).
  Source level (`namespace Thanos.Props.C09`): regenerated facts — the reservation is on every path of
  `nextBatch`, and a refused limit carries the ResourceExhausted status at each `Enforcer`, the store gateway
  and the `limitedStoreServer` wrapper (`C09_code`; before the repair of the wrapper it did not:
  `C09_code_unrepaired_false`).
-/
namespace Thanos.Limiter

def allGranted (l : Limiter) (ns : List Nat) : Bool := (run l ns).all id

theorem run_disabled : ∀ (r : Nat) (ns : List Nat), (run ⟨0, r⟩ ns).all id = true
  | _, [] => rfl
  | r, _ :: ns => run_disabled r ns

theorem run_cons {L : Nat} (hL : L ≠ 0) (r n : Nat) (ns : List Nat) :
    run ⟨L, r⟩ (n :: ns) = decide (r + n ≤ L) :: run ⟨L, r + n⟩ ns := by
  rw [run, reserve, if_neg hL]

theorem allGranted_iff (L : Nat) (hL : L ≠ 0) : ∀ (ns : List Nat) (r : Nat),
    allGranted ⟨L, r⟩ ns = true ↔ (ns = [] ∨ r + ns.sum ≤ L)
  | [], r => by simp [allGranted, run]
  | n :: ns, r => by
    have ih := allGranted_iff L hL ns (r + n)
    unfold allGranted at ih ⊢
    rw [run_cons hL, List.all_cons, Bool.and_eq_true, ih, id, decide_eq_true_eq, List.sum_cons]
    constructor
    · rintro ⟨h1, rfl | h2⟩
      · exact Or.inr h1
      · exact Or.inr (by omega)
    · rintro (h | h)
      · nomatch h
      · exact ⟨by omega, by omega⟩

theorem allGranted_new_iff (L : Nat) (hL : L ≠ 0) (ns : List Nat) : allGranted (new L) ns = true ↔ ns.sum ≤ L := by
  rw [new, allGranted_iff L hL, Nat.zero_add]
  exact or_iff_right_of_imp fun e => e ▸ Nat.zero_le L

/-- all reservations granted (limit enabled) ⇒ their sum is within the limit -/
theorem C09_limiter_sound (L : Nat) (hL : L ≠ 0) (ns : List Nat) (h : allGranted (new L) ns = true) :
    ns.sum ≤ L :=
  (allGranted_new_iff L hL ns).mp h

/-- a sum above the limit ⇒ some reservation is refused -/
theorem C09_limiter_complete (L : Nat) (hL : L ≠ 0) (ns : List Nat) (h : ns.sum > L) :
    allGranted (new L) ns = false :=
  Bool.eq_false_iff.mpr fun hg => Nat.not_le_of_gt h (C09_limiter_sound L hL ns hg)

/-- limit 0 disables the limiter -/
theorem C09_limiter_disabled (ns : List Nat) : allGranted (new 0) ns = true := run_disabled 0 ns

/-- whether a request passes does not depend on the order in which its reservations reach the counter -/
theorem C09_limiter_order (L : Nat) (ns ms : List Nat) (h : ns.Perm ms) :
    allGranted (new L) ns = allGranted (new L) ms := by
  by_cases hL : L = 0
  · subst hL
    rw [C09_limiter_disabled, C09_limiter_disabled]
  · rw [Bool.eq_iff_iff, allGranted_new_iff L hL, allGranted_new_iff L hL, h.sum_nat]

theorem run_above (L : Nat) (hL : L ≠ 0) : ∀ (ns : List Nat) (r : Nat), r > L → ∀ b ∈ run ⟨L, r⟩ ns, b = false
  | [], _, _, b, hb => nomatch hb
  | n :: ns, r, hr, b, hb => by
    rw [run_cons hL, List.mem_cons] at hb
    rcases hb with rfl | hb
    · exact decide_eq_false (by omega)
    · exact run_above L hL ns (r + n) (by omega) b hb

theorem C09_limiter_monotone (L : Nat) (hL : L ≠ 0) : ∀ (ns : List Nat) (r : Nat) (i j : Nat),
    i ≤ j → (run ⟨L, r⟩ ns)[i]? = some false → ∀ b, (run ⟨L, r⟩ ns)[j]? = some b → b = false
  | [], _, i, j, _, h, _, _ => nomatch h
  | n :: ns, r, 0, j, _, h, b, hb => by
    have hmem := List.mem_of_getElem? hb
    rw [run_cons hL] at h hmem
    have h : decide (r + n ≤ L) = false := Option.some.inj h
    rcases List.mem_cons.mp hmem with rfl | hmem
    · exact h
    · exact run_above L hL ns (r + n) (by simpa using h) b hmem
  | n :: ns, r, i + 1, j + 1, hij, h, b, hb => by
    rw [run_cons hL] at h hb
    exact C09_limiter_monotone L hL ns (r + n) i j (Nat.le_of_succ_le_succ hij) h b hb

end Thanos.Limiter

namespace Thanos.StoreSpec
open Thanos.Labels

theorem blockSeries_le_reserved (R : List Nat) (b : Block) (r : Req) :
    (blockSeries R b r).length ≤ blockSeriesReserved b r := by
  unfold blockSeries blockSeriesReserved
  split
  · exact Nat.le_refl _
  · exact Nat.le_refl _
  · unfold selectSeries
    rw [← List.filterMap_filter]
    exact List.length_filterMap_le _ _

/-- on every path that emits series — eager or lazily expanded postings per block, chunks skipped or not — what
    the series limiter was charged bounds the series of the answer (no hypothesis on `r.skipChunks`) -/
theorem series_le_reserved_mode (lazy : Block → Bool) (blocks : List Block) (r : Req) :
    countSeries (bucketSeries blocks r) ≤ seriesReservedMode lazy blocks r := by
  unfold countSeries seriesReservedMode bucketSeries
  have h1 := (canonSeries_bounds ((selected blocks r).flatMap (blockSeries r.without · r))).1
  rw [List.length_flatMap] at h1
  refine Nat.le_trans h1 (sum_map_le fun b _ => ?_)
  unfold blockSeriesReservedMode
  split
  · exact Nat.le_refl _
  · exact blockSeries_le_reserved r.without b r

theorem series_le_reserved (blocks : List Block) (r : Req) :
    countSeries (bucketSeries blocks r) ≤ seriesReserved blocks r :=
  series_le_reserved_mode (fun _ => false) blocks r

theorem chunks_le_reserved (blocks : List Block) (r : Req) (hs : r.skipChunks = false) :
    countChunks (bucketSeries blocks r) ≤ chunksReserved blocks r := by
  unfold countChunks chunksReserved bucketSeries
  have h1 := (canonSeries_bounds ((selected blocks r).flatMap (blockSeries r.without · r))).2
  unfold total at h1
  rw [sum_map_flatMap] at h1
  simpa only [blockChunksReserved, hs, Bool.false_eq_true, if_false] using h1

/-- a request the series limiter granted is within the series limit, whichever blocks were expanded lazily
    and whether or not the request skips chunks -/
theorem C09_series_any_path (sl : Nat) (hsl : sl ≠ 0) (lazy : Block → Bool) (blocks : List Block) (r : Req)
    (hgranted : Limiter.allGranted (Limiter.new sl)
      ((selected blocks r).map (fun b => blockSeriesReservedMode (lazy b) r.without b r)) = true) :
    countSeries (bucketSeries blocks r) ≤ sl :=
  Nat.le_trans (series_le_reserved_mode lazy blocks r) (Limiter.C09_limiter_sound sl hsl _ hgranted)

/-- C09 in the specification: a request that is granted is within both limits and is the complete answer;
    a request is refused only when a reservation sum exceeds its limit -/
theorem C09_spec (sl cl : Nat) (blocks : List Block) (r : Req) (hs : r.skipChunks = false) :
    (∀ es, bucketSeriesLimited sl cl blocks r = .ok es →
      es = bucketSeries blocks r ∧ (sl ≠ 0 → countSeries es ≤ sl) ∧ (cl ≠ 0 → countChunks es ≤ cl)) ∧
    (bucketSeriesLimited sl cl blocks r = .exhausted →
      (sl ≠ 0 ∧ seriesReserved blocks r > sl) ∨ (cl ≠ 0 ∧ chunksReserved blocks r > cl)) := by
  -- arms: series limit exceeded; chunk limit exceeded; granted
  fun_cases bucketSeriesLimited sl cl blocks r with
  | case1 h1 => exact ⟨nofun, fun _ => .inl h1⟩
  | case2 _ h2 => exact ⟨nofun, fun _ => .inr h2⟩
  | case3 h1 h2 =>
    refine ⟨fun es h => ?_, nofun⟩
    cases h
    have := series_le_reserved blocks r
    have := chunks_le_reserved blocks r hs
    exact ⟨rfl, fun hsl => by have := fun hgt => h1 ⟨hsl, hgt⟩; omega,
      fun hcl => by have := fun hgt => h2 ⟨hcl, hgt⟩; omega⟩

/-- the series decision of `bucketSeriesLimited` is the decision of the real limiter fed with the per-block
    reservations in the order of `selected`: it only depends on the sum (`allGranted_new_iff`); any other order decides
    alike by `C09_limiter_order`.  The chunk limiter has no such theorem. -/
theorem C09_spec_is_limiter (sl : Nat) (blocks : List Block) (r : Req) :
    Limiter.allGranted (Limiter.new sl) ((selected blocks r).map (blockSeriesReserved · r)) = true ↔
      ¬ (sl ≠ 0 ∧ seriesReserved blocks r > sl) := by
  by_cases hsl : sl = 0
  · subst hsl
    simp [Limiter.C09_limiter_disabled]
  · rw [Limiter.allGranted_new_iff sl hsl, not_and, Nat.not_lt]
    exact ⟨fun h _ => h, fun h => h hsl⟩

end Thanos.StoreSpec

namespace Thanos.Props.C09
open Thanos.Limiter

/-! ### regenerated facts: limiter errors surface as ResourceExhausted -/

theorem C09_fact_codes :
    Thanos.Facts.storesLimitErrorCodes = ["int(codes.ResourceExhausted)", "int(codes.ResourceExhausted)", "int(codes.ResourceExhausted)"]
    ∧ Thanos.Facts.storesWarnCodeCond = "strings.Contains(warn, \"rpc error: code = ResourceExhausted\")"
    ∧ Thanos.Facts.storesLimiterCond = "reserved := l.reserved.Add(num); reserved > l.limit" := ⟨rfl, rfl, rfl⟩

/-- regenerated facts: in `nextBatch` a series is counted (`seriesMatched++`) before the skip-chunks shortcut
    appends it, and after the loop the reservation of lazily expanded postings comes before everything else —
    no return precedes it, in particular none for requests that skip chunks -/
theorem C09_fact_reserve_on_every_path :
    Thanos.Facts.storesNextBatchTail =
      ["if lazyExpandedPosting { if b.seriesLimiter.Reserve }", "if !b.skipChunks { if b.chunkr.load }", "return"]
    ∧ Thanos.Facts.storesNextBatchLoop =
      ["if b.ctx.Err", "hasMatchedChunks := b.indexr.LoadSeriesForTime", "if err != nil { return }",
       "if !lazyExpandedPosting && !hasMatchedChunks { continue }", "if b.indexr.LookupLabelsSymbols",
       "b.lset = b.b.Labels", "loop", "if lazyExpandedPosting { b.expandedPostings = append }",
       "if !hasMatchedChunks { continue }", "completeLabelset := labelpb.ExtendSortedLabels",
       "if b.extLsetToRemove != nil { completeLabelset = rmLabels }",
       "if !b.shardMatcher.MatchesLabels(completeLabelset) { continue }", "seriesMatched++",
       "if b.seriesLimit > 0 && seriesMatched > b.seriesLimit { b.hasMorePostings =; break }", "s :=",
       "if b.skipChunks { b.entries = append; continue }", "s.refs = make", "s.chks = make", "loop",
       "if b.chunksLimiter.Reserve", "b.entries = append"] := ⟨rfl, rfl⟩

/-- where a limit is enforced: inside the store gateway (`blockSeriesClient`), or by the `limitedStoreServer`
    wrapper that sidecar, ruler, receive and querier put around their store (`--store.limits.request-series`) -/
inductive Enforcer where
  | gateway
  | limitedServer
  deriving DecidableEq, Repr

/-- what `limitedServer.Send` returns when a limiter refuses carries the ResourceExhausted status: it is a
    `limitError`, whose `GRPCStatus()` is ResourceExhausted (string prefix tests do not reduce in the kernel:
    the accepted forms are listed) -/
def limitedSendSurfaces (sendErrors : List String) (limitErrorStatus : String) : Bool :=
  sendErrors.all (fun s =>
    s == "limitError{errors.Wrapf(err, \"failed to send series\")}" ||
    s == "limitError{errors.Wrapf(err, \"failed to send samples\")}") &&
  !sendErrors.isEmpty &&
  limitErrorStatus == "status.New(codes.ResourceExhausted, e.Error())"

def surfacesAsResourceExhausted : Enforcer → Bool
  | .gateway => Thanos.Facts.storesLimitErrorCodes.all (· == "int(codes.ResourceExhausted)") &&
      !Thanos.Facts.storesLimitErrorCodes.isEmpty
  | .limitedServer => limitedSendSurfaces Thanos.Facts.storesLimitedSendErrors Thanos.Facts.storesLimitErrorStatus

/-- C09 "fails with a resource-exhausted error", for every place a limit is enforced -/
def C09_code_full : Prop := ∀ e : Enforcer, surfacesAsResourceExhausted e = true

/-- holds of the code in /repo, repaired by `fix: limitedStoreServer answers a violated limit with the
    ResourceExhausted status` -/
theorem C09_code : C09_code_full := by
  intro e
  cases e
  · simp [surfacesAsResourceExhausted, Thanos.Facts.storesLimitErrorCodes]
  · simp [surfacesAsResourceExhausted, limitedSendSurfaces, Thanos.Facts.storesLimitedSendErrors,
      Thanos.Facts.storesLimitErrorStatus]

/-- before the repair `limitedServer.Send` returned `errors.Wrapf(err, "failed to send series")`: a plain error,
    which reached the client as Unknown -/
theorem C09_code_unrepaired_false :
    limitedSendSurfaces ["errors.Wrapf(err, \"failed to send series\")", "errors.Wrapf(err, \"failed to send samples\")"]
      "unknown" = false := by decide +kernel

example : run (new 10) [3, 4, 3, 1, 0] = [true, true, true, false, false] := rfl
example : allGranted (new 10) [3, 4, 3] = true := rfl
example : allGranted (new 10) [4, 3, 3] = true := rfl
example : allGranted (new 9) [3, 4, 3] = false := rfl
example : run (new 0) [100, 100] = [true, true] := rfl

end Thanos.Props.C09
