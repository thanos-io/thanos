import Thanos.Model.CachingBucket
import Thanos.Model.CachingBucketOps
import Thanos.Lemmas.CachingBucket
import Thanos.Lemmas.BucketKey
import Thanos.Lemmas.CachingBucketOps
import Thanos.Generated.Facts
/-
  C14 — Caching bucket is transparent for immutable objects.

  Range reads (cachedGetRange / fetchMissingSubranges / mergeRanges / subrangesReader) are a
  transliteration, `getRange guard`; the theorems are about every object, subrange size, sub-request
  limit, read buffer size and every honest cache (any subset of what was stored: losses and
  evictions).  `guard = false` is the code without the test `offset >= attrs.Size`, which panics on an
  offset past the object (F14, `C14_unguarded_false`, `C14_unguarded_partial`); `guard = true` is transparent for all
  requests (`C14_getRange`), and along any history of reads (`C14_history`).
  The `C14_k_*` theorems say the same of every verb (Attributes, GetRange, Get, Exists, Iter; model
  Model/CachingBucketOps.lean) with the cache addressed by key strings, `C14_k_history` of their
  interleavings: each is `kStep_ok` (Lemmas/CachingBucketOps.lean) at one verb, the history its iteration.
  `C14_bucket_key_inj` is why no verb is answered with another's entry.
-/
namespace Thanos.CachingBucket

def C14_getRange_full (guard : Bool) : Prop :=
  ∀ (obj : Bytes) (S maxSub : Nat) (cache : Nat → Nat → Option Bytes) (p off len : Nat),
    S ≥ 1 → p ≥ 1 → len ≥ 1 → Honest obj cache →
    (getRange guard obj S maxSub cache p off len).out = .ok (bucketGetRange obj off len)

/-- C14, range reads, the code as it is: transparent for ALL offsets and lengths (a request
    starting at or past the end of the object is answered by the wrapped bucket itself). -/
theorem C14_getRange : C14_getRange_full true :=
  fun obj S maxSub cache p off len hS hp hlen hon => (getRange_ok obj S maxSub cache p off len hS hp hlen hon).1

/-- F14: without the guard the code panics for an offset beyond the object (10-byte object, subrange
    size 16, GetRange(100, 5)), where the wrapped bucket returns an empty reader. -/
theorem C14_unguarded_false : ¬ C14_getRange_full false := by
  intro h
  have := h [0, 1, 2, 3, 4, 5, 6, 7, 8, 9] 16 0 (fun _ _ => none) 512 100 5
    (by decide) (by decide) (by decide) nofun
  -- the left side evaluates to the panic
  cases (show Except.error Err.panic = _ from this)

/-- … and is transparent for requests that start inside the object. -/
theorem C14_unguarded_partial (obj : Bytes) (S maxSub : Nat) (cache : Nat → Nat → Option Bytes)
    (p off len : Nat) (hS : S ≥ 1) (hp : p ≥ 1) (hlen : len ≥ 1) (hon : Honest obj cache)
    (hoff : off < obj.length) :
    (getRange false obj S maxSub cache p off len).out = .ok (bucketGetRange obj off len) :=
  (getRange_inside false obj S maxSub cache p off len hS hp hlen hon (by omega)).1

/-- what a read stores into the cache is honest -/
theorem C14_stores_honest (obj : Bytes) (S maxSub : Nat) (cache : Nat → Nat → Option Bytes)
    (p off len : Nat) (hS : S ≥ 1) (hp : p ≥ 1) (hlen : len ≥ 1) (hon : Honest obj cache) :
    StoresHonest obj (getRange true obj S maxSub cache p off len).stores :=
  (getRange_ok obj S maxSub cache p off len hS hp hlen hon).2

/-- C14 for histories: whatever was read before and whatever the cache lost in between, every
    read of the history returns the bytes of the wrapped bucket. -/
theorem C14_history (obj : Bytes) (S maxSub : Nat) (hS : S ≥ 1) :
    ∀ (h : List (Read × (Nat → Nat → Option Bytes))) (entries : Entries),
      StoresHonest obj entries → HistOK obj S maxSub h entries →
      runHistory obj S maxSub h entries = h.map fun rv => .ok (bucketGetRange obj rv.1.off rv.1.len)
  | [], _, _, _ => rfl
  | (r, view) :: rest, entries, he, ⟨h1, h2, h3, h4⟩ => by
    have hon : Honest obj view := fun a b bs hv => (he _ (h3 a b bs hv)).2
    obtain ⟨hout, hst⟩ := getRange_ok obj S maxSub view r.p r.off r.len hS h2 h1 hon
    have he' : StoresHonest obj (entries ++ (getRange true obj S maxSub view r.p r.off r.len).stores) :=
      fun e hm => (List.mem_append.mp hm).elim (he e) (hst e)
    simp only [runHistory, List.map_cons, hout]
    rw [C14_history obj S maxSub hS rest _ he' h4]

open Thanos.CacheKeys in
theorem C14_k_attributes (w : World) (name : Str) (view : Str → Option Val) (c : KCache)
    (hc : HonestK w c) (hv : SubViewK c view) :
    (kAttributes w name view).ans = bAttributes w name ∧ HonestK w (c ++ (kAttributes w name view).stores) :=
  (kStep_ok hc hv ⟨0, 0, 0⟩ (.attributes name) nofun).imp_right (honestK_append hc)

open Thanos.CacheKeys in
/-- GetRange through the caching bucket, with the cache addressed by key strings -/
theorem C14_k_getRange (w : World) (S maxSub p : Nat) (name : Str) (off len : Nat)
    (view : Str → Option Val) (c : KCache) (hS : S ≥ 1) (hp : p ≥ 1) (hlen : len ≥ 1)
    (hc : HonestK w c) (hv : SubViewK c view) :
    (kGetRange w S maxSub p name off len view).ans = bGetRange w name off len ∧
    HonestK w (c ++ (kGetRange w S maxSub p name off len view).stores) :=
  (kStep_ok hc hv ⟨S, maxSub, 0⟩ (.getRange name off len p)
    fun _ _ _ _ h => by cases h; exact ⟨hS, hlen, hp⟩).imp_right (honestK_append hc)

open Thanos.CacheKeys in
/-- Get (whole, partial or exact reads; present or absent object; any size limit) -/
theorem C14_k_get (w : World) (maxSize : Nat) (name : Str) (mode : ReadMode)
    (view : Str → Option Val) (c : KCache) (hc : HonestK w c) (hv : SubViewK c view) :
    (kGet w maxSize name mode view).ans = bGet w name mode ∧
    HonestK w (c ++ (kGet w maxSize name mode view).stores) :=
  (kStep_ok hc hv ⟨0, 0, maxSize⟩ (.get name mode) nofun).imp_right (honestK_append hc)

open Thanos.CacheKeys in
/-- the content of an object enters the cache only by a complete read of an object that fits -/
theorem C14_k_get_full_only (w : World) (maxSize : Nat) (name : Str) (mode : ReadMode)
    (view : Str → Option Val) (b : Bytes)
    (h : (keyOf .content name 0 0 [], Val.bytes b) ∈ (kGet w maxSize name mode view).stores) :
    mode = .full ∧ b.length ≤ maxSize ∧ w.obj name = some b := by
  revert h
  fun_cases kGet w maxSize name mode view
  case case1 | case2 => exact nofun
  case case3 => exact fun h => nomatch (Prod.mk.inj (List.mem_singleton.mp h)).2
  case case4 _ b' ho _ =>
    intro h
    -- the existence flag is not a content entry; what remains is the conditional store
    rcases List.mem_cons.mp h with hbad | hcore
    · cases (Prod.mk.inj hbad).2
    · split at hcore
      · rename_i hcond
        cases (Prod.mk.inj (List.mem_singleton.mp hcore)).2
        exact ⟨hcond.1, hcond.2, ho⟩
      · cases hcore

open Thanos.CacheKeys in
theorem C14_k_exists (w : World) (name : Str) (view : Str → Option Val) (c : KCache)
    (hc : HonestK w c) (hv : SubViewK c view) :
    (kExists w name view).ans = .bool (w.obj name).isSome ∧ HonestK w (c ++ (kExists w name view).stores) :=
  (kStep_ok hc hv ⟨0, 0, 0⟩ (.exists_ name) nofun).imp_right (honestK_append hc)

open Thanos.CacheKeys in
/-- Iter, recursive or not: the listing of the wrapped bucket for that directory and that flavour
    — the two flavours have different keys, so one never answers for the other -/
theorem C14_k_iter (w : World) (dir : Str) (recursive : Bool) (view : Str → Option Val) (c : KCache)
    (hc : HonestK w c) (hv : SubViewK c view) :
    (kIter w dir recursive view).ans = .names (w.list dir recursive) ∧
    HonestK w (c ++ (kIter w dir recursive view).stores) :=
  (kStep_ok hc hv ⟨0, 0, 0⟩ (.iter dir recursive) nofun).imp_right (honestK_append hc)

/-- **C14 for histories of every verb**: range reads, full / partial reads, existence, attributes,
    recursive and non-recursive listings, on present and absent objects of any names, interleaved
    in any order, through a cache that loses or evicts entries at will — every answer is the
    answer of the wrapped bucket. -/
theorem C14_k_history (w : World) (cfg : Cfg) (hS : cfg.S ≥ 1) :
    ∀ (h : List (KOp × (Thanos.CacheKeys.Str → Option Val))) (c : KCache), HonestK w c → KHistOK w cfg h c →
      kRun w cfg h c = h.map fun ov => bStep w ov.1
  | [], _, _, _ => rfl
  | (op, view) :: rest, c, hc, ⟨hv, hpos, hrest⟩ => by
    obtain ⟨h1, h2⟩ := kStep_ok hc hv cfg op fun name off len p h => ⟨hS, hpos name off len p h⟩
    simp only [kRun, List.map_cons, h1]
    rw [C14_k_history w cfg hS rest _ (honestK_append hc h2) hrest]

/-- the two flavours of Iter have different keys: with one key for both, a cached non-recursive listing would
    answer a recursive one -/
example : Thanos.CacheKeys.bucketKeyString ⟨.iter, [97], 0, 0, [104]⟩ ≠
    Thanos.CacheKeys.bucketKeyString ⟨.iterRecursive, [97], 0, 0, [104]⟩ := by decide

/-- `BucketCacheKey.String` is injective on the keys the caching bucket builds (any object names,
    also names containing ':'): two different (verb, name, range) never share a key, so the cache
    cannot answer one of them with the other's data. -/
theorem C14_bucket_key_inj (H : Thanos.CacheKeys.Str) (k1 k2 : Thanos.CacheKeys.BucketKey)
    (w1 : Thanos.CacheKeys.WFB H k1) (w2 : Thanos.CacheKeys.WFB H k2)
    (h : Thanos.CacheKeys.bucketKeyString k1 = Thanos.CacheKeys.bucketKeyString k2) : k1 = k2 :=
  Thanos.CacheKeys.bucketKey_inj H k1 k2 w1 w2 h

example : Thanos.CacheKeys.bucketKeyString ⟨.subrange, [97, 58, 49], 16, 32, []⟩ =
    [115, 117, 98, 114, 97, 110, 103, 101, 58, 97, 58, 49, 58, 49, 54, 58, 51, 50] := by decide +kernel

/-- the guard in the source is the one of `getRange true`; ranges are merged when the gap is at
    most `limit`; the merge loop starts at the subrange size and doubles; a fetched subrange is
    kept (and stored) only when the key is not in `hits` yet; Iter computes its cache key AFTER the
    verb was adjusted for recursive listings (as `kIter` does) -/
theorem C14_source_facts :
    Thanos.Facts.cachedGetRangeGuard = "offset >= attrs.Size" ∧
    Thanos.Facts.mergeRangesCond = "(input[ix].start - input[last].end) <= limit" ∧
    Thanos.Facts.mergeUntilLoop =
      "limit := cfg.SubrangeSize; cfg.MaxSubRequests > 0 && len(missing) > cfg.MaxSubRequests; limit = limit * 2" ∧
    Thanos.Facts.iterKeyOrder = ["verb=cachekey.IterRecursiveVerb", "key=iterVerb.String()"] ∧
    Thanos.Facts.subrangeStoreCond = "_, ok := hits[key]; !ok" ∧
    Thanos.Facts.lastSubrangeConds =
      ["if:offset >= attrs.Size", "if:offset+length > attrs.Size", "if:endRange > attrs.Size",
       "if:lastSubrangeOffset >= m.end", "if:off == lastSubrangeOffset"] := ⟨rfl, rfl, rfl, rfl, rfl, rfl⟩

-- an 18-byte object, subrange size 4, a cache that holds the 2nd and 4th subrange: the read is
-- served from two cache hits and two bucket reads (merged with limit 0) and returns obj[1:17)
example : (getRange true (List.range 18) 4 0
    (fun a b => if (a, b) = (4, 8) ∨ (a, b) = (12, 16) then some (slice (List.range 18) a b) else none)
    3 1 16).out = .ok (List.range 17 |>.drop 1) := by rfl
example : (getRange true (List.range 18) 4 0
    (fun a b => if (a, b) = (4, 8) ∨ (a, b) = (12, 16) then some (slice (List.range 18) a b) else none)
    3 1 16).reads = [(0, 4), (8, 4), (16, 4)] := by decide +kernel
-- with at most one sub-request the three missing ranges are merged into one
example : (getRange true (List.range 18) 4 1
    (fun a b => if (a, b) = (4, 8) ∨ (a, b) = (12, 16) then some (slice (List.range 18) a b) else none)
    3 1 16).reads = [(0, 20)] := by decide +kernel
example : Honest (List.range 18)
    (fun a b => if (a, b) = (4, 8) ∨ (a, b) = (12, 16) then some (slice (List.range 18) a b) else none) := by
  intro a b bs h
  simp only at h
  split at h
  · exact (Option.some.inj h).symm
  · cases h

end Thanos.CachingBucket
