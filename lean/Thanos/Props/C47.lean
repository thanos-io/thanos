import Thanos.Model.Reloader
import Thanos.Model.WatchLoop
import Thanos.Lemmas.Reloader
import Thanos.Lemmas.ListFacts
import Thanos.Generated.Facts
/-
  C47 — The config reloader applies the latest configuration.

  About pkg/reloader: `Reloader.apply` (model `apply c track`, Model/Reloader.lean) and the loop of
  `Reloader.Watch` (Model/WatchLoop.lean; `namespace Watch` below).  `track = false` is the code as found: an
  apply that fails half-way through a directory leaves an untracked output, which a later successful apply
  does not remove (`C47_removed_full_false`); `track = true` is the repair, for which `C47_removed` holds along
  every history (`TrackInv`).  Everything else holds for both.  `hashFrame`: the byte framing of the hash
  input, which the model's `Hash` takes to be injective, is so on text but not in general.

  The statements are written with the notions defined at the top of Lemmas/Reloader.lean (`contentOf`, `lastOf`,
  `LenInv`, `expected`, `KeysOf`); `apply_outcomes` there is the one case analysis of `apply` everything here
  goes through.
-/
namespace Thanos.Reloader

/-- the retry loop stops at the first success; without one it makes as many requests as the
    context allows and reports failure -/
theorem retry_spec (script : List Bool) :
    (retry script).2 = script.any id ∧
    (retry script).1 = (if script.any id then (script.takeWhile (· == false)).length + 1 else script.length) := by
  induction script with
  | nil => simp [retry]
  | cons b rest ih =>
    cases b with
    | true => simp [retry]
    | false =>
      obtain ⟨h1, h2⟩ := ih
      simp only [retry, List.any_cons, id, Bool.false_or]
      refine ⟨h1, ?_⟩
      rw [h2]
      by_cases h : rest.any id <;> simp [h, List.takeWhile]

/-! ### `expandEnv` -/

/-- the scan of `expandEnv` always ends: its only errors are unset variables -/
theorem expandEnv_err_is_unset (env : String → Option String) (tol : Bool) (s : String) (e : ExpErr)
    (h : expandEnv env tol s = .error e) : ∃ n, e = .unset n :=
  (expandEnv_error env tol s e h).1

/-- with errors tolerated `expandEnv` never fails (unset references are kept as they are) -/
theorem expandEnv_tolerant (env : String → Option String) (s : String) :
    ∃ v, expandEnv env true s = .ok v := by
  cases h : expandEnv env true s with
  | ok v => exact ⟨v, rfl⟩
  | error e => exact nomatch (expandEnv_error env true s e h).2

/-- a text without `$` is copied unchanged -/
theorem expandEnv_plain (env : String → Option String) (tol : Bool) (s : String) (h : ∀ c ∈ s.toList, c ≠ '$') :
    expandEnv env tol s = .ok s := by
  unfold expandEnv
  rw [expandGo_plain env tol s.toList (s.length + 1) (by rw [String.length_toList]; omega) h]
  simp [Except.map]

/-! ### one `apply`: when it reloads, what it remembers -/

/-- **reload iff**: an `apply` that returns without error calls the reload endpoint exactly when
    the content on disk differs from what was recorded at the last successful reload, or the
    previous reload failed (`force`).  (Watch interval > 0; the endpoint is asked at least once.) -/
theorem C47_reload_iff (c : Conf) (track : Bool) (st : St) (s : Snap) (n : Nat)
    (hok : (apply c track st s).2 = .ok n) (hw : c.watchZero = false) (hlen : LenInv st s)
    (hs : s.script ≠ []) :
    0 < n ↔ (st.force = true ∨ lastOf st ≠ contentOf c s) := by
  obtain ⟨h1, h2⟩ := apply_ok_cases c track st s n hok hw hlen
  constructor
  · intro hn
    apply Classical.byContradiction
    intro hnot
    have := (h1 hnot).1
    omega
  · intro hneeds
    rw [(h2 hneeds).1]
    exact retry_pos s.script hs

/-- **a successful reload is recorded**: afterwards the reloader remembers exactly the content it
    reloaded and no retry is pending -/
theorem C47_success_recorded (c : Conf) (track : Bool) (st : St) (s : Snap) (n : Nat)
    (hok : (apply c track st s).2 = .ok n) (hw : c.watchZero = false) (hlen : LenInv st s)
    (hneeds : st.force = true ∨ lastOf st ≠ contentOf c s) (hsucc : s.script.any id = true) :
    lastOf (apply c track st s).1 = contentOf c s ∧ (apply c track st s).1.force = false := by
  obtain ⟨_, h2⟩ := apply_ok_cases c track st s n hok hw hlen
  -- of `apply_ok_cases`: a reload was needed (`h2`), and it succeeded (`.2.1`)
  exact (h2 hneeds).2.1 ((retry_spec s.script).1.trans hsucc)

/-- **retry**: when every request of an `apply` fails, the next `apply` asks again even if nothing
    changed on disk -/
theorem C47_retry (c : Conf) (track : Bool) (st : St) (s s2 : Snap) (n n2 : Nat)
    (hok : (apply c track st s).2 = .ok n) (hw : c.watchZero = false) (hlen : LenInv st s)
    (hneeds : st.force = true ∨ lastOf st ≠ contentOf c s) (hfail : s.script.any id = false)
    (hok2 : (apply c track (apply c track st s).1 s2).2 = .ok n2) (hlen2 : LenInv (apply c track st s).1 s2)
    (hs2 : s2.script ≠ []) :
    (apply c track st s).1.force = true ∧ 0 < n2 := by
  obtain ⟨_, h2⟩ := apply_ok_cases c track st s n hok hw hlen
  -- of `apply_ok_cases`: a reload was needed (`h2`), it failed (`.2.2`), so `force` is set (`.2`)
  have hf := ((h2 hneeds).2.2 ((retry_spec s.script).1.trans hfail)).2
  exact ⟨hf, (C47_reload_iff c track _ s2 n2 hok2 hw hlen2 hs2).mpr (Or.inl hf)⟩

/-- **quiescence**: once the recorded content is the content on disk and no retry is pending, an
    `apply` that returns without error makes no request and changes none of the bookkeeping -/
theorem C47_quiescent (c : Conf) (track : Bool) (st : St) (s : Snap) (n : Nat)
    (hok : (apply c track st s).2 = .ok n) (hw : c.watchZero = false)
    (hlast : lastOf st = contentOf c s) (hf : st.force = false) :
    n = 0 ∧ lastOf (apply c track st s).1 = lastOf st ∧ (apply c track st s).1.force = false := by
  have hlen : LenInv st s :=
    Or.inr (by rw [show st.lastDirs = s.dirs.map hashFiles from congrArg (·.2.1) hlast, List.length_map])
  obtain ⟨h1, _⟩ := apply_ok_cases c track st s n hok hw hlen
  obtain ⟨h0, hl, hf'⟩ := h1 fun h => h.elim (fun h => Bool.noConfusion (hf ▸ h)) fun h => h hlast
  exact ⟨h0, hl, hf'.trans hf⟩

/-- an `apply` that fails leaves the reload bookkeeping alone -/
theorem apply_err_keeps (c : Conf) (track : Bool) (st : St) (s : Snap) (e : Err)
    (herr : (apply c track st s).2 = .err e) :
    lastOf (apply c track st s).1 = lastOf st ∧ (apply c track st s).1.force = st.force := by
  -- `apply_outcomes`: config file failed | error after the pass | no request | reload succeeded | reload failed
  rcases apply_outcomes c track st s with ⟨_, _, hf⟩ | ⟨o0, p, _, _, ⟨_, hf⟩ | ⟨_, ⟨_, hf⟩ | ⟨_, _, ⟨_, hf⟩ | ⟨_, hf⟩⟩⟩⟩
  · rw [hf]; exact ⟨rfl, rfl⟩
  · rw [hf]; exact ⟨rfl, rfl⟩
  all_goals rw [hf] at herr; cases herr

/-- **what is remembered**: an `apply` either leaves the three remembered hashes (config file, every
    config directory, watched directories) exactly as they were, or — and only when the reload
    endpoint answered success during this very apply — replaces all of them by the hashes of what
    is on disk now.  No exit of `apply` (error in a later directory, in the watched directories,
    failed reload) remembers part of the content. -/
theorem apply_last_cases (c : Conf) (track : Bool) (st : St) (s : Snap) :
    lastOf (apply c track st s).1 = lastOf st ∨
    (lastOf (apply c track st s).1 = contentOf c s ∧ s.script.any id = true ∧
      ∃ n, (apply c track st s).2 = .ok n ∧ 0 < n) := by
  rcases apply_outcomes c track st s with
    ⟨_, _, hf⟩ | ⟨o0, p, _, rfl, ⟨_, hf⟩ | ⟨hpe, ⟨_, hf⟩ | ⟨_, _, ⟨hr, hf⟩ | ⟨_, hf⟩⟩⟩⟩
  case inr.inr.inr.inl =>
    -- the fourth of the five arms of `apply_outcomes` (the order is at `apply_err_keeps`): the reload succeeded,
    -- and the hashes committed are those of a completed pass
    rw [hf]
    refine Or.inr ⟨?_, (retry_spec s.script).1 ▸ hr, _, rfl, retry_pos s.script fun h0 => ?_⟩
    · simp only [lastOf, contentOf, (dirsStep_ok c track st s o0 hpe).1]
    · rw [h0] at hr; cases hr
  all_goals rw [hf]; exact Or.inl rfl

/-! ### along a history -/

/-- a history: one `apply` per snapshot of the disk, each from the state the last one left, whatever it returned -/
def runHistory (c : Conf) (track : Bool) : St → List Snap → St
  | st, [] => st
  | st, s :: rest => runHistory c track (apply c track st s).1 rest

/-- … and what the applies returned -/
def results (c : Conf) (track : Bool) : St → List Snap → List Res
  | _, [] => []
  | st, s :: rest => (apply c track st s).2 :: results c track (apply c track st s).1 rest

/-- **invariant**: along every history, what the reloader remembers is the content (per config file,
    per config directory, watched directories) at the last apply whose reload succeeded — or
    nothing, before the first one -/
theorem C47_remembers_last_success (c : Conf) (track : Bool) : ∀ (hist : List Snap) (st : St),
    lastOf (runHistory c track st hist) = lastOf st ∨
    ∃ s ∈ hist, lastOf (runHistory c track st hist) = contentOf c s ∧ s.script.any id = true := by
  intro hist
  induction hist with
  | nil => intro st; exact Or.inl rfl
  | cons s rest ih =>
    intro st
    simp only [runHistory]
    rcases ih (apply c track st s).1 with h | ⟨s', hs', h1, h2⟩
    · rcases apply_last_cases c track st s with h0 | ⟨h0, h3, _⟩
      · exact Or.inl (by rw [h, h0])
      · exact Or.inr ⟨s, by simp, by rw [h, h0], h3⟩
    · exact Or.inr ⟨s', by simp [hs'], h1, h2⟩

/-- at rest — the recorded content is what the disk shows and no retry is pending — an `apply`, whatever
    it returns, requests no reload and stays at rest -/
theorem apply_at_rest (c : Conf) (track : Bool) (st : St) (s : Snap) (hw : c.watchZero = false)
    (hlast : lastOf st = contentOf c s) (hf : st.force = false) :
    lastOf (apply c track st s).1 = lastOf st ∧ (apply c track st s).1.force = false ∧
    ((apply c track st s).2 = .ok 0 ∨ ∃ e, (apply c track st s).2 = .err e) := by
  cases hres : (apply c track st s).2 with
  | ok n =>
    obtain ⟨rfl, hl, hf'⟩ := C47_quiescent c track st s n hres hw hlast hf
    exact ⟨hl, hf', .inl rfl⟩
  | err e =>
    obtain ⟨hl, hf'⟩ := apply_err_keeps c track st s e hres
    exact ⟨hl, hf'.trans hf, .inr ⟨e, rfl⟩⟩

/-- **eventually**: after a successful reload of content `K` (recorded, no retry pending), as long
    as the files keep showing `K`, no apply requests another reload — every later result is `ok 0`
    or an error of reading/expanding the inputs.  (That the reload of `K` happens and is recorded is
    `C47_success_recorded`.) -/
theorem C47_eventually (c : Conf) (track : Bool) (hw : c.watchZero = false)
    (K : Option Hash × List Hash × Option Hash) :
    ∀ (snaps : List Snap) (st : St), lastOf st = K → st.force = false →
      (∀ s ∈ snaps, contentOf c s = K) →
      ∀ r ∈ results c track st snaps, r = .ok 0 ∨ ∃ e, r = .err e := by
  intro snaps
  -- the state stays at rest along the history (`apply_at_rest`)
  induction snaps with
  | nil => exact fun _ _ _ _ _ hr => nomatch hr
  | cons s rest ih =>
    intro st hlast hf hsame r hr
    obtain ⟨hl, hf', h0⟩ := apply_at_rest c track st s hw (hlast.trans (hsame s List.mem_cons_self).symm) hf
    rcases List.mem_cons.mp hr with rfl | hr
    · exact h0
    · exact ih _ (hl.trans hlast) hf' (fun s' hs' => hsame s' (List.mem_cons_of_mem _ hs')) r hr

/-! ### the outputs hold the inputs -/

/-- the tracked lists `dirsStep` starts from: the reloader's own, or one `none` per directory when it has none -/
theorem keysOf_start (st : St) (s : Snap) (h : KeysOf 0 st.lastDirFiles) :
    KeysOf 0 (if st.lastDirFiles.isEmpty = true then s.dirs.map (fun _ => none) else st.lastDirFiles) := by
  split
  · intro j l hj
    obtain ⟨_, _, hn⟩ := Option.map_eq_some_iff.mp (List.getElem?_map ▸ hj)
    cases hn
  · exact h

/-- the tracked output lists name outputs of their own directory (an invariant of `apply`) -/
theorem keysOf_apply (c : Conf) (track : Bool) (st : St) (s : Snap) (h : KeysOf 0 st.lastDirFiles) :
    KeysOf 0 (apply c track st s).1.lastDirFiles := by
  rcases apply_pass c track st s with ⟨_, _, ha⟩ | ⟨o0, _, _, hf, _⟩
  · rw [ha]; exact h
  · rw [hf]
    -- of `passDirs_out`: the half about `KeysOf` (`.1`), its second clause (`.2.1`: `KeysOf` of the lists kept)
    exact ((passDirs_out (p := dirsStep c track st s o0) rfl).1 (keysOf_start st s h)).2.1

/-- **outputs**: after an `apply` that returns without error, the config output file and the
    output of every file of every config directory hold the input, gunzipped if needed, with the
    environment variables substituted. -/
theorem C47_outputs (c : Conf) (track : Bool) (st : St) (s : Snap) (n : Nat)
    (hok : (apply c track st s).2 = .ok n) (hinv : KeysOf 0 st.lastDirFiles) :
    (c.hasCfg = true → c.hasOut = true → ∃ f v, s.cfg = some f ∧ expected c s.env f = some v ∧
        (apply c track st s).1.out.get .cfg = some v) ∧
    (∀ i d, s.dirs[i]? = some d → (d.map (·.name)).Nodup → ∀ f ∈ d, ∃ v, expected c s.env f = some v ∧
        (apply c track st s).1.out.get (.dir i f.name) = some v) := by
  rcases apply_pass c track st s with ⟨_, _, ha⟩ | ⟨o0, hcs, ho, _, hpe⟩
  · rw [ha] at hok; cases hok
  · rw [ho]
    -- of `passDirs_out`, the half about `KeysOf`: `pf` what the pass does not touch, `pw` the outputs it wrote
    obtain ⟨pf, _, pw⟩ := (passDirs_out (p := dirsStep c track st s o0) rfl).1 (keysOf_start st s hinv)
    constructor
    · intro hc hout
      obtain ⟨f, v, hcfg, hv, rfl⟩ := (cfgStep_ok hcs).1 hc hout
      refine ⟨f, v, hcfg, hv, ?_⟩
      rw [pf .cfg (fun m nm h => nomatch h), get_set, if_pos rfl]
    · exact fun i d hd => pw (hpe n hok) (d, i) (List.mem_zipIdx_iff_getElem?.mpr hd)

/-! ### a three-step history on which the code as found leaves a stale output -/

def wA : File := { name := "a", raw := "78", plain := some "x" }
def wB : File := { name := "b", raw := "79", plain := some "y" }
def wC : File := { name := "c", raw := "24", plain := some "$(UNSET_VAR)" }
def wConf : Conf := ⟨false, false, false, false⟩
def wSnap (fs : List File) : Snap := { cfg := none, dirs := [fs], watched := none, env := [], script := [true] }

/-- "outputs whose inputs disappeared are removed": after an apply that returns without error every
    output present in the output directory of a CfgDir belongs to a file the directory holds now
    (that each such file has its output is `C47_outputs`) -/
def C47_removed_full (track : Bool) : Prop :=
  ∀ (c : Conf) (hist : List Snap) (s : Snap) (n : Nat),
    (∀ s' ∈ hist, s'.dirs.length = s.dirs.length) →   -- the configured directories do not change
    (apply c track (runHistory c track {} hist) s).2 = .ok n →
    ∀ i name, (apply c track (runHistory c track {} hist) s).1.out.get (Key.dir i name) ≠ none →
      ∃ d, s.dirs[i]? = some d ∧ ∃ f ∈ d, f.name = name

/-- the history of `C47_removed_full_false`: its last apply succeeds and leaves output b in place -/
theorem wStale :
    (apply wConf false (runHistory wConf false {} [wSnap [wA], wSnap [wA, wB, wC]]) (wSnap [wA])).2 = .ok 0 ∧
    (apply wConf false (runHistory wConf false {} [wSnap [wA], wSnap [wA, wB, wC]]) (wSnap [wA])).1.out
      = [(Key.dir 0 "a", "x"), (Key.dir 0 "b", "y")] := by decide +kernel

/-- For the code as found this is false: apply {a}; apply {a, b, c} fails on c (unset variable) after
    writing b; apply {a} succeeds and leaves output b behind, untracked. -/
theorem C47_removed_full_false : ¬ C47_removed_full false := by
  intro h
  have := h wConf [wSnap [wA], wSnap [wA, wB, wC]] (wSnap [wA]) 0 (by decide) wStale.1 0 "b"
    (by rw [wStale.2]; decide)
  revert this
  decide

/-! ### with tracking, stale outputs are removed along every history -/

/-- the invariant behind "outputs whose inputs disappeared are removed": there are no more tracked lists than
    directories, and every output present in an output directory is in one of them -/
def TrackInv (st : St) (n : Nat) : Prop :=
  st.lastDirFiles.length ≤ n ∧ Tracked (fun _ => False) st.lastDirFiles st.out

/-- what the repaired `apply` guarantees about the directory outputs, from a state satisfying the
    invariant: the invariant again (whatever the result), and on success only outputs of the current files -/
theorem apply_tracked (c : Conf) (st : St) (s : Snap) (h : TrackInv st s.dirs.length) :
    TrackInv (apply c true st s).1 s.dirs.length ∧
    (∀ n, (apply c true st s).2 = .ok n → ∀ i name, (apply c true st s).1.out.get (Key.dir i name) ≠ none →
      ∃ d, s.dirs[i]? = some d ∧ ∃ f ∈ d, f.name = name) := by
  obtain ⟨hlen, ht⟩ := h
  rcases apply_pass c true st s with ⟨_, _, ha⟩ | ⟨o0, hcs, ho, hf, hpe⟩
  · rw [ha]; exact ⟨⟨hlen, ht⟩, fun n hn => nomatch hn⟩
  · have hlf : (if st.lastDirFiles.isEmpty = true then s.dirs.map (fun _ => none) else st.lastDirFiles).length
        ≤ s.dirs.length := by
      split
      · exact Nat.le_of_eq (List.length_map _)
      · exact hlen
    -- of `passDirs_out`, the half about `Tracked` (`.2`), with nothing tracked elsewhere (`A := fun _ => False`)
    obtain ⟨p1, p2⟩ := (passDirs_out (p := dirsStep c true st s o0) rfl).2 rfl hlf (fun _ => False) fun m nm hne => by
      refine (ht m nm ((cfgStep_ok hcs).2 m nm ▸ hne)).imp_right fun ⟨a, ha, hk⟩ => ⟨a, ?_, hk⟩
      split
      · rename_i he
        rw [List.isEmpty_iff.mp he] at ha
        cases ha
      · exact ha
    unfold TrackInv
    rw [ho, hf]
    refine ⟨⟨p2, p1⟩, fun n hn i name hne => ?_⟩
    obtain hfalse | ⟨a, ha, hk⟩ := p1 i name hne
    · exact hfalse.elim
    · -- a completed pass tracks for each directory the outputs of its files
      rw [(passDirs_ok (p := dirsStep c true st s o0) rfl (hpe n hn)).2.2] at ha
      obtain ⟨x, hx, rfl⟩ := List.mem_map.mp ha
      obtain ⟨f, hf, hfe⟩ := List.mem_map.mp hk
      cases hfe
      exact ⟨x.1, List.mem_zipIdx_iff_getElem?.mp hx, f, hf, rfl⟩

theorem trackInv_history (c : Conf) (n : Nat) : ∀ (hist : List Snap) (st : St), TrackInv st n →
    (∀ s ∈ hist, s.dirs.length = n) → TrackInv (runHistory c true st hist) n := by
  intro hist
  induction hist with
  | nil => intro st h _; exact h
  | cons s rest ih =>
    intro st h hn
    cases hn s List.mem_cons_self
    exact ih _ (apply_tracked c st s h).1 fun s' hs' => hn s' (List.mem_cons_of_mem _ hs')

/-- **removed** (the repaired code): along every history of applies — including applies that fail
    half-way through a directory — an apply that returns without error leaves in each output
    directory only outputs of files the input directory holds now. -/
theorem C47_removed : C47_removed_full true := by
  intro c hist s n hdirs hok i name hne
  have hinv := trackInv_history c s.dirs.length hist {} ⟨Nat.zero_le _, fun _ _ h => absurd rfl h⟩ hdirs
  exact (apply_tracked c _ s hinv).2 n hok i name hne

/-! ### what the hash framing distinguishes (the model keeps the hashed lists themselves) -/

/-- the bytes `hashFile` feeds to one sha256 state for a list of files: 0xff path 0xff content … -/
def hashFrame (fs : List (List Nat × List Nat)) : List Nat :=
  fs.flatMap fun f => 255 :: f.1 ++ 255 :: f.2

/-- The framing alone does not separate all directory contents: a file whose content contains
    0xff can imitate two files.  (Not reachable with UTF-8 text, which never contains 0xff; the
    model's `Hash` assumes the framing + sha256 injective, i.e. text inputs.) -/
theorem hashFrame_not_injective :
    hashFrame [([97], [120, 255, 98, 255, 121])] = hashFrame [([97], [120]), ([98], [121])] ∧
    [(([97] : List Nat), ([120, 255, 98, 255, 121] : List Nat))] ≠ [([97], [120]), ([98], [121])] := by
  decide

theorem hashFrame_cons (f : List Nat × List Nat) (fs : List (List Nat × List Nat)) :
    hashFrame (f :: fs) = 255 :: (f.1 ++ 255 :: (f.2 ++ hashFrame fs)) := by
  simp [hashFrame, List.flatMap_cons]

/-- what follows a field is empty or starts with 0xff, which is how `span_unique` sees where the field ends -/
theorem hashFrame_head (fs : List (List Nat × List Nat)) (c : Nat) (h : (hashFrame fs).head? = some c) :
    ¬ c ≠ 255 := by
  cases fs with
  | nil => cases h
  | cons f fs => rw [hashFrame_cons] at h; exact not_not_intro (Option.some.inj h).symm

/-- for text (no 0xff byte in paths and contents) the framing is injective: equal hash inputs come
    from equal lists of (path, content) -/
theorem hashFrame_injective : ∀ (fs gs : List (List Nat × List Nat)),
    (∀ f ∈ fs, 255 ∉ f.1 ∧ 255 ∉ f.2) → (∀ g ∈ gs, 255 ∉ g.1 ∧ 255 ∉ g.2) →
    hashFrame fs = hashFrame gs → fs = gs := by
  intro fs
  induction fs with
  | nil =>
    intro gs _ _ h
    cases gs with
    | nil => rfl
    | cons g gs => rw [hashFrame_cons] at h; cases h
  | cons f fs ih =>
    intro gs hf hg h
    cases gs with
    | nil => rw [hashFrame_cons] at h; cases h
    | cons g gs =>
      rw [hashFrame_cons, hashFrame_cons] at h
      obtain ⟨hf1, hf2⟩ := List.forall_mem_cons.mp hf
      obtain ⟨hg1, hg2⟩ := List.forall_mem_cons.mp hg
      obtain ⟨h1, h2⟩ := split_at hf1.1 hg1.1 (List.cons.inj h).2
      obtain ⟨h3, h4⟩ := span_unique (· ≠ 255) (fun c hc e => hf1.2 (e ▸ hc)) (fun c hc e => hg1.2 (e ▸ hc))
        (hashFrame_head fs) (hashFrame_head gs) h2
      rw [ih gs hf2 hg2 h4, Prod.ext h1 h3]

namespace Watch

/-- **bounded response**: in any run of the loop (timer armed no further than W ahead), if the loop
    is still running at some time ≥ τ (the process was not stopped), then an `apply` starts in
    `[τ, τ + W]`: whatever changed on disk up to τ is read by an apply at most one watch interval
    later — through the file watcher if it notified, through the timer if it did not. -/
theorem apply_within_interval (W : Nat) : ∀ (ws : List Wake) (now deadline τ : Nat),
    Valid W now deadline ws → deadline ≤ now + W → now ≤ τ → (∃ w ∈ ws, τ ≤ w.time) →
    ∃ t ∈ applies ws, τ ≤ t ∧ t ≤ τ + W := by
  intro ws
  induction ws with
  | nil => intro now d τ _ _ _ h; obtain ⟨w, hw, _⟩ := h; simp at hw
  | cons w ws ih =>
    intro now d τ hv hd hn hex
    obtain ⟨h1, h2, _, h4⟩ := hv
    by_cases hτ : τ ≤ w.time
    · exact ⟨w.time, by simp [applies], hτ, by omega⟩
    · obtain ⟨w', hw', hle⟩ := hex
      rcases List.mem_cons.mp hw' with rfl | hw'
      · exact absurd hle hτ
      · obtain ⟨t, ht, hb⟩ := ih w.time (w.time + W) τ h4 (Nat.le_refl _) (by omega) ⟨w', hw', hle⟩
        exact ⟨t, by simp only [applies, List.map_cons, List.mem_cons]; right; exact ht, hb⟩

/-- every wake-up is an apply.  True by the definition of `applies`; that the Go loop has no early
    `continue`/`return` between the select and the apply other than the cancelled context is
    `C47_watch_loop_fact`. -/
theorem one_apply_per_wake (ws : List Wake) : (applies ws).length = ws.length := by simp [applies]

theorem le_of_valid (W : Nat) (ws : List Wake) : ∀ (now deadline : Nat), Valid W now deadline ws →
    ∀ t ∈ applies ws, now ≤ t := by
  induction ws with
  | nil => exact fun _ _ _ _ ht => nomatch ht
  | cons w ws ih =>
    intro now deadline hv t ht
    rcases List.mem_cons.mp ht with rfl | ht
    · exact hv.1
    · exact Nat.le_trans hv.1 (ih w.time _ hv.2.2.2 t ht)

/-- the applies come in time order, the first within one watch interval of `now` (and so, from
    each wake-up on, the next within one interval of it) -/
theorem applies_dense (W : Nat) : ∀ (ws : List Wake) (now deadline : Nat), Valid W now deadline ws →
    deadline ≤ now + W → (applies ws).Pairwise (· ≤ ·) ∧ ∀ t ∈ (applies ws).head?, t ≤ now + W := by
  intro ws
  induction ws with
  | nil => intro _ _ _ _; simp [applies]
  | cons w ws ih =>
    intro now d hv hd
    obtain ⟨h1, h2, _, h4⟩ := hv
    obtain ⟨p, _⟩ := ih w.time (w.time + W) h4 (Nat.le_refl _)
    exact ⟨List.pairwise_cons.mpr ⟨le_of_valid W ws w.time _ h4, p⟩, by simp [applies]; omega⟩

-- non-vacuity: W = 10, timer armed at 10; a notify at 3, the timer at 13, a notify at 20
example : Valid 10 0 10 [⟨3, .notify⟩, ⟨13, .tick⟩, ⟨20, .notify⟩] := by
  simp [Valid]
example : applies [⟨3, .notify⟩, ⟨13, .tick⟩, ⟨20, .notify⟩] = [3, 13, 20] := by decide

end Watch

/-- Regenerated obligations: the decision skeleton of the Watch loop — the select over the timer
    and the watcher, the only exit guarded by `ctx.Err() != nil`, then unconditionally: cancel, re-arm
    with `r.watchInterval`, `r.apply`, and `continue` on error (the loop of `Watch.Valid`) — and of
    the retry loop (call, return on success, otherwise wait for the stop channel or the tick). -/
theorem C47_watch_loop_fact : Thanos.Facts.reloaderWatchLoop =
    ["select{recv applyCtx.Done()|recv r.watcher.notify}", "if ctx.Err() != nil", "applyCancel()", "wg.Wait()",
     "return", "applyCancel()", "context.WithTimeout(ctx, r.watchInterval)",
     "if err := r.apply(applyCtx); err != nil", "r.apply(applyCtx)", "continue"] := rfl

theorem C47_retry_loop_fact : Thanos.Facts.retryLoop =
    ["if err = f(); err == nil", "f()", "return", "select{recv stopc|recv tick.C}", "return"] := rfl

/-- Regenerated obligation: whether the entries loop of `apply` tracks every output as soon as it
    is written (selects `Driver/Misc.lean: rlTrack`). -/
theorem C47_track_fact : Thanos.Facts.reloaderTracksWrittenOutputs = "yes" := rfl

/-- Regenerated obligation: the three remembered hashes are written in exactly one place each —
    inside the retry closure of `apply`, after `r.triggerReload` returned without error — and
    nowhere else (not while the directories are walked, not in `New`): the model's `finish` commits
    them only on a successful reload, which is what `apply_last_cases` is about. -/
theorem C47_hash_assign_fact : Thanos.Facts.reloaderHashAssignments =
    ["closure after r.triggerReload: r.lastCfgHash = cfgHash",
     "closure after r.triggerReload: r.lastCfgDirsHash = cfgDirsHash",
     "closure after r.triggerReload: r.lastWatchedDirsHash = watchedDirsHash"] := rfl

/-- Regenerated obligation: the condition under which `apply` does not reload (the one `apply` of
    the model tests). -/
theorem C47_noreload_fact : Thanos.Facts.reloaderNoReloadCond =
    "!r.forceReload && !cfgDirsChanged && bytes.Equal(r.lastCfgHash, cfgHash) && bytes.Equal(r.lastWatchedDirsHash, watchedDirsHash)" := rfl

-- non-vacuity: the first apply of a one-directory setup reloads once and records the content; a
-- second apply with the same files makes no request; a failed reload sets the retry flag; the
-- hypotheses of the theorems above hold on these
example : (apply wConf true {} (wSnap [wA])).2 = .ok 1 := by decide
example : LenInv {} (wSnap [wA]) := Or.inl rfl
example : lastOf (apply wConf true {} (wSnap [wA])).1 = contentOf wConf (wSnap [wA]) := by decide
example : (apply wConf true (apply wConf true {} (wSnap [wA])).1 (wSnap [wA])).2 = .ok 0 := by decide
example : (apply wConf true {} { wSnap [wA] with script := [false, false] }).1.force = true := by decide
example : (apply wConf true {} { wSnap [wA] with script := [false, false] }).2 = .ok 2 := by decide
example : (apply wConf true (runHistory wConf true {} [wSnap [wA], wSnap [wA, wB, wC]]) (wSnap [wA])).1.out
    = [(Key.dir 0 "a", "x")] := by decide +kernel
example : (apply wConf false (runHistory wConf false {} [wSnap [wA], wSnap [wA, wB, wC]]) (wSnap [wA])).1.out
    = [(Key.dir 0 "a", "x"), (Key.dir 0 "b", "y")] := wStale.2
example : (expandEnv (lookupEnv [("A", "1")]) false "x$(A)$(").toOption = some "x1$(" := by decide +kernel
example : (expandEnv (lookupEnv []) false "x$(A)").toOption = none := by decide
example : (expandEnv (lookupEnv []) true "x$(A)").toOption = some "x$(A)" := by decide +kernel

end Thanos.Reloader
