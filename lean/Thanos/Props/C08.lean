import Thanos.Model.Labels
import Thanos.Model.Frames
import Thanos.Model.StoreSpec
import Thanos.Lemmas.Labels
import Thanos.Lemmas.StoreSpec
import Thanos.Lemmas.Frames
import Thanos.Generated.Facts
/-
  C08 — Stores present external labels consistently.

  "Every series returned by a store carries the store's external labels, which override same-named
   labels stored in the data, minus any labels the request asked to drop as replica labels.  A request
   whose selectors contradict the store's external labels returns no series."

  Code-level (transliterations, unbounded): `ExtendSortedLabels`, `rmLabels` (through the Prometheus
  `labels.Builder`), the label completion of `TSDBStore.Series` and `blockSeriesClient.nextBatch`, the frame
  splitter of `TSDBStore.Series`.  Specification level: `filterExt` (the three external-label matcher filters)
  and the `Series` answers of `Model/StoreSpec.lean`, which the real stores are compared with on every run.

  Label sets are legal ones: strictly sorted by name (no duplicates) and without empty values — what TSDB
  stores and what external label sets are.  Illegal label sets are part of the correspondence only.
  What a served series is to carry is `expected` (Lemmas/Labels.lean, with `extend_get`), what contradicts is
  `Contradicts` (Lemmas/StoreSpec.lean, with `filterExt_none_iff`).
-/
namespace Thanos.Labels

/-- `TSDBStore.Series`: labels of a served series -/
theorem C08_labels_tsdb (R : List Nat) (ext raw : Labels) (n : Nat)
    (he : StrictSorted ext) (hne : NoEmpty ext) (hr : NoEmpty raw) :
    lookup (serveTSDB R ext raw) n = expected R ext raw n := by
  unfold serveTSDB expected
  rw [extend_get _ _ n (rm_sorted R ext he hne) (rm_noEmpty R ext hne) (rm_noEmpty R raw hr),
    lookup_rm R ext n hne, lookup_rm R raw n hr]
  cases R.contains n <;> rfl

/-- `blockSeriesClient.nextBatch`: labels of a served series -/
theorem C08_labels_bucket (R : List Nat) (ext raw : Labels) (n : Nat)
    (he : StrictSorted ext) (hne : NoEmpty ext) (hr : NoEmpty raw) (hs : StrictSorted raw) :
    lookup (serveBucket R ext raw) n = expected R ext raw n := by
  cases R with
  | nil => exact extend_get raw ext n he hne hr
  | cons r rs =>
    have hne' := rm_noEmpty (r :: rs) ext hne
    have hs' := rm_sorted (r :: rs) ext he hne
    refine (lookup_rm _ _ n (extendSorted_noEmpty raw _ hs' hne' hr hs)).trans ?_
    rw [extend_get raw _ n hs' hne' hr, lookup_rm _ ext n hne]
    unfold expected
    cases (r :: rs).contains n <;> rfl

/-- served label sets are strictly sorted -/
theorem C08_sorted_tsdb (R : List Nat) (ext raw : Labels) (hr : NoEmpty raw) (hs : StrictSorted raw) :
    StrictSorted (serveTSDB R ext raw) :=
  extend_sorted _ _ (rm_sorted R raw hs hr)

theorem C08_sorted_bucket (R : List Nat) (ext raw : Labels) (he : StrictSorted ext) (hne : NoEmpty ext)
    (hr : NoEmpty raw) (hs : StrictSorted raw) : StrictSorted (serveBucket R ext raw) := by
  unfold serveBucket
  cases hR : R.isEmpty with
  | true => simp only [if_true]; exact extend_sorted _ _ hs
  | false =>
    simp only [Bool.false_eq_true, if_false]
    exact rm_sorted R _ (extend_sorted _ _ hs)
      (extendSorted_noEmpty raw (rm R ext) (rm_sorted R ext he hne) (rm_noEmpty R ext hne) hr hs)

/-- the two stores serve the same label set for the same stored series -/
theorem C08_labels_same (R : List Nat) (ext raw : Labels)
    (he : StrictSorted ext) (hne : NoEmpty ext) (hr : NoEmpty raw) (hs : StrictSorted raw) :
    serveTSDB R ext raw = serveBucket R ext raw := by
  apply sorted_lookup_ext _ _ (C08_sorted_tsdb R ext raw hr hs) (C08_sorted_bucket R ext raw he hne hr hs)
  intro n
  rw [C08_labels_tsdb R ext raw n he hne hr, C08_labels_bucket R ext raw n he hne hr hs]

/-- every external label that is not dropped is on every series the TSDB store serves, with the external value (the
    store gateway: by `C08_labels_same`, for strictly sorted stored labels) -/
theorem C08_carries_ext (R : List Nat) (ext raw : Labels) (n v : Nat)
    (he : StrictSorted ext) (hne : NoEmpty ext) (hr : NoEmpty raw)
    (hv : lookup ext n = some v) (hn : R.contains n = false) :
    lookup (serveTSDB R ext raw) n = some v := by
  rw [C08_labels_tsdb R ext raw n he hne hr]
  exact expected_eq_some.mpr ⟨hn, .inl hv⟩

/-- dropped replica labels are on no series the TSDB store serves (the store gateway: by `C08_labels_same`) -/
theorem C08_drops_replica (R : List Nat) (ext raw : Labels) (n : Nat)
    (he : StrictSorted ext) (hne : NoEmpty ext) (hr : NoEmpty raw) (hn : R.contains n = true) :
    lookup (serveTSDB R ext raw) n = none := by
  rw [C08_labels_tsdb R ext raw n he hne hr]
  exact if_pos hn

end Thanos.Labels

namespace Thanos.StoreSpec
open Thanos.Labels

/-- a request whose selectors contradict the external labels of the TSDB store returns no series -/
theorem C08_contradiction_tsdb (db : Block) (r : Req) (h : Contradicts db.ext r.matchers) :
    tsdbSeries db r = .ok [] := by
  unfold tsdbSeries
  rw [(filterExt_none_iff db.ext r.matchers).mpr h]

/-- … and so does the store gateway, block by block: blocks whose external labels are contradicted
    contribute nothing -/
theorem C08_contradiction_block (R : List Nat) (b : Block) (r : Req) (h : Contradicts b.ext r.matchers) :
    blockSeries R b r = [] := by
  unfold blockSeries
  rw [(filterExt_none_iff b.ext r.matchers).mpr h]

theorem C08_contradiction_bucket (blocks : List Block) (r : Req)
    (h : ∀ b ∈ blocks, Contradicts b.ext r.matchers) : bucketSeries blocks r = [] := by
  unfold bucketSeries
  rw [List.flatMap_eq_nil_iff]
  intro b hb
  have hb' : b ∈ blocks := (List.mem_filter.mp (mem_selected blocks r b hb)).1
  exact C08_contradiction_block _ b r (h b hb')

/-- every series the specification serves is the completion of a stored series -/
theorem C08_series_from_store_tsdb (db : Block) (r : Req) (es : List Entry) (h : tsdbSeries db r = .ok es) :
    ∀ e ∈ es, ∃ s ∈ db.series, e.1 = serveTSDB r.without db.ext s.lset := by
  intro e he
  obtain ⟨_, _, _, he⟩ := mem_tsdbSeries h he
  obtain ⟨s, hs, _, _, rfl⟩ := mem_selectSeries.mp he
  exact ⟨s, hs, rfl⟩

theorem C08_series_from_store_bucket (blocks : List Block) (r : Req) :
    ∀ e ∈ bucketSeries blocks r, ∃ b ∈ blocks, ∃ s ∈ b.series, e.1 = serveBucket r.without b.ext s.lset := by
  intro e he
  obtain ⟨b, hb, heb⟩ := List.mem_flatMap.mp he
  obtain ⟨_, _, _, heb⟩ := mem_blockSeries heb
  obtain ⟨s, hs, _, _, rfl⟩ := mem_selectSeries.mp heb
  exact ⟨b, (List.mem_filter.mp (mem_selected blocks r b hb)).1, s, hs, rfl⟩

end Thanos.StoreSpec

namespace Thanos.Frames

/-- frames of a series: concatenating their chunks gives the chunks of the series, in order -/
theorem splitFrames_concat (maxBytes : Int) (labelSizes : List Int) (chunks : List Chunk) :
    (splitFrames maxBytes labelSizes chunks).flatten = chunks := by
  unfold splitFrames
  cases chunks with
  | nil => simp [splitLoop]
  | cons c cs => simpa using splitLoop_flatten _ (c :: cs) _ [] (by simp)

/-- no frame is empty (for every budget, also zero or negative) -/
theorem splitFrames_nonempty (maxBytes : Int) (labelSizes : List Int) (chunks : List Chunk) :
    ∀ f ∈ splitFrames maxBytes labelSizes chunks, f ≠ [] :=
  splitLoop_nonempty _ chunks _ []

/-- a series without chunks sends no frame; any other sends at least one -/
theorem splitFrames_nil_iff (maxBytes : Int) (labelSizes : List Int) (chunks : List Chunk) :
    splitFrames maxBytes labelSizes chunks = [] ↔ chunks = [] :=
  splitLoop_nil_iff _ chunks _ []

/-- "minor inaccuracy … max of full chunk size": without its last chunk a frame is empty or strictly below the
    budget, so a frame exceeds `maxBytesPerFrame − labels` by at most its last chunk (every budget, also ≤ 0) -/
theorem splitFrames_overshoot (maxBytes : Int) (labelSizes : List Int) (chunks : List Chunk) :
    ∀ f ∈ splitFrames maxBytes labelSizes chunks, ∃ init last, f = init ++ [last] ∧
      (init = [] ∨ bytes init < budgetOf maxBytes labelSizes) :=
  splitLoop_overshoot _ chunks _ [] (by simp [bytes]) (by intro h; exact absurd rfl h)

/-- every frame but the last one is full -/
theorem splitFrames_full (maxBytes : Int) (labelSizes : List Int) (chunks : List Chunk) :
    ∀ f ∈ (splitFrames maxBytes labelSizes chunks).dropLast, bytes f ≥ budgetOf maxBytes labelSizes :=
  splitLoop_full _ chunks _ [] (by simp [bytes])

end Thanos.Frames

namespace Thanos.Props.C08
open Thanos.Labels Thanos.StoreSpec Thanos.Frames

/-! ### regenerated facts: the label completions in the sources are the modelled compositions -/

theorem C08_fact_tsdb :
    Thanos.Facts.storesTSDBComplete =
      ["finalExtLset := rmLabels(s.extLsetAsLabelSets[0].Copy(), extLsetToRemove)",
       "completeLabelset := labelpb.ExtendSortedLabels(rmLabels(series.Labels(), extLsetToRemove), finalExtLset)"] :=
  rfl

theorem C08_fact_bucket :
    Thanos.Facts.storesBucketComplete =
      ["extLset = rmLabels(extLset.Copy(), extLsetToRemove)",
       "completeLabelset := labelpb.ExtendSortedLabels(b.lset, b.extLset)",
       "completeLabelset = rmLabels(completeLabelset, b.extLsetToRemove)"] :=
  rfl

-- stored {__name__=8, cluster=1, job=6, replica=3}, external {cluster=9, replica=3, zone=11}, drop replica
example : StrictSorted [(5, 9), (9, 3), (11, 11)] ∧ NoEmpty [(5, 9), (9, 3), (11, 11)] := by
  constructor
  · unfold StrictSorted; decide
  · intro x hx; simp at hx; rcases hx with rfl | rfl | rfl <;> decide
example : serveTSDB [9] [(5, 9), (9, 3), (11, 11)] [(1, 8), (5, 1), (7, 6), (9, 3)] = [(1, 8), (5, 9), (7, 6), (11, 11)] := rfl
example : serveBucket [9] [(5, 9), (9, 3), (11, 11)] [(1, 8), (5, 1), (7, 6), (9, 3)] = [(1, 8), (5, 9), (7, 6), (11, 11)] := rfl
example : Contradicts [(5, 9)] [⟨5, false, [1, 2]⟩] := ⟨⟨5, false, [1, 2]⟩, by simp, by decide, by decide⟩
-- budget 50 − 10 = 40: chunks of 30, 30, 5, 50 bytes go out as [0,1] [2,3]
example : (splitFrames 50 [10] [(0, 30), (1, 30), (2, 5), (3, 50)]).map (·.map (·.1)) = [[0, 1], [2, 3]] := rfl
-- budget below the labels: every chunk alone
example : (splitFrames 1 [10] [(0, 30), (1, 30)]).map (·.map (·.1)) = [[0], [1]] := rfl

end Thanos.Props.C08
