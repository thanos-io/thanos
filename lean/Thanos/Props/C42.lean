import Thanos.Model.ResultsCache
import Thanos.Lemmas.ResultsCache
import Thanos.Generated.Facts
/-
  C42 — The results cache never changes query results.

  `history cfg D align splitMs [] reqs` (Model/ResultsCache.lean) is the chain StepAlign →
  SplitByInterval → results cache → downstream `D` run on a history of range requests against
  one fresh cache.  `cfg` selects the code without (`false`) / with (`true`) each of the two
  repairs made for this property (`minAll`: minTime over all series; `gridFix`: partition stays
  on the request's grid after a lower-step extent).  `historyE` runs the same chain with, before
  every request, a loss of cache entries and the run-time rules of the moment (`Step`, `Env`).
-/
namespace Thanos.ResultsCache

/-- C42 at full strength for the code variant `cfg`: every response of every history of
    step-aligned requests (any steps, any split interval, any data of a downstream that lists its
    series in label order, `Down.Sorted`) is the direct answer. -/
def C42_full (cfg : Cfg) : Prop :=
  ∀ (D : Down) (splitMs : Int) (reqs : List Req), D.Sorted → 0 < splitMs → (∀ r ∈ reqs, Aligned r) →
    history cfg D true splitMs [] reqs = reqs.map fun r => some (evalD D r.start r.stop r.step)

/-- F42b witness: series 0 appears at 7800000, series 1 is always there -/
def dLate : Down :=
  { ids := [0, 1], f := fun id t => if id = 0 then (if t ≥ 7800000 then some 7 else none) else some 9 }

/-- F42a witness: one series, value = timestamp in seconds -/
def dLin : Down := { ids := [0], f := fun _ t => some (t / 1000) }

/-- F42b: with `minTime()` looking at the first series only, the fetched part [7200000, 7800000]
    (whose first series starts at 7800000) ties with the cached extent [7800000, 8400000], the
    stable sort keeps "cached, fetched" and `matrixMerge` drops series 1's sample at 7200000. -/
theorem C42_minFirst_false : ¬ C42_full ⟨false, true⟩ := fun h =>
  absurd (h dLate 86400000 [⟨7800000, 8400000, 600000⟩, ⟨7200000, 8400000, 600000⟩]
    (by unfold Down.Sorted; decide) (by decide) (by unfold Aligned; decide)) (by decide +kernel)

/-- F42a: answering a 60 s request from an extent cached under 30 s that ends at 90000 continues
    at 90000: the rest is evaluated at 90000, 150000, 210000 instead of 120000, 180000, 240000. -/
theorem C42_noGridFix_false : ¬ C42_full ⟨true, false⟩ := fun h =>
  absurd (h dLin 86400000 [⟨0, 90000, 30000⟩, ⟨0, 240000, 60000⟩]
    (by unfold Down.Sorted; decide) (by decide) (by unfold Aligned; decide)) (by decide +kernel)

/-- the repaired code answers both witness histories exactly -/
example : history ⟨true, true⟩ dLate true 86400000 []
      [⟨7800000, 8400000, 600000⟩, ⟨7200000, 8400000, 600000⟩] =
    [some (evalD dLate 7800000 8400000 600000), some (evalD dLate 7200000 8400000 600000)] := by decide +kernel
example : history ⟨true, true⟩ dLin true 86400000 [] [⟨0, 90000, 30000⟩, ⟨0, 240000, 60000⟩] =
    [some (evalD dLin 0 90000 30000), some (evalD dLin 0 240000 60000)] := by decide +kernel

/-- **MergeResponse ordering.**  Responses that are restrictions of one and the same data to
    their time ranges (`Coherent`) — whatever their number, input order or overlaps:
    `MergeResponse` with the repaired `minTime()` returns a canonical matrix in which every series
    has exactly the samples of all responses, each once, ascending (`mergeResponse_spec`).  With the
    first-series `minTime()` this is false: `C42_minFirst_false`. -/
theorem C42_mergeResponse (ps : List Piece) (h : Coherent ps) :
    Canon (mergeResponse true (ps.map (·.m))) ∧
    ∀ id, Asc (look (mergeResponse true (ps.map (·.m))) id) ∧
      ∀ x, x ∈ look (mergeResponse true (ps.map (·.m))) id ↔ ∃ p ∈ ps, x ∈ look p.m id :=
  mergeResponse_spec ps h

/-- **C42_step** (one request, same-step cache): if every key of the cache is for the request's
    step and every cached extent holds exactly the downstream's data (`GoodCache`), the chain
    StepAlign → SplitByInterval → results cache (hit with any number of extents, partial hits,
    tiny extents, misses) → MergeResponse answers with the direct answer to the step-aligned
    request and leaves a good cache — with or without the grid repair (`g`): one step never meets a
    lower-step key. -/
theorem C42_step (g : Bool) (env : Env) (D : Down) (hD : D.Sorted) (splitMs : Int) (hsp : 0 < splitMs) (c : Cache) (req : Req)
    (hstep : 0 < req.step) (h0 : 0 ≤ req.start) (hle : req.start ≤ req.stop) (hc : GoodCache D req.step c) :
    ∃ c', frontend ⟨true, g⟩ env D true splitMs c req =
        some (evalD D (req.start / req.step * req.step) (req.stop / req.step * req.step) req.step, c') ∧
      GoodCache D req.step c' := by
  obtain ⟨c', h, hc'⟩ := frontend_exact g (· = req.step) env D hD splitMs hsp c req hstep h0 hle rfl
    (Or.inr fun s hs hm => Int.lt_irrefl _ (hs ▸ (lowerSteps_spec hm).2.1)) (goodCache_iff.mp hc)
  exact ⟨c', h, goodCache_iff.mpr hc'⟩

/-- **C42 for histories that use one step** (any step, any split interval, any number of
    requests, aligned or not — StepAlign is on —, overlapping / adjacent / disjoint / repeated
    ranges, any data): every response of the chain with the `minTime` repair, with or without the grid
    repair (`g`), is the direct answer to the step-aligned request. -/
theorem C42_same_step (g : Bool) (D : Down) (hD : D.Sorted) (splitMs : Int) (hsp : 0 < splitMs) (st : Int) (hst : 0 < st)
    (reqs : List Req) (hr : ∀ r ∈ reqs, r.step = st ∧ 0 ≤ r.start ∧ r.start ≤ r.stop) :
    history ⟨true, g⟩ D true splitMs [] reqs =
      reqs.map fun r => some (evalD D (r.start / st * st) (r.stop / st * st) st) := by
  rw [history_exact g (· = st) (Or.inr fun a b ha hb hm => by have := (lowerSteps_spec hm).2.1; omega) D hD splitMs hsp reqs
    fun r hr' => ⟨(hr r hr').1, (hr r hr').1 ▸ hst, (hr r hr').2⟩]
  exact List.map_congr_left fun r hr' => by rw [(hr r hr').1]

-- non-vacuity: a three-request history (hit, extension to the right, front piece) meets the hypotheses
example : ∀ r ∈ [(⟨7800000, 8400000, 600000⟩ : Req), ⟨7200000, 9000000, 600000⟩, ⟨6000000, 7800000, 600000⟩],
    r.step = 600000 ∧ 0 ≤ r.start ∧ r.start ≤ r.stop := by
  intro r hr; simp at hr; rcases hr with rfl | rfl | rfl <;> decide

/-- **C42_alt_step**: a request answered from extents cached under a smaller common step `s'`
    that divides its step (alternative cache keys) gets the direct answer — this needs the grid
    repair (`C42_noGridFix_false`). -/
theorem C42_alt_step (env : Env) (D : Down) (hD : D.Sorted) (req : Req) (hreq : Aligned req) (s' : Int) (hs' : 0 < s')
    (hdvd : req.step % s' = 0) (exts : List Extent) (hgood : ∀ e ∈ exts, GoodExtent D s' e) :
    (handleHit ⟨true, true⟩ env D req exts true).1 = evalD D req.start req.stop req.step :=
  (handleHit_exact true env D hD req hreq true s' hdvd rfl exts hgood).1

/-- **C42 for all histories**: any number of range requests with any positive steps (common
    steps that reuse lower-step extents and others), aligned or not (StepAlign is on), any
    ranges, any split interval, any data that does not change: every response of the repaired
    chain equals the direct answer to the step-aligned request. -/
theorem C42_history (D : Down) (hD : D.Sorted) (splitMs : Int) (hsp : 0 < splitMs) (reqs : List Req)
    (hr : ∀ r ∈ reqs, 0 < r.step ∧ 0 ≤ r.start ∧ r.start ≤ r.stop) :
    history ⟨true, true⟩ D true splitMs [] reqs =
      reqs.map fun r => some (evalD D (r.start / r.step * r.step) (r.stop / r.step * r.step) r.step) :=
  history_exact true (0 < ·) (Or.inl rfl) D hD splitMs hsp reqs fun r hr' => ⟨(hr r hr').1, hr r hr'⟩

/-- **C42 with the run-time rules**: the same for histories in which every request comes with its
    own environment — any freshness cut-off `maxCacheTime` (requests in the fresh zone bypass the
    cache, extents are truncated by `filterRecentExtents`), any set of responses that
    `shouldCacheResponse` refuses to cache (`Cache-Control: no-store`, `@` beyond the end,
    negative offsets), and a cache that may lose all its entries before any request (eviction,
    restart).  Data that does not change is still the premise: the freshness rule exists because
    recent data does change. -/
theorem C42_history_env (D : Down) (hD : D.Sorted) (splitMs : Int) (hsp : 0 < splitMs) (steps : List Step)
    (hr : ∀ s ∈ steps, 0 < s.req.step ∧ 0 ≤ s.req.start ∧ s.req.start ≤ s.req.stop) :
    historyE ⟨true, true⟩ D true splitMs [] steps =
      steps.map fun s => some (evalD D (s.req.start / s.req.step * s.req.step) (s.req.stop / s.req.step * s.req.step) s.req.step) :=
  historyE_exact true (0 < ·) (Or.inl rfl) D hD splitMs hsp steps [] (GoodCacheOn.nil _ D)
    fun s hs => ⟨(hr s hs).1, hr s hs⟩

-- non-vacuity: a request inside the fresh zone, an uncacheable response with a flush, and the loss of
-- single keys in one history
example : ∀ s ∈ [(⟨⟨1000000, fun _ => false⟩, fun _ => false, ⟨600000, 1200000, 60000⟩⟩ : Step),
      ⟨⟨1000000, fun r => r.start ≤ 660000 && 660000 ≤ r.stop⟩, fun _ => true, ⟨0, 900000, 60000⟩⟩,
      ⟨⟨1100000, fun _ => false⟩, fun k => k.idx % 2 == 0, ⟨1080000, 1200000, 60000⟩⟩],
    0 < s.req.step ∧ 0 ≤ s.req.start ∧ s.req.start ≤ s.req.stop := by
  intro s hs; simp at hs; rcases hs with rfl | rfl | rfl <;> decide

/-- **C42** at full strength holds for the repository as it is (`liveCfg`, both repairs). -/
theorem C42 : C42_full ⟨true, true⟩ := by
  intro D splitMs reqs hD hsp hal
  rw [C42_history D hD splitMs hsp reqs (fun r hr => ⟨(hal r hr).1, (hal r hr).2.1, (hal r hr).2.2.1⟩)]
  apply List.map_congr_left
  intro r hr
  obtain ⟨h1, _, _, h4, h5⟩ := hal r hr
  rw [Int.ediv_mul_cancel (Int.dvd_of_emod_eq_zero h4), Int.ediv_mul_cancel (Int.dvd_of_emod_eq_zero h5)]

example : liveCfg = ⟨true, true⟩ := rfl

/-! ### regenerated obligations -/

/-- the variant the model driver runs (`liveCfg`) is the one the sources show: `minTime()` and the
    repaired `partition` (round down to the request's grid in matching-step mode), i.e. both flags `true` -/
theorem C42_fact_variant :
    liveCfg = ⟨true, true⟩ ∧
    Thanos.Facts.minTimeBody =
      ["minTs := int64(-1)",
       "update := func(ts int64) { if minTs == -1 { minTs = ts return } minTs = minInt64(minTs, ts) }",
       "for _, stream := range resp.Data.Result {",
       "if len(stream.Samples) > 0 {",
       "update(stream.Samples[0].TimestampMs)",
       "}",
       "if len(stream.Histograms) > 0 {",
       "update(stream.Histograms[0].Timestamp)",
       "}",
       "}",
       "return minTs"] ∧
    Thanos.Facts.partitionBody =
      ["var requests []Request",
       "var cachedResponses []Response",
       "start := req.GetStart()",
       "for _, extent := range extents {",
       "if extent.GetEnd() < start || extent.Start > req.GetEnd() {",
       "continue",
       "}",
       "if (req.GetStart() != req.GetEnd()) && (req.GetEnd()-req.GetStart() > s.minCacheExtent) && (extent.End-extent.Start < s.minCacheExtent) {",
       "continue",
       "}",
       "if start < extent.Start {",
       "r := req.WithStartEnd(start, extent.Start)",
       "requests = append(requests, r)",
       "}",
       "res, err := extent.toResponse()",
       "if err != nil {",
       "return nil, nil, err",
       "}",
       "cachedResponses = append(cachedResponses, s.extract(req, start, req.GetEnd(), res, stepExtraction))",
       "start = extent.End",
       "if stepExtraction == extractMatchingStep && req.GetStep() > 0 {",
       "start -= (start - req.GetStart()) % req.GetStep()",
       "}",
       "}",
       "if start < req.GetEnd() {",
       "r := req.WithStartEnd(start, req.GetEnd())",
       "requests = append(requests, r)",
       "}",
       "if req.GetStart() == req.GetEnd() && len(cachedResponses) == 0 {",
       "requests = append(requests, req)",
       "}",
       "return requests, cachedResponses, nil"] :=
  ⟨rfl, rfl, rfl⟩

theorem C42_fact_merge :
    Thanos.Facts.sliceSamplesBody =
      ["if len(samples) <= 0 || minTs < samples[0].TimestampMs {",
       "return samples",
       "}",
       "if len(samples) > 0 && minTs > samples[len(samples)-1].TimestampMs {",
       "return samples[len(samples):]",
       "}",
       "searchResult := sort.Search(len(samples), func(i int) bool { return samples[i].TimestampMs > minTs })",
       "return samples[searchResult:]"] ∧
    Thanos.Facts.atStepBody =
      ["if ts < start || ts > end {",
       "return false",
       "}",
       "return step <= 0 || (ts-start)%step == 0"] ∧
    Thanos.Facts.extentMergeConds =
      ["if accumulator.End+r.GetStep() < extents[i].Start {",
       "if accumulator.End >= extents[i].End {",
       "accumulator.End = extents[i].End"] :=
  ⟨rfl, rfl, rfl⟩

/-- StepAlign comes before SplitByInterval, the cache after both; the lower-step candidates are
    the common steps below the request's step that divide it, kept when they divide the start -/
theorem C42_fact_chain :
    Thanos.Facts.rangeMiddlewareOrder =
      ["NewLimitsMiddleware",
       "StepAlignMiddleware",
       "DownsampledMiddleware",
       "SplitByIntervalMiddleware",
       "PromQLShardingMiddleware",
       "NewResultsCacheMiddleware",
       "NewRetryMiddleware"] ∧
    Thanos.Facts.commonQueryStepsDecl =
      "[]int64{ (12 * time.Hour).Milliseconds(), (6 * time.Hour).Milliseconds(), (3 * time.Hour).Milliseconds(), (2 * time.Hour).Milliseconds(), time.Hour.Milliseconds(), (30 * time.Minute).Milliseconds(), (15 * time.Minute).Milliseconds(), (10 * time.Minute).Milliseconds(), (5 * time.Minute).Milliseconds(), (2 * time.Minute).Milliseconds(), time.Minute.Milliseconds(), (30 * time.Second).Milliseconds(), (20 * time.Second).Milliseconds(), (15 * time.Second).Milliseconds(), (10 * time.Second).Milliseconds(), (5 * time.Second).Milliseconds(), time.Second.Milliseconds(), }" ∧
    Thanos.Facts.lowerStepCandidatesBody =
      ["if !isCommonQueryStep(step) {",
       "return nil",
       "}",
       "candidates := make([]int64, 0, len(commonQuerySteps))",
       "for _, candidate := range commonQuerySteps {",
       "if candidate >= step || step%candidate != 0 {",
       "continue",
       "}",
       "candidates = append(candidates, candidate)",
       "}",
       "return candidates"] ∧
    Thanos.Facts.altKeysStepLines =
      ["steps := lowerStepCacheCandidates(tr.Step)",
       "if len(steps) == 0 {",
       "keys := make([]string, 0, len(steps))",
       "for _, step := range steps {",
       "if tr.Start%step != 0 {",
       "keys = append(keys, t.generateQueryRangeCacheKey(userID, tr, step, splitInterval, currentInterval))"] :=
  ⟨rfl, rfl, rfl, rfl⟩

/-- the run-time rules read as modelled by `Env`: the fresh-zone bypass `r.GetStart() > maxCacheTime`,
    write-back only after a primary hit or a miss, `filterRecentExtents` before `put`, and where
    `shouldCacheResponse` is consulted -/
theorem C42_fact_freshness :
    Thanos.Facts.doFreshnessLines =
      ["var ( key = s.splitter.GenerateCacheKey(tenant.JoinTenantIDs(tenantIDs), r) extents []Extent response Response writeBack = true )",
       "maxCacheTime := int64(model.Now().Add(-maxCacheFreshness))",
       "if r.GetStart() > maxCacheTime {",
       "response, extents, err = s.handleHit(ctx, r, cached, maxCacheTime, extractAnyStep)",
       "response, extents, err = s.handleHit(ctx, r, cached, maxCacheTime, extractMatchingStep)",
       "writeBack = false",
       "response, extents, err = s.handleMiss(ctx, r, maxCacheTime)",
       "if err == nil && writeBack && len(extents) > 0 {",
       "extents, err := s.filterRecentExtents(r, maxCacheFreshness, extents)",
       "s.put(ctx, key, extents)"] ∧
    Thanos.Facts.filterRecentBody =
      ["maxCacheTime := (int64(model.Now().Add(-maxCacheFreshness)) / req.GetStep()) * req.GetStep()",
       "for i := range extents {",
       "if extents[i].End > maxCacheTime {",
       "extents[i].End = maxCacheTime",
       "res, err := extents[i].toResponse()",
       "if err != nil {",
       "return nil, err",
       "}",
       "extracted := s.extractor.Extract(extents[i].Start, maxCacheTime, res)",
       "any, err := types.MarshalAny(extracted)",
       "if err != nil {",
       "return nil, err",
       "}",
       "extents[i].Response = any",
       "}",
       "}",
       "return extents, nil"] ∧
    Thanos.Facts.shouldCacheResponseUses =
      ["handleMiss: if !s.shouldCacheResponse(ctx, r, response, maxCacheTime) {",
       "handleHit: if !s.shouldCacheResponse(ctx, r, reqResp.Response, maxCacheTime) {"] :=
  ⟨rfl, rfl, rfl⟩

end Thanos.ResultsCache
