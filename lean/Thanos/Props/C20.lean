import Thanos.Model.Hashring
import Thanos.Lemmas.Hashring
import Thanos.Lemmas.HashringBuild
import Thanos.Lemmas.HashringWalk
import Thanos.Lemmas.HashringPerm
import Thanos.Generated.Facts
/-
  C20 — Adding a node to a ketama ring only moves series onto the new node.

  Setting: ketama without availability zones (at most one configured zone, so the zone rule of
  the replica loop is off).  `ring'` is the ring after adding endpoint `x`; the ring before is
  `without x ring'` — the same hash-sorted sections minus those of `x` (the hashes of the other
  endpoints' sections depend on their addresses only).  A series is its hash `v`.
  `C20_add_node_zones` (with `C20_add_node`, `C20_only_onto_new`) is the claim for any hash-sorted ring: both lookups
  are scans `pick` (`replicasOfSeries_single`), and removing the sections of `x` commutes with the scan
  (Lemmas/HashringWalk.lean).  `C20_add_endpoint` is the claim for configured endpoint lists without hash ties
  (`mkRing_eraseIdx`, Lemmas/HashringPerm.lean).  `getN_replicasOfSeries` (Lemmas/HashringBuild.lean) connects
  `replicasOfSeries` with what `GetN` answers on a built ring.
-/
namespace Thanos.Hashring

/-- **C20.**  Adding endpoint `x` to a zone-less ketama ring: for every series hash, every
    replication factor and every sorted ring on which both lookups answer, the replicas after
    the addition are — apart from `x` itself — a prefix of the replicas before (same nodes, same
    order), and when `x` is not among them nothing changes at all.  (A zone list of length ≤ 1 has
    no influence, so the two rings may come with different ones: `C20_add_endpoint` needs that.) -/
theorem C20_add_node_zones (lc : Bool) (ring' : List Sec) (zones zones0 : List Nat) (rf v x : Nat)
    (hz : zones.length ≤ 1) (hz0 : zones0.length ≤ 1) (hs : SortedRing ring') (reps reps' : List Nat)
    (hafter : replicasOfSeries lc ring' zones rf v = .ok reps')
    (hbefore : replicasOfSeries lc (without x ring') zones0 rf v = .ok reps) :
    reps'.filter (· != x) <+: reps ∧ (x ∉ reps' → reps' = reps) := by
  have e' := replicasOfSeries_single lc ring' zones rf v hz reps' hafter
  have e := replicasOfSeries_single lc (without x ring') zones0 rf v hz0 reps hbefore
  rw [pick_searchSuffix_without rf x v ring' hs] at e
  constructor
  · have hp := pick_without_prefix rf x (searchSuffix v ring' ++ ring') []
    have hmap : reps'.filter (· != x) = (without x (pick rf (searchSuffix v ring' ++ ring') [])).map (·.ep) := by
      rw [e']; simp [without, List.filter_map, Function.comp_def]
    rw [hmap, e]
    simp only [without, List.filter_nil] at hp ⊢
    exact List.IsPrefix.map _ hp
  · intro hx
    have ht : taken (pick rf (searchSuffix v ring' ++ ring') []) x = false := by
      rw [taken_false_iff, ← e']; exact hx
    rw [e', e, ← pick_without_eq rf x _ [] ht]

theorem C20_add_node (lc : Bool) (ring' : List Sec) (zones : List Nat) (rf v x : Nat)
    (hz : zones.length ≤ 1) (hs : SortedRing ring') (reps reps' : List Nat)
    (hafter : replicasOfSeries lc ring' zones rf v = .ok reps')
    (hbefore : replicasOfSeries lc (without x ring') zones rf v = .ok reps) :
    reps'.filter (· != x) <+: reps ∧ (x ∉ reps' → reps' = reps) :=
  C20_add_node_zones lc ring' zones zones rf v x hz hz hs reps reps' hafter hbefore

/-- Consequence in the words of the property: every replica after the addition is the new
    endpoint or was a replica of the series before; series never move between old nodes. -/
theorem C20_only_onto_new (lc : Bool) (ring' : List Sec) (zones : List Nat) (rf v x : Nat)
    (hz : zones.length ≤ 1) (hs : SortedRing ring') (reps reps' : List Nat)
    (hafter : replicasOfSeries lc ring' zones rf v = .ok reps')
    (hbefore : replicasOfSeries lc (without x ring') zones rf v = .ok reps) :
    ∀ e ∈ reps', e = x ∨ e ∈ reps := by
  intro e he
  by_cases hx : e = x
  · exact Or.inl hx
  · right
    have hp := (C20_add_node lc ring' zones rf v x hz hs reps reps' hafter hbefore).1
    apply hp.subset
    simp [List.mem_filter, he, hx]

theorem zonesOf_eraseIdx_length (eps : List Ep) (pos : Nat) (hz : (zonesOf eps).length ≤ 1) :
    (zonesOf (eps.eraseIdx pos)).length ≤ 1 :=
  Nat.le_trans ((nodup_dedup _).length_le_of_subset fun _ hzm =>
    (mem_zonesOf.mp hzm).elim fun e he => mem_zonesOf.mpr ⟨e, (List.eraseIdx_sublist eps pos).subset he.1, he.2⟩) hz

/-- **C20 for endpoint lists.**  `eps` is the configured endpoint list after the addition, the
    new endpoint at position `pos`; the list before is `eps.eraseIdx pos`, whose positions are
    translated into positions of `eps` by `up` (positions from `pos` on move up by one — Go
    renumbers `endpointIndex` by list position).  Without zones and without hash ties, for every
    series hash and rf: apart from the new endpoint the replicas after the addition are a prefix
    of the replicas before, and identical when the new endpoint is not among them. -/
theorem C20_add_endpoint (lc : Bool) (eps : List Ep) (pos rf v : Nat) (hnt : NoTies eps)
    (hz : (zonesOf eps).length ≤ 1) (reps reps' : List Nat)
    (hafter : replicasOfSeries lc (mkRing eps) (zonesOf eps) rf v = .ok reps')
    (hbefore : replicasOfSeries lc (mkRing (eps.eraseIdx pos)) (zonesOf (eps.eraseIdx pos)) rf v = .ok reps) :
    reps'.filter (· != pos) <+: reps.map (up eps.length pos) ∧
      (pos ∉ reps' → reps' = reps.map (up eps.length pos)) := by
  -- the ring before, renamed into the numbering of `eps`
  have hren : replicasOfSeries lc (without pos (mkRing eps)) (zonesOf (eps.eraseIdx pos)) rf v =
      .ok (reps.map (up eps.length pos)) := by
    rw [← mkRing_eraseIdx eps pos hnt, replicasOfSeries_ren lc (injOn_up eps pos), hbefore]
    rfl
  exact C20_add_node_zones lc (mkRing eps) (zonesOf eps) (zonesOf (eps.eraseIdx pos)) rf v pos hz
    (zonesOf_eraseIdx_length eps pos hz) (mkRing_sorted eps) _ reps' hafter hren

-- the search of GetN: the same fact as for C18

theorem C20_fact_getn :
    Thanos.Facts.ketamaGetN = ["c.sections[i].hash >= v", "i == numSections", "c.sections[i].replicas[n]"] := rfl

/-- the hash of a section depends on the endpoint's address and the section number only, so the
    old sections keep their hashes when an endpoint is added -/
theorem C20_fact_section_hash : Thanos.Facts.ketamaSectionHashInput = "[]byte(endpoint.Address + \":\" + strconv.Itoa(i))" := rfl

-- non-vacuity: endpoint 2 is added between the sections of 0 and 1; a series that hashes in
-- front of the new section moves one replica onto it, a series elsewhere is untouched
example : replicasOfSeries true [⟨10, 0, 0⟩, ⟨20, 2, 0⟩, ⟨30, 1, 0⟩, ⟨40, 3, 0⟩] [0] 2 15 = .ok [2, 1] := rfl
example : replicasOfSeries true (without 2 [⟨10, 0, 0⟩, ⟨20, 2, 0⟩, ⟨30, 1, 0⟩, ⟨40, 3, 0⟩]) [0] 2 15 = .ok [1, 3] := rfl
example : replicasOfSeries true [⟨10, 0, 0⟩, ⟨20, 2, 0⟩, ⟨30, 1, 0⟩, ⟨40, 3, 0⟩] [0] 2 35 = .ok [3, 0] := rfl
example : replicasOfSeries true (without 2 [⟨10, 0, 0⟩, ⟨20, 2, 0⟩, ⟨30, 1, 0⟩, ⟨40, 3, 0⟩]) [0] 2 35 = .ok [3, 0] := rfl
example : SortedRing [⟨10, 0, 0⟩, ⟨20, 2, 0⟩, ⟨30, 1, 0⟩, ⟨40, 3, 0⟩] := by unfold SortedRing; decide
-- C20_add_endpoint: three zone-less endpoints, the one at list position 1 is the new one
example : NoTies [⟨0, [10, 50]⟩, ⟨0, [20]⟩, ⟨0, [30, 5]⟩] ∧ (zonesOf [⟨0, [10, 50]⟩, ⟨0, [20]⟩, ⟨0, [30, 5]⟩]).length ≤ 1 := by
  unfold NoTies; decide
example : ([⟨0, [10, 50]⟩, ⟨0, [20]⟩, ⟨0, [30, 5]⟩] : List Ep).eraseIdx 1 = [⟨0, [10, 50]⟩, ⟨0, [30, 5]⟩] ∧
    (List.range 2).map (up 3 1) = [0, 2] := by decide

end Thanos.Hashring
