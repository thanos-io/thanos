import Thanos.Model.Capnp
import Thanos.Lemmas.Capnp
import Thanos.Lemmas.CapnpOrder
import Thanos.Generated.Facts
/-
  C25 — Cap'n Proto replication encoding is lossless.

  "Encoding a multi-tenant write request for Cap'n Proto replication and decoding it on the peer
  yields, per tenant, the same series with the same labels, float samples, native histograms and
  exemplars."

  "The same" is measured against the protobuf replication path: what `Writer.Write` hands to the
  appender for a prompb.TimeSeries (labels, samples and exemplars as they are; histograms through
  prompb.HistogramProtoToHistogram / FloatHistogramProtoToFloatHistogram): `expect`, at the head of
  Lemmas/Capnp with `ReqOK`, the requests that round-trip.
-/
namespace Thanos.Capnp

/-- C25 at full strength: every request round-trips to what the protobuf path delivers -/
def C25_full (strict : Bool) : Prop :=
  ∀ (req : List (Str × List PSeries)), decode strict (encode req) = .ok (expect req)

/-- interning: whatever sequence of strings is added (shared or distinct, empty, of any byte
    length), the decoder's table holds each added string at the index `AddEntry` returned, also
    after any number of later additions -/
theorem intern_index (b : Builder) (h : WF b) (s : Str) (later : List Str) :
    let b1 := (addEntry b s).1
    let bN := later.foldl (fun b x => (addEntry b x).1) b1
    (decodeSymbols (marshalSymbols bN).1 (marshalSymbols bN).2)[(addEntry b s).2]? = some s := by
  intro b1 bN
  have ⟨x1, g1⟩ := addEntry_spec b s h
  have xN := adds_ext later b1 x1.1
  rw [decode_marshal_symbols bN xN.1, ← List.append_nil (syms bN)]
  exact g1.of_ext xN []

/-- `marshalSymbols` ranges over a Go map: for **every** order in which the runtime may visit the
    entries (every permutation), the loop writes the same offsets and the same data buffer
    (`marshalSymbols_any_order`: so for every well-formed table). -/
theorem C25_symbols_any_order (ss : List Str) (order : List Entry) :
    let b := ss.foldl (fun b x => (addEntry b x).1) Builder.empty
    order.Perm b.entries → marshalSymbolsIn order b.entries.length b.size = marshalSymbols b :=
  fun hp => marshalSymbols_any_order _ (adds_ext ss _ wf_empty).1 order hp

/-- **The round trip.**  For every multi-tenant request — any number of tenants and series, any
    label strings, samples and exemplars, and native histograms that are `histOK` (no custom
    bucket values; for the strict decoder also count and zero count of one kind), empty lists
    included — decoding the encoded request gives, per tenant, exactly the series the protobuf
    path delivers. -/
theorem C25_roundtrip (strict : Bool) (req : List (Str × List PSeries)) (hok : ReqOK strict req) :
    decode strict (encode req) = .ok (expect req) := by
  obtain ⟨x, g⟩ := marshalTenants_spec strict req Builder.empty wf_empty hok
  simp only [decode, encode]
  rw [decode_marshal_symbols _ x.1, ← List.append_nil (syms _)]
  exact g []

/-- the code as it is: everything but custom bucket values round-trips -/
theorem C25_partial (req : List (Str × List PSeries))
    (hok : ∀ t, t ∈ req → ∀ s, s ∈ t.2 → ∀ h, h ∈ s.hists → h.customValues = []) :
    decode codeStrictUnion (encode req) = .ok (expect req) :=
  C25_roundtrip false req (fun t ht s hs h hh => by simp [histOK, hok t ht s hs h hh])

private def customReq : List (Str × List PSeries) :=
  [([116], [⟨[], [], [⟨.int 5, 1, -53, 0, .int 0, [], [], [], [⟨1, 1⟩], [], [7], 1, 5, [9, 8]⟩], []⟩])]

private def mixedReq : List (Str × List PSeries) :=
  [([116], [⟨[], [], [⟨.float 5, 1, 3, 0, .int 0, [], [], [], [⟨1, 1⟩], [], [7], 1, 5, []⟩], []⟩])]

/-- **Custom bucket values are lost** (F25): the schema has no field for them. -/
theorem C25_custom_values_lost :
    decode codeStrictUnion (encode customReq) =
      .ok [([116], [⟨[], [], [.int 1 5 1 (-53) 0 0 [⟨1, 1⟩] [] [] [] [] 5], []⟩])] := rfl

/-- hence C25 at full strength is false of the code as it is -/
theorem C25_full_false : ¬ C25_full codeStrictUnion := fun h =>
  absurd (Except.ok.inj (C25_custom_values_lost.symm.trans (h customReq))) (by decide)

/-- With the bare generated accessors (`strict = true`) a float histogram whose zero count is not a
    float makes the peer's decoder panic (`Which() != zeroCountFloat`), while the protobuf path
    reads a zero count of 0; the decoder that tests the member first (`strict = false`, the code
    as it is) agrees with the protobuf path. -/
theorem C25_mixed_kinds_strict_fail : decode true (encode mixedReq) = .error .wrongUnionMember := rfl

theorem C25_mixed_kinds_fixed : decode false (encode mixedReq) = .ok (expect mixedReq) := rfl

/-- Regenerated obligation: the capnp Histogram struct has every field of prompb.Histogram except
    `CustomValues` (the known finding F25: adding the field needs the capnp compiler), and
    `marshalHistogram` sets every member of it. -/
theorem C25_fields_fact :
    (Thanos.Facts.v1MessageFields.filter fun f =>
        (f == "Histogram.Count" || f == "Histogram.CustomValues" || f == "Histogram.NegativeCounts" ||
         f == "Histogram.NegativeDeltas" || f == "Histogram.NegativeSpans" || f == "Histogram.PositiveCounts" ||
         f == "Histogram.PositiveDeltas" || f == "Histogram.PositiveSpans" || f == "Histogram.ResetHint" ||
         f == "Histogram.Schema" || f == "Histogram.Sum" || f == "Histogram.Timestamp" ||
         f == "Histogram.ZeroCount" || f == "Histogram.ZeroThreshold") &&
        !Thanos.Facts.capnpHistogramFields.contains f) = ["Histogram.CustomValues"] ∧
    Thanos.Facts.capnpMarshalHistogramSets =
      ["CountFloat", "CountInt", "NegativeCounts", "NegativeDeltas", "NegativeSpans", "PositiveCounts",
       "PositiveDeltas", "PositiveSpans", "ResetHint", "Schema", "Sum", "Timestamp", "ZeroCountFloat",
       "ZeroCountInt", "ZeroThreshold"] :=
  ⟨by decide +kernel, rfl⟩

/-- the two ways of reading the zero count: helpers that test the union member first, or the bare
    generated accessors -/
def strictOfFact : List String → Option Bool
  | ["zeroCountInt(src)", "zeroCountFloat(src)"] => some false
  | ["src.ZeroCount().ZeroCountInt()", "src.ZeroCount().ZeroCountFloat()"] => some true
  | _ => none

/-- Regenerated obligation: the zero count is read through the helpers that test the member
    first (`zeroCountInt`, `zeroCountFloat`), not through the bare generated accessors. -/
theorem C25_union_fact : strictOfFact Thanos.Facts.capnpReadZeroCount = some codeStrictUnion := by decide +kernel

private def exReq : List (Str × List PSeries) :=
  [([116, 49], [⟨[([97], [98]), ([99], [97])], [(7, 1000)],
      [⟨.int 3, 1, -2, 0, .int 0, [], [], [], [⟨1, 2⟩, ⟨-1, 1⟩], [1, 2], [], 0, 1000, []⟩],
      [⟨[([97], [100])], 9, 5⟩]⟩]),
   ([], [⟨[([98], [])], [], [⟨.float 5, 1, 3, 0, .float 0, [], [], [], [⟨1, 1⟩], [], [7], 1, 5, []⟩], []⟩])]

example : ReqOK true exReq := by
  unfold ReqOK
  decide

example : (encode exReq).offsets = [1, 2, 3, 4, 4] ∧ (encode exReq).data = [97, 98, 99, 100] := by decide
example : decode codeStrictUnion (encode exReq) = .ok (expect exReq) := rfl

end Thanos.Capnp
