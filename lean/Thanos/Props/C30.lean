import Thanos.Model.Planner
import Thanos.Lemmas.Planner
import Thanos.Lemmas.PlannerLoops
import Thanos.Generated.Facts
/-
  C30 — Compaction planning is safe and converges.

  "A compaction plan names blocks of one group that are at least two (or a single block with many
   tombstones), never includes blocks marked no-compact, and, for non-overlapping aligned blocks,
   never includes the newest block and always fits into one configured time range.  Repeatedly
   planning and applying plans ends after finitely many steps with non-overlapping blocks no longer
   than the largest range."

  The model (`Model/Planner.lean`) transliterates pkg/compact/planner.go.  `plan … = some r` means
  the Go code returns the plan `r`; `none` is a Go panic (no blocks, no ranges, a zero range).

  The clauses about one plan are read off `plan_branches` (Lemmas/Planner, which also defines `NonOverlapping` and
  `TombstonePlan`).  The clauses about the loops around `plan` (`iterate`, `sizePlan`, `vertPlan`) are the theorems of
  Lemmas/PlannerLoops, which hold for any fuel and loop state, at the fuel the bound on the rounds gives and the state a
  call starts in; the last clause is `iterate_good` there (`Good` is what it promises).
-/
namespace Thanos.Planner

/-! ## Clause 1–3: what a plan consists of (all inputs, overlapping or not) -/

/-- C30, clause "blocks of one group": every planned block is one of the given blocks (in the
    given order, none twice) -/
theorem C30_subset (ranges : List Int) (excl : Excl) (ms r : List Meta)
    (h : plan ranges excl ms = some r) : r.Sublist ms := (plan_spec h).1

/-- C30, clause "never includes blocks marked no-compact" -/
theorem C30_no_excluded (ranges : List Int) (excl : Excl) (ms r : List Meta)
    (h : plan ranges excl ms = some r) : ∀ b ∈ r, excl b.id = false := (plan_spec h).2.1

/-- C30, clause "at least two, or a single block with many tombstones" -/
theorem C30_size (ranges : List Int) (excl : Excl) (ms r : List Meta)
    (h : plan ranges excl ms = some r) (hne : r ≠ []) : 2 ≤ r.length ∨ TombstonePlan ranges r :=
  (plan_spec h).2.2.resolve_left hne

/-! ## Clauses 4–5: non-overlapping groups -/

/-- C30, clause "never includes the newest block" — for every non-overlapping group (aligned or
    not, with or without no-compact marks): the plan is drawn from the blocks before the newest. -/
theorem C30_newest (ranges : List Int) (excl : Excl) (ms r : List Meta)
    (hno : NonOverlapping ms) (h : plan ranges excl ms = some r) : r.Sublist ms.dropLast :=
  (plan_infix (selectOverlapping_notExcluded_nil excl hno) h).sublist

/-- C30, clause "always fits into one configured time range" — stronger than stated (`plan_one_range`): alignment of
    the input is not needed, only that the planner did not take the overlap branch (which holds for every
    non-overlapping group, see `C30_one_range_nonOverlapping`). -/
theorem C30_one_range (ranges : List Int) (excl : Excl) (ms r : List Meta)
    (hpos : ∀ iv ∈ ranges.tail, 0 < iv) (hs : SortedByMin ms)
    (hov : selectOverlapping (notExcluded excl ms) = [])
    (h : plan ranges excl ms = some r) (h2 : 2 ≤ r.length) :
    ∃ iv ∈ ranges.tail, ∃ k : Int, ∀ b ∈ r, iv * k ≤ b.min ∧ b.max ≤ iv * k + iv :=
  plan_one_range hpos hs hov h h2

theorem C30_one_range_nonOverlapping (ranges : List Int) (excl : Excl) (ms r : List Meta)
    (hpos : ∀ iv ∈ ranges.tail, 0 < iv) (hs : SortedByMin ms) (hno : NonOverlapping ms)
    (h : plan ranges excl ms = some r) (h2 : 2 ≤ r.length) :
    ∃ iv ∈ ranges.tail, ∃ k : Int, ∀ b ∈ r, iv * k ≤ b.min ∧ b.max ≤ iv * k + iv :=
  C30_one_range ranges excl ms r hpos hs (selectOverlapping_notExcluded_nil excl hno) h h2

/-- C30, "repeatedly planning and applying plans ends after finitely many steps": for every group (overlapping or
    not, any marks, any ranges) the loop ends — in a fixpoint, or the panic of `plan` — within 2·n rounds
    (`iterate_terminates`: within `|blocks| + |blocks with many tombstones|`). -/
theorem C30_terminates (ranges : List Int) (excl : Excl) (newId : Nat) (ms : List Meta) :
    outOfFuel (iterate ranges excl (2 * ms.length + 1) newId ms) = false := by
  apply iterate_terminates
  have := List.countP_le_length (p := manyTombstones) (l := ms)
  unfold measure
  omega

/-! ## The two wrapping planners -/

/-- C30 "never includes blocks marked no-compact" for the planner as configured with vertical
    compaction: nothing returned is marked, before or by the call. -/
theorem C30_vert_no_marked (ranges : List Int) (limit : Int) (base : Excl) (ms p : List Meta) (mk : List Nat)
    (h : vertPlan true ranges limit base (ms.length + 1) [] [] ms = .ok p mk) :
    ∀ b ∈ p, base b.id = false ∧ b.id ∉ mk :=
  vertPlan_spec rfl h

def vertWitness : List Meta :=
  [ { id := 1, min := 0,  max := 20,  failed := false, tomb := 0, series := 0, isize := 10,  res := 300000 },
    { id := 2, min := 20, max := 40,  failed := false, tomb := 0, series := 0, isize := 100, res := 300000 },
    { id := 3, min := 25, max := 35,  failed := false, tomb := 0, series := 0, isize := 10,  res := 300000 },
    { id := 4, min := 30, max := 38,  failed := false, tomb := 0, series := 0, isize := 10,  res := 300000 },
    { id := 5, min := 60, max := 80,  failed := false, tomb := 0, series := 0, isize := 10,  res := 300000 },
    { id := 6, min := 80, max := 100, failed := false, tomb := 0, series := 0, isize := 10,  res := 300000 } ]

/-- The loop as originally written (`carry = false`) forgot the size filter's marks between rounds:
    block 2 is marked in round 1 and planned in round 2. -/
theorem C30_vert_forget_false :
    ¬ (∀ (ranges : List Int) (limit : Int) (base : Excl) (ms p : List Meta) (mk : List Nat),
        vertPlan false ranges limit base (ms.length + 1) [] [] ms = .ok p mk → ∀ b ∈ p, b.id ∉ mk) := by
  intro h
  have := h [20, 60] 115 (fun _ => false) vertWitness (vertWitness.take 2) [2, 3, 4] (by decide +kernel)
    (vertWitness[1]) (by decide +kernel)
  revert this
  decide +kernel

/-- on the same input the repaired loop returns no plan at all -/
example : vertPlan true [20, 60] 115 (fun _ => false) (vertWitness.length + 1) [] [] vertWitness = .ok [] [2, 3, 4] := by
  decide +kernel

/-- the loop of `largeTotalIndexSizeFilter.plan` ends after at most one round per block of the group
    (`sizePlan_terminates`: every round excludes one more) -/
theorem filter_loop_terminates (ranges : List Int) (limit : Int) (excl : Excl) (marked : List Nat) (ms : List Meta) :
    sizeOutOfFuel (sizePlan ranges limit (ms.length + 1) excl marked ms) = false :=
  sizePlan_terminates (Nat.lt_succ_of_le List.countP_le_length)

theorem C30_vert_terminates (carry : Bool) (ranges : List Int) (limit : Int) (base : Excl) (ms : List Meta) :
    sizeOutOfFuel (vertPlan carry ranges limit base (ms.length + 1) [] [] ms) = false :=
  vert_loop_terminates (Nat.lt_succ_of_le List.countP_le_length)

/-! ## The last clause as literally stated is false: F30 -/

/-- "…ends with non-overlapping blocks no longer than the largest range", for every group sorted by
    min time — the statement at full strength. -/
def C30_final_full : Prop :=
  ∀ (ranges : List Int) (excl : Excl) (ms final : List Meta) (fuel newId : Nat),
    ms.Pairwise (fun a b => a.min ≤ b.min) →
    finalOf (iterate ranges excl fuel newId ms) = some final →
    NonOverlapping final ∧ ∀ b ∈ final, b.max - b.min ≤ maxRange ranges

def f30Blocks : List Meta :=
  [ { id := 1, min := 0,   max := 100, failed := false, tomb := 0, series := 0, isize := 1, res := 0 },
    { id := 2, min := 50,  max := 150, failed := false, tomb := 0, series := 0, isize := 1, res := 0 },
    { id := 3, min := 300, max := 400, failed := false, tomb := 0, series := 0, isize := 1, res := 0 } ]

/-- F30: with the configured range [100], the overlapping blocks [0,100) and [50,150) are merged
    into [0,150), longer than the largest range: merging overlapping blocks necessarily spans
    their union. -/
theorem C30_final_full_false : ¬ C30_final_full := by
  intro h
  have := h [100] (fun _ => false) f30Blocks
    [ { id := 7, min := 0, max := 150, failed := false, tomb := 0, series := 0, isize := 0, res := 0 },
      { id := 3, min := 300, max := 400, failed := false, tomb := 0, series := 0, isize := 1, res := 0 } ]
    5 7 (by decide) (by decide)
  have h2 := this.2 { id := 7, min := 0, max := 150, failed := false, tomb := 0, series := 0, isize := 0, res := 0 } (by simp)
  revert h2
  decide

/-- the second way the literal clause fails: a no-compact block that overlaps another block is
    never planned, so the overlap stays -/
theorem C30_final_overlap_excluded :
    finalOf (iterate [100, 300] (fun i => i = 2) 5 7 f30Blocks) = some f30Blocks ∧ ¬ NonOverlapping f30Blocks := by
  decide

/-! ## The last clause where it does hold: non-overlapping inputs -/

/-- C30, last clause: a group of non-overlapping proper blocks none of which is longer
    than the largest range ends — whatever no-compact marks, failed compactions, tombstones, alignment —
    with non-overlapping blocks no longer than the largest range. -/
theorem C30_final_partial (ranges : List Int) (excl : Excl) (ms final : List Meta) (fuel newId : Nat)
    (hpos : ∀ iv ∈ ranges.tail, 0 < iv)
    (hno : NonOverlapping ms) (hwf : ∀ b ∈ ms, b.min < b.max) (hshort : ∀ b ∈ ms, b.max - b.min ≤ maxRange ranges)
    (h : finalOf (iterate ranges excl fuel newId ms) = some final) :
    NonOverlapping final ∧ ∀ b ∈ final, b.max - b.min ≤ maxRange ranges := by
  have := iterate_good hpos ⟨hno, hwf, hshort⟩ h
  exact ⟨this.nonOverlap, this.short⟩

/-! non-vacuity -/
example : plan [20, 60, 180] (fun _ => false)
    [ { id := 1, min := 0,  max := 20, failed := false, tomb := 0, series := 0, isize := 1, res := 0 },
      { id := 2, min := 20, max := 40, failed := false, tomb := 0, series := 0, isize := 1, res := 0 },
      { id := 3, min := 40, max := 60, failed := false, tomb := 0, series := 0, isize := 1, res := 0 },
      { id := 4, min := 60, max := 80, failed := false, tomb := 0, series := 0, isize := 1, res := 0 } ]
    = some
    [ { id := 1, min := 0,  max := 20, failed := false, tomb := 0, series := 0, isize := 1, res := 0 },
      { id := 2, min := 20, max := 40, failed := false, tomb := 0, series := 0, isize := 1, res := 0 },
      { id := 3, min := 40, max := 60, failed := false, tomb := 0, series := 0, isize := 1, res := 0 } ] := by decide

example : NonOverlapping f30Blocks.tail := by decide
example : plan [100] (fun _ => false) f30Blocks = some (f30Blocks.take 2) := by decide
-- a single-block (tombstone) plan exists
example : plan [20, 60] (fun _ => false)
    [ { id := 1, min := 0,  max := 60, failed := false, tomb := 9, series := 100, isize := 1, res := 0 },
      { id := 2, min := 60, max := 80, failed := false, tomb := 0, series := 0, isize := 1, res := 0 } ]
    = some [ { id := 1, min := 0,  max := 60, failed := false, tomb := 9, series := 100, isize := 1, res := 0 } ] := by decide

/-! non-vacuity of the partial theorem: a good group that takes two rounds (a range plan, then nothing) -/
example : let ms : List Meta :=
    [ { id := 1, min := -40, max := -20, failed := false, tomb := 0, series := 0, isize := 1, res := 0 },
      { id := 2, min := -20, max := 0,  failed := false, tomb := 0, series := 0, isize := 1, res := 0 },
      { id := 3, min := 0,   max := 20, failed := false, tomb := 0, series := 0, isize := 1, res := 0 },
      { id := 4, min := 60,  max := 80, failed := false, tomb := 0, series := 0, isize := 1, res := 0 } ]
    NonOverlapping ms ∧ (∀ b ∈ ms, b.min < b.max) ∧ (∀ b ∈ ms, b.max - b.min ≤ maxRange [20, 60]) ∧
    (finalOf (iterate [20, 60] (fun _ => false) 9 7 ms)).map (fun f => f.map (fun b => (b.id, b.min, b.max)))
      = some [(7, -40, 0), (3, 0, 20), (4, 60, 80)] := by decide +kernel

/-! ## Regenerated facts: the conditions of planner.go the model transliterates -/

/-- `manyTombstones` is this test (exact for counts below 2^40) and `tombScan`'s length test -/
theorem C30_fact_tombstone :
    Thanos.Facts.plannerTombstoneCond = "float64(meta.Stats.NumTombstones)/float64(meta.Stats.NumSeries+1) > 0.05" ∧
    Thanos.Facts.plannerTombstoneMinRange = "meta.MaxTime-meta.MinTime < p.ranges[len(p.ranges)/2]" := ⟨rfl, rfl⟩

/-- `plan` looks for overlaps first, then for a range -/
theorem C30_fact_order : Thanos.Facts.plannerPlanCalls = ["selectOverlappingMetas", "selectMetas"] := rfl

/-- the tests of `pickPart`, `overlapGo`, `split`/`rangeStart` -/
theorem C30_fact_select :
    Thanos.Facts.plannerSelectFreshCond = "maxt-mint != iv && maxt > highTime" ∧
    Thanos.Facts.plannerSelectFailedCond = "m.Compaction.Failed" ∧
    Thanos.Facts.plannerOverlapCond = "m.MinTime < globalMaxt" ∧
    Thanos.Facts.plannerSplitFitCond = "m.MaxTime > t0+tr" ∧
    Thanos.Facts.plannerSplitSignCond = "m.MinTime >= 0" := ⟨rfl, rfl, rfl, rfl, rfl⟩

/-- the tests of `sizeScan` and `vertPlan` -/
theorem C30_fact_filters :
    Thanos.Facts.plannerSizeLimitCond = "totalIndexBytes >= int64(float64(t.totalMaxIndexSizeBytes)*0.85)" ∧
    Thanos.Facts.plannerVerticalResCond = "m.Thanos.Downsample.Resolution == 0" := ⟨rfl, rfl⟩

end Thanos.Planner
