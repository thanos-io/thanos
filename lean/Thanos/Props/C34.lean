import Thanos.Model.CompactProto
import Thanos.Lemmas.CompactInv
import Thanos.Generated.Facts
/-
  C34 — Compactor and store gateway delays keep data queryable (model).

  "In a system where the compactor replaces blocks and deletes sources after a delete delay while
   store gateways hide deletion-marked blocks after a shorter delay and sync periodically, every
   source sample remains served by some store gateway at all times."
  Quantifier: all interleavings of compactor steps (upload result, mark sources, clean) and
  store-gateway syncs, with sync lag bounded below the difference of the delays.

  The theorems are about the protocol model `Model/CompactProto.lean` (spec level: a block is its
  id, level, source set and deletion mark; the duplicate filter is its specification), for every
  action sequence, any number of blocks and gateways.  The property (`C34_full levelTie`, theorem `C34`) is stated
  per gateway (hence "some gateway") and read off the invariant `Inv` of Lemmas/CompactInv.lean (`Inv.gw_serves`),
  which every run keeps (`run_inv`).
  What bounds `C34`: the order by ULID alone violates it (`C34_idtie_false`), the bound on the lag is
  needed (`C34_lag_needed`), and so is loading before dropping in a sync (`C34_drop_first_false`).  The
  flag defaults meet the hypothesis (`C34_default_deployment`).
-/
namespace Thanos.CompactProto

theorem Inv.gw_serves {P : Params} {s : State} (hi : Inv P s) : ∀ g ∈ s.gws, ∀ x ∈ g.known, serves s g x = true := by
  intro g hg x hx
  obtain ⟨b, hb, hl, hxb⟩ := hi.gw_known g hg x hx
  simp only [serves, List.any_eq_true, Bool.and_eq_true, Bool.or_eq_true, List.contains_iff_mem]
  exact ⟨b, hb, Or.inl hl, hxb⟩

/-- the property for any parameters with the repaired order (any divisor of the compactor's own delay),
    any start that satisfies the invariant, and already when `ignoreDelay + lag` EQUALS the delete delay -/
theorem serves_of_run (P : Params) (hT : P.levelTie = true) (hP : P.ignoreDelay + P.lag ≤ P.deleteDelay)
    (s s' : State) (hi : Inv P s) (acts : List Action) (h : run P s acts = some s') :
    ∀ g ∈ s'.gws, ∀ x ∈ g.known, serves s' g x = true :=
  (run_inv P hT acts s s' (Or.inl hP) hi h).1.gw_serves

/-- C34 at full strength for a tie rule `levelTie` of the duplicate filter's sort. -/
def C34_full (levelTie : Bool) : Prop :=
  ∀ (deleteDelay ignoreDelay lag k : Nat) (acts : List Action) (s : State),
    ignoreDelay + lag < deleteDelay →
    run { deleteDelay := deleteDelay, divisor := 2, ignoreDelay := ignoreDelay, lag := lag, levelTie := levelTie }
        (init k) acts = some s →
    ∀ g ∈ s.gws, ∀ x ∈ g.known, serves s g x = true

/-- C34: with the repaired order (higher compaction level first among equal source sets), in every
    reachable state every gateway still serves every sample that was in the bucket when it last
    synced — for all interleavings of the eleven actions (ship / compact / mark / garbage-collect / clean / sync /
    tick / failed upload / read fault / the two halves of a sync), any number of blocks and gateways, whenever
    `ignoreDelay + lag < deleteDelay`. -/
theorem C34 : C34_full true :=
  fun _ _ _ k acts s hP hrun => serves_of_run _ rfl (Nat.le_of_lt hP) (init k) s (init_inv _ k) acts hrun

/-- a sync leaves a gateway that knows exactly the samples of the bucket — the claim above is not vacuous -/
theorem C34_sync_knows_all (P : Params) (s s' : State) (g : Nat) (h : step P s (.sync g) = some s') :
    ∃ gw ∈ s'.gws, gw.lastSync = s.now ∧ ∀ x, x ∈ gw.known ↔ ∃ b ∈ s.blocks, x ∈ b.sources := by
  cases step_sound h with
  | sync hg =>
    exact ⟨syncedGw P s [], List.mem_iff_getElem.mpr ⟨g, by simpa using hg, by simp⟩, rfl, fun _ => mem_allSources⟩

/-- The order as originally written (ULID only) violates the property: a single-block
    (tombstone) compaction `2` of block `1` has the same sources as `1`; the older block wins the
    tie although it is marked for deletion, the garbage collector marks the new block as a
    duplicate, and once both marks are older than the ignore delay the gateway has nothing left. -/
theorem C34_idtie_false : ¬ C34_full false := by
  intro h
  have := h 100 40 50 1
    [.ship, .sync 0, .compact [1], .markSource 1 2, .gc 2, .tick 50, .sync 0]
    { now := 50,
      blocks := [ { id := 1, level := 1, sources := [1], mark := some 0 },
                  { id := 2, level := 2, sources := [1], mark := some 0 } ],
      gws := [ { loaded := [], lastSync := 50, known := [1] } ], nextId := 3 }
    (by decide) (by decide) { loaded := [], lastSync := 50, known := [1] } (by simp) 1 (by simp)
  revert this
  decide

/-- the same action sequence is refused by the repaired order: the garbage collector has nothing
    to mark, block 2 stays live -/
example : run { deleteDelay := 100, divisor := 2, ignoreDelay := 40, lag := 50, levelTie := true } (init 1)
    [.ship, .sync 0, .compact [1], .markSource 1 2, .gc 2] = none := by decide

/-- The bound on the sync lag is needed: a gateway that does not sync for longer than the delete
    delay loses the blocks it has loaded. -/
theorem C34_lag_needed :
    ∃ (acts : List Action) (s : State),
      run { deleteDelay := 100, divisor := 2, ignoreDelay := 40, lag := 200, levelTie := true } (init 1) acts = some s ∧
      ∃ g ∈ s.gws, ∃ x ∈ g.known, serves s g x = false :=
  ⟨[.ship, .ship, .sync 0, .compact [1, 2], .markSource 1 3, .markSource 2 3, .tick 101, .clean 1],
   { now := 101,
     blocks := [ { id := 2, level := 1, sources := [2], mark := some 0 },
                 { id := 3, level := 2, sources := [1, 2], mark := none } ],
     gws := [ { loaded := [1, 2], lastSync := 0, known := [1, 2] } ], nextId := 4 },
   by decide +kernel, { loaded := [1, 2], lastSync := 0, known := [1, 2] }, by simp, 1, by simp, by decide +kernel⟩

/-! non-vacuity: a run with a compaction, garbage collection, cleaning and two gateways -/
example : (run { deleteDelay := 100, divisor := 2, ignoreDelay := 40, lag := 50, levelTie := true } (init 2)
    [.ship, .ship, .sync 0, .sync 1, .compact [1, 2], .markSource 1 3, .gc 2, .tick 50, .sync 0, .sync 1, .tick 50,
     .sync 0, .sync 1, .tick 10, .clean 1, .clean 2]).map (fun s => (s.blocks.map (·.id), s.gws.map (·.loaded)))
    = some ([3], [[3], [3]]) := by decide +kernel

/-! ### the marking step of `Group.compact` is reached only after a successful upload -/

/-- Control-flow skeleton of the end of `Group.compact`, read off the extracted shape
    `[tok, lhs, kind, cond, exit]` (see extract/compact.go `uploadGuard`): the statement that runs
    `block.Upload` is `lhs tok …`, directly in the loop body (`kind = "assign"`) or not, and the next
    statement is `if cond { … exit }`.  The check *sees* a failed upload only if the upload's error
    is stored, by plain assignment, into the very variable the check tests (a `:=` inside a nested
    block declares a new variable that is gone when the check runs), and it stops the function
    only if it returns.  `marksReached guard uploadFailed` = does control reach the loop that
    marks the source blocks. -/
def marksReached (guard : List String) (uploadFailed : Bool) : Bool :=
  match guard with
  | [tok, lhs, kind, cond, exit] =>
    let seen := uploadFailed && tok == "=" && kind == "assign" && cond == lhs ++ " != nil"
    !(seen && exit == "return")
  | _ => true

/-- With the code as it is, a failed upload of the compaction result never reaches the marking
    loop — this is what the protocol's `markSource` guard ("the result is a complete block of the
    bucket") stands for in the implementation. -/
theorem C34_fact_marks_only_after_upload :
    Thanos.Facts.groupCompactUploadGuard = ["=", "err", "assign", "err != nil", "return"] ∧
    marksReached Thanos.Facts.groupCompactUploadGuard true = false ∧
    marksReached Thanos.Facts.groupCompactUploadGuard false = true := ⟨rfl, by decide +kernel, by decide +kernel⟩

/-- the shadowing variant (`err := …` inside a retry loop) does reach the marks after a failed upload -/
example : marksReached [":=", "err", "loop", "err != nil", "return"] true = true := by decide

/-- in the model nothing can be marked on behalf of a result that never became visible: after
    `failedUpload` the would-be result id names no block, so `markSource b r` is disabled -/
theorem markSource_needs_result (P : Params) (s s1 : State) (b : Nat)
    (hids : ∀ c ∈ s.blocks, c.id < s.nextId) (h : step P s .failedUpload = some s1) :
    step P s1 (.markSource b s.nextId) = none := by
  cases h
  have hnone : findBlk s.blocks s.nextId = none :=
    List.find?_eq_none.mpr fun c hc => by simpa using Nat.ne_of_lt (hids c hc)
  simp only [step, hnone]
  cases findBlk s.blocks b <;> rfl

/-! ### a sync of the real store gateway is two half-steps: load the new blocks, then drop the outdated ones -/

/-- `C34` quantifies over all action sequences, hence also over those in which a gateway's sync is split
    (`syncLoad g`, any other actions, then `syncDrop g`).  Spelled out for the state between the two half-steps:
    right after `syncLoad` the gateway's loaded set is the whole current view, whatever was loaded before stays
    on top of it until `syncDrop`. -/
theorem C34_between_half_steps (dd ig lag k : Nat) (acts : List Action) (s s1 : State) (g : Nat)
    (hP : ig + lag < dd)
    (hrun : run { deleteDelay := dd, divisor := 2, ignoreDelay := ig, lag := lag, levelTie := true } (init k) acts = some s)
    (hload : step { deleteDelay := dd, divisor := 2, ignoreDelay := ig, lag := lag, levelTie := true } s (.syncLoad g) = some s1) :
    ∀ gw ∈ s1.gws, ∀ x ∈ gw.known, serves s1 gw x = true := by
  refine C34 dd ig lag k (acts ++ [.syncLoad g]) s1 hP ?_
  rw [run_append, hrun]
  simp only [Option.bind_some, run, hload]

def midSyncWitness : State :=
  { now := 0,
    blocks := [ { id := 1, level := 1, sources := [1], mark := some 0 },
                { id := 2, level := 1, sources := [2], mark := some 0 },
                { id := 3, level := 2, sources := [1, 2], mark := none } ],
    gws := [ { loaded := [1, 2], lastSync := 0, known := [1, 2] } ], nextId := 4 }

/-- the state is reachable: sources shipped, gateway synced, compaction uploaded, sources marked -/
example : run { deleteDelay := 100, divisor := 2, ignoreDelay := 40, lag := 50, levelTie := true } (init 1)
    [.ship, .ship, .sync 0, .compact [1, 2], .markSource 1 3, .markSource 2 3] = some midSyncWitness := by decide +kernel

/-- The other order — drop what left the view first, load the new blocks afterwards — violates the
    property in the middle of the sync: sources 1 and 2 are hidden by the duplicate filter in favour
    of block 3, the gateway unloads them, block 3 is not loaded yet. -/
theorem C34_drop_first_false :
    ∃ gw ∈ (dropOutdatedFirst { deleteDelay := 100, divisor := 2, ignoreDelay := 40, lag := 50, levelTie := true } midSyncWitness 0).gws,
      ∃ x ∈ gw.known, serves (dropOutdatedFirst { deleteDelay := 100, divisor := 2, ignoreDelay := 40, lag := 50, levelTie := true } midSyncWitness 0) gw x = false :=
  ⟨{ loaded := [], lastSync := 0, known := [1, 2] }, by decide, 1, by simp, by decide⟩

/-- What happens under a fault OUTSIDE the property's quantifier (recorded, not claimed): C34 ranges
    over interleavings of compactor steps and gateway syncs with bounded lag; a gateway that cannot
    load a block of its view is not among them.  The order in the code is right, but when the
    replacement block cannot be loaded in a sync (index-header download fails) the outdated blocks
    are dropped all the same, and until the next sync nothing serves the source samples.
    `syncWithFailedLoads` is that behaviour; it is not a step of the model. -/
theorem C34_failed_load_false :
    ∃ gw ∈ (syncWithFailedLoads { deleteDelay := 100, divisor := 2, ignoreDelay := 40, lag := 50, levelTie := true } midSyncWitness 0 [3]).gws,
      ∃ x ∈ gw.known, serves (syncWithFailedLoads { deleteDelay := 100, divisor := 2, ignoreDelay := 40, lag := 50, levelTie := true } midSyncWitness 0 [3]) gw x = false :=
  ⟨{ loaded := [], lastSync := 0, known := [1, 2] }, by decide, 1, by decide, by decide⟩

/-- … and when every block of the view loads, it is the atomic sync -/
example : (syncWithFailedLoads { deleteDelay := 100, divisor := 2, ignoreDelay := 40, lag := 50, levelTie := true } midSyncWitness 0 []).gws
    = [ { loaded := [3], lastSync := 0, known := [1, 2] } ] := by decide

/-- `BucketStore.SyncBlocks` loads (addBlock) before it drops (removeBlock) -/
theorem C34_fact_sync_blocks_order : Thanos.Facts.storeSyncBlocksOrder = ["addBlock", "removeBlock"] := rfl

/-- the compactor's ignore filter uses half the delete delay, the cleaner the whole -/
theorem C34_fact_compactor :
    Thanos.Facts.compactIgnoreDelayArg = "deleteDelay / 2" ∧
    Thanos.Facts.compactCleanerDelayArg = "deleteDelay" ∧
    Thanos.Facts.compactDeleteDelayDefault = "48h" := ⟨rfl, rfl, rfl⟩

/-- The compactor's own view: a block it may still plan over (mark younger than deleteDelay/2)
    cannot be deleted for at least another deleteDelay − deleteDelay/2 seconds, so a compaction that
    takes less than that never reads a block whose deletion has begun. -/
theorem C34_compactor_view (deleteDelay now t d : Nat) (b : Blk) (hb : b.mark = some t)
    (hv : markOk (deleteDelay / 2) now b = true) (hd : d ≤ deleteDelay - deleteDelay / 2) :
    ¬ (now + d - t > deleteDelay) := by
  have hv := (markOk_some hb).mp hv
  -- all that matters of the compactor's half delay is that it is at most the whole
  have hh := Nat.div_le_self deleteDelay 2
  generalize deleteDelay / 2 = h at *
  omega

/-- the store gateway's ignore filter uses --ignore-deletion-marks-delay (default 24h), it syncs every 15m -/
theorem C34_fact_store :
    Thanos.Facts.storeIgnoreDelayArg = "time.Duration(conf.ignoreDeletionMarksDelay)" ∧
    Thanos.Facts.storeIgnoreDelayDefault = "24h" ∧
    Thanos.Facts.storeSyncIntervalDefault = "15m" := ⟨rfl, rfl, rfl⟩

/-- both run the deletion-mark filter before the duplicate filter -/
theorem C34_fact_order :
    Thanos.Facts.compactFilterOrder = ["ignoreDeletionMarkFilter", "duplicateBlocksFilter"] ∧
    Thanos.Facts.storeFilterOrder = ["ignoreDeletionMarkFilter", "NewDeduplicateFilter"] := ⟨rfl, rfl⟩

/-- the duplicate filter's sort: more sources first, then the higher compaction level, then the
    smaller ULID — `beats true`.  The fact lists the `return`s in source order, and the two inside
    `if ilen == jlen` come before the comparison of the lengths. -/
theorem C34_fact_tie :
    Thanos.Facts.dedupSortReturns =
      ["ilvl > jlvl", "metaSlice[i].ULID.Compare(metaSlice[j].ULID) < 0", "ilen-jlen > 0"] := rfl

def digitsVal : List Char → Nat → Option Nat
  | [], acc => some acc
  | c :: cs, acc => if '0' ≤ c ∧ c ≤ '9' then digitsVal cs (10 * acc + (c.toNat - 48)) else none

/-- a flag default such as "48h", "24h", "15m", "30s", "2d" in seconds -/
def durationSeconds (s : String) : Option Nat :=
  match s.toList.reverse with
  | u :: ds =>
    match ds with
    | [] => none
    | _ =>
      match digitsVal ds.reverse 0 with
      | some n =>
        if u = 's' then some n else if u = 'm' then some (60 * n) else if u = 'h' then some (3600 * n)
        else if u = 'd' then some (86400 * n) else none
      | none => none
  | [] => none

/-- the flag defaults as extracted from cmd/thanos/compact.go and cmd/thanos/store.go, in seconds -/
theorem C34_fact_default_values :
    durationSeconds Thanos.Facts.compactDeleteDelayDefault = some 172800 ∧
    durationSeconds Thanos.Facts.storeIgnoreDelayDefault = some 86400 ∧
    durationSeconds Thanos.Facts.storeSyncIntervalDefault = some 900 := by decide +kernel

/-- With the extracted defaults the hypothesis of `C34` holds for every sync lag below 24 h — in
    particular for the default sync interval (15 m) plus any sync duration up to 23 h 45 m. -/
theorem C34_defaults (dd ig sync : Nat)
    (hdd : durationSeconds Thanos.Facts.compactDeleteDelayDefault = some dd)
    (hig : durationSeconds Thanos.Facts.storeIgnoreDelayDefault = some ig)
    (hsy : durationSeconds Thanos.Facts.storeSyncIntervalDefault = some sync) :
    (∀ lag, lag < 24 * 3600 → ig + lag < dd) ∧ sync < 24 * 3600 := by
  obtain ⟨h1, h2, h3⟩ := C34_fact_default_values
  cases h1.symm.trans hdd
  cases h2.symm.trans hig
  cases h3.symm.trans hsy
  exact ⟨fun lag h => by omega, by omega⟩

/-- `C34` for a default deployment (the numbers are those of `C34_fact_default_values`): every store gateway that
    completes a sync at least every `lag < 24h` serves, at all times, every sample that was in the bucket at its
    last sync -/
theorem C34_default_deployment (lag k : Nat) (hlag : lag < 24 * 3600) (acts : List Action) (s : State)
    (h : run { deleteDelay := 172800, divisor := 2, ignoreDelay := 86400, lag := lag, levelTie := true } (init k) acts = some s) :
    ∀ g ∈ s.gws, ∀ x ∈ g.known, serves s g x = true :=
  C34 172800 86400 lag k acts s (by omega) h

end Thanos.CompactProto
