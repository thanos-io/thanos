import Thanos.Model.Gate
import Thanos.Model.GateId
import Thanos.Lemmas.Gate
import Thanos.Lemmas.GateId
import Thanos.Generated.Facts
/-
  C24 — The remote-write concurrency gate is never exceeded.

  "With a maximum write concurrency configured, no more than that many remote-write requests are
  processed at the same time, also when clients give up while waiting for a slot, and waiting
  requests never crash the receiver."

  The model (Model/Gate.lean) is the token bookkeeping of the gate (buffered channel, in-flight
  gauge) driven by the skeleton of the two HTTP entry points; the theorems quantify over every
  schedule of arrivals, acquisitions, cancellations while waiting and completions (any list of
  events, any capacity).  What the theorems hinge on in the source — whether the deferred `Done`
  is registered before or after the error check of `Start` — is a regenerated fact.

  The second half (`C24_limiter_*`, Model/GateId.lean) gives the gate an identity: one gate per
  loaded configuration, handed out by the limiter.
-/
namespace Thanos.Gate

/-- C24 at full strength for the skeleton selected by `doneFirst`: after every schedule (hence
    after every prefix of every schedule) at most `cap` requests are inside the write path, the
    high-water mark never exceeded `cap`, and `gate.Done` never panicked. -/
def C24_full (doneFirst : Bool) : Prop := ∀ (cap : Nat) (evs : List Ev), Safe (run doneFirst cap evs)

/-- **C24 for the skeleton `Start`, error check, `defer Done`** (`doneFirst = false`). -/
theorem C24_fixed : C24_full false := fun cap evs => (inv_run cap evs).safe

/-- moreover the in-flight gauge is exact -/
theorem C24_fixed_gauge (cap : Nat) (evs : List Ev) (hc : 1 ≤ cap) :
    (run false cap evs).gauge = ((run false cap evs).running : Int) := by
  obtain ⟨_, hg, _⟩ := inv_run cap evs
  obtain ⟨h1, _, _, h5⟩ := hg (by rw [run_cap]; exact hc)
  rw [h5, h1]

/-- without a configured limit (`max_concurrency` 0: the limiter keeps `gate.NewNoop()`) nothing
    is ever held, nobody ever waits, and nothing panics -/
theorem C24_noop (evs : List Ev) :
    (run false 0 evs).waiting = 0 ∧ (run false 0 evs).held = 0 ∧ (run false 0 evs).panics = 0 := by
  obtain ⟨h4, _, hn⟩ := inv_run 0 evs
  obtain ⟨n1, n2, _, _⟩ := hn (run_cap false 0 evs)
  exact ⟨n2, n1, h4⟩

/-- **The skeleton with `defer Done()` before the error check violates C24**: capacity 1, A is
    running, B waits, B's client gives up ⇒ B's deferred Done frees A's slot ⇒ C starts while A
    runs; and: A running, X arrives with a dead context while the gate is full, A completes ⇒
    `gate.Done: more operations done than started`. -/
theorem C24_doneFirst_exceeds : (run true 1 [.arrive, .arrive, .cancel, .arrive]).running = 2 := by decide

theorem C24_doneFirst_panics : (run true 1 [.arrive, .arriveCancelled, .finish]).panics = 1 := by decide

theorem C24_full_false : ¬ C24_full true := by
  intro h
  have := ((h 1 [.arrive, .arrive, .cancel, .arrive]).1 (by decide)).1
  revert this
  decide

/-- `Start` returns an error at `cancel` and at `arriveCancelled` only -/
def noFailedStart : List Ev → Bool
  | [] => true
  | .cancel :: _ => false
  | .arriveCancelled :: _ => false
  | _ :: es => noFailedStart es

theorem run_eq_of_noFail (evs : List Ev) (s : St) (h : noFailedStart evs = true) :
    evs.foldl (step true) s = evs.foldl (step false) s := by
  induction evs generalizing s with
  | nil => rfl
  | cons e es ih =>
    cases e with
    | cancel => cases h
    | arriveCancelled => cases h
    -- the other events do not look at the flag
    | _ => exact ih _ h

/-- the skeleton with `defer Done()` first is safe on the schedules in which no Start fails -/
theorem C24_partial (cap : Nat) (evs : List Ev) (h : noFailedStart evs = true) : Safe (run true cap evs) := by
  rw [run, run_eq_of_noFail evs _ h]
  exact C24_fixed cap evs

/-- a run of `scriptStep'` (a step, then the wake-ups; a dead arrival only at a full gate) is a
    schedule of `step`.  The driver's `gate` op runs `lscriptStep` over the limiter instead:
    `linv_script`. -/
theorem script_is_run (df : Bool) (evs : List Ev) :
    ∀ (s : St), ∃ evs' : List Ev, evs.foldl (scriptStep' df) s = evs'.foldl (step df) s := by
  induction evs with
  | nil => exact fun _ => ⟨[], rfl⟩
  | cons e evs ih =>
    intro s
    simp only [List.foldl_cons]
    obtain ⟨rest, hrest⟩ := ih (scriptStep' df s e)
    rw [hrest]
    simp only [scriptStep']
    split
    · exact ⟨rest, rfl⟩
    · simp only [scriptStep]
      obtain ⟨ws, hws⟩ := wake_is_run df (step df s e).waiting (step df s e)
      exact ⟨e :: ws ++ rest, by simp [List.foldl_append, hws]⟩

/-- every state a run of `scriptStep' false` can show is `Safe` -/
theorem C24_fixed_scripts (cap : Nat) (evs : List Ev) : Safe (evs.foldl (scriptStep' false) (St.init cap)) := by
  obtain ⟨evs', h⟩ := script_is_run false evs (St.init cap)
  rw [h]
  exact C24_fixed cap evs'

/-- C24 holds of both entry points as they are -/
theorem C24_holds : C24_full codeDoneFirstHTTP ∧ C24_full codeDoneFirstOTLP := ⟨C24_fixed, C24_fixed⟩

/-- C24 over the limiter: whatever the schedule of configuration loads, arrivals and handler
    events, the requests admitted under one configuration are bounded by its `max_concurrency`
    (they all went through the same gate), every gate is Safe, and no two gates belong to the same
    configuration epoch. -/
def C24_limiter_full (lazy doneFirst : Bool) : Prop :=
  ∀ (cap : Nat) (evs : List LEv), 1 ≤ cap →
    let l := lrun lazy doneFirst false cap evs
    (∀ ep, runningIn l ep ≤ cap) ∧ (∀ r, r ∈ l.gates → Safe r.st) ∧
    (∀ (i j : Nat) (ri rj : GateRec), l.gates[i]? = some ri → l.gates[j]? = some rj → ri.epoch = rj.epoch → i = j)

/-- **C24 over the limiter as the code has it** (the gate is built by `loadConfig` under the lock,
    `WriteGate()` returns the stored field) with the handler skeleton `Start`, error check,
    `defer Done`. -/
theorem C24_limiter_fixed : C24_limiter_full false false := fun cap evs hc =>
  (linv_run cap evs).safe (lrun_cap false false false cap evs) hc

/-- **A limiter that builds the gate lazily in `WriteGate()` without re-checking violates C24**
    although handlers and gates are untouched: max_concurrency 1, the configuration is loaded, two
    requests find no gate, each builds its own and passes it — two requests of one configuration
    inside the write path, in two gates of the same epoch. -/
theorem C24_lazy_exceeds :
    runningIn (lrun true false false 1 [.load, .arrive, .arrive, .build, .build]) 1 = 2 ∧
    ((lrun true false false 1 [.load, .arrive, .arrive, .build, .build]).gates.map (·.epoch)) = [1, 1] := by decide

theorem C24_limiter_lazy_false : ¬ C24_limiter_full true false := by
  intro h
  have := (h 1 [.load, .arrive, .arrive, .build, .build] (by decide)).1 1
  revert this
  decide

/-- the scripted runs executed against the real limiter and handlers (arrivals, dead arrivals,
    cancellations, completions and RELOADS while requests are in flight) keep the invariant, so
    `LInv.safe` holds of every state they reach; the driver's `gateRun` begins with the start-up
    load, the script step `.r` -/
theorem linv_script (cap : Nat) (evs : List SEv) :
    LInv (evs.foldl (lscriptStep false false false) (Lim.init cap)) := by
  refine List.foldlRecOn evs _ (linv_init cap) fun l hi e _ => ?_
  obtain ⟨_, rfl | ⟨ev, rfl⟩, h⟩ := lscriptStep_eq false false false l e
  · exact h ▸ linv_wakeAll hi
  · exact h ▸ linv_wakeAll (linv_step hi ev)

/-- **A handler that looks the gate up again for `Done` violates C24 across a limits reload**
    although limiter, gates and the Start/Done balance are untouched: cap 1 — a request is
    running, the limits are reloaded (new gate object), the request completes and releases a slot
    of the NEW, empty gate ⇒ `gate.Done: more operations done than started`; and if the new gate is
    occupied, the stray Done frees that request's slot: a third request is admitted while the
    second still runs (two requests of one configuration at cap 1). -/
theorem C24_relookup_panics :
    ((lrun false false true 1 [.load, .arrive, .load, .on 0 .finish]).gates.map (·.st.panics)) = [0, 1] := by decide

theorem C24_relookup_exceeds :
    runningIn (lrun false false true 1 [.load, .arrive, .load, .arrive, .on 0 .finish, .arrive]) 2 = 2 := by decide

/-- with the gate kept (the code as it is) the same schedules are harmless -/
example : ((lrun false false false 1 [.load, .arrive, .load, .on 0 .finish]).gates.map (·.st.panics)) = [0, 0] ∧
    runningIn (lrun false false false 1 [.load, .arrive, .load, .arrive, .on 0 .finish, .arrive]) 2 = 1 := by decide

/-- the limiter of the code as it is -/
theorem C24_limiter_holds : C24_limiter_full codeLazyGate codeDoneFirstHTTP := C24_limiter_fixed

def doneFirstOfSkeleton : List String → Option Bool
  | ["Start", "deferDone", "checkErr"] => some true
  | ["Start", "checkErr", "deferDone"] => some false
  | _ => none

/-- Regenerated obligations: the order of `writeGate.Start`, `defer writeGate.Done()` and the error
    check in the two handlers is the one the model (and the compiled driver) uses. -/
theorem C24_skeleton_fact_http : doneFirstOfSkeleton Thanos.Facts.receiveHTTPGate = some codeDoneFirstHTTP := by decide +kernel
theorem C24_skeleton_fact_otlp : doneFirstOfSkeleton Thanos.Facts.receiveOTLPHTTPGate = some codeDoneFirstOTLP := by decide +kernel

/-- Regenerated obligations about the parts of the model that are not the handler skeleton: one
    Start and one Done per handler, so every return path after the gate — answer, forward
    timeout, error — releases exactly once; the noop gate, which calls nothing, exactly without a
    limit (`cap = 0`); the gauge goes up after a successful inner Start and down before the inner
    Done (`enter`, `done`), the total counts before the inner Start (`step`); the wrappers are
    stacked Duration(Total(InFlight(gate))). -/
theorem C24_gate_facts :
    Thanos.Facts.receiveHTTPGateCalls = ["writeGate.Start", "writeGate.Done"] ∧
    Thanos.Facts.receiveOTLPHTTPGateCalls = ["writeGate.Start", "writeGate.Done"] ∧
    Thanos.Facts.gateNewNoopCond = "maxConcurrent <= 0" ∧
    Thanos.Facts.limiterGateCond = "maxWriteConcurrency > 0" ∧
    Thanos.Facts.limiterDefaultGate = ["gate.NewNoop"] ∧
    Thanos.Facts.gateNoopCalls = [] ∧
    Thanos.Facts.gateInFlightStart = ["Start", "Inc"] ∧
    Thanos.Facts.gateInFlightDone = ["Dec", "Done"] ∧
    Thanos.Facts.gateTotalStart = ["Inc", "Start"] ∧
    Thanos.Facts.gateNewWrappers = ["InstrumentGateDuration", "InstrumentGateTotal", "InstrumentGateInFlight"] :=
  ⟨rfl, rfl, rfl, rfl, rfl, rfl, rfl, rfl, rfl, rfl⟩

/-- `some false` for the one shape of the four facts that is the limiter of `C24_limiter_holds`;
    anything else (e.g. a lazily built gate) is not decoded. -/
def lazyOfFacts (builtIn assignedIn body loadSeq : List String) : Option Bool :=
  if builtIn = ["loadConfig"] ∧ assignedIn = ["NewLimiter", "loadConfig"] ∧
     body = ["l.RLock()", "defer l.RUnlock()", "return l.writeGate"] ∧
     loadSeq = ["l.Lock", "l.Unlock", "gate.New"] then some false else none

/-- Regenerated obligation: how the limiter hands out the gate (`lazy = false`).  The gate is built
    and assigned in `loadConfig` only, under the lock (and at construction: the noop gate);
    `WriteGate()` takes the read lock and returns the stored field — it constructs nothing and
    tests nothing. -/
theorem C24_limiter_fact :
    lazyOfFacts Thanos.Facts.limiterGateBuiltIn Thanos.Facts.limiterGateAssignedIn
      Thanos.Facts.limiterWriteGateBody Thanos.Facts.limiterLoadConfigSeq = some codeLazyGate :=
  if_pos ⟨rfl, rfl, rfl, rfl⟩

/-- Regenerated obligation: both handlers look the gate up exactly once
    (`writeGate := h.Limiter.WriteGate()`) and call `Start` and the deferred `Done` on that value
    (`relookup = false`; the last two conjuncts are the first two of `C24_gate_facts`). -/
theorem C24_lookup_fact :
    Thanos.Facts.receiveHTTPGateLookup = ["writeGate := h.Limiter.WriteGate()"] ∧
    Thanos.Facts.receiveOTLPHTTPGateLookup = ["writeGate := h.Limiter.WriteGate()"] ∧
    Thanos.Facts.receiveHTTPGateCalls = ["writeGate.Start", "writeGate.Done"] ∧
    Thanos.Facts.receiveOTLPHTTPGateCalls = ["writeGate.Start", "writeGate.Done"] :=
  ⟨rfl, rfl, rfl, rfl⟩

-- capacity 2, five requests: two run, two wait, one waiter gives up, one completes, a waiter
-- takes the freed slot, a request with a dead context comes and goes
example : run false 2 [.arrive, .arrive, .arrive, .arrive, .cancel, .cancelRunning, .finish, .acquire, .arriveCancelled]
    = ⟨2, 2, 2, 0, 2, 5, 0, 2⟩ := by decide
example : run false 0 [.arrive, .arriveCancelled, .arrive, .finish] = ⟨0, 0, 2, 0, 0, 0, 0, 3⟩ := by decide
example : (run true 2 [.arrive, .arrive, .arrive, .arrive, .cancel, .finish, .acquire, .arriveCancelled]).panics = 0 ∧
    (run true 2 [.arrive, .arrive, .arrive, .arrive, .cancel, .acquire, .acquire]).running = 3 := by decide

-- the limiter: start-up load, three arrivals at capacity 2, a reload, two more arrivals, one of the first completes
example : (lrun false false false 2 [.load, .arrive, .arrive, .arrive, .load, .arrive, .on 0 .finish, .on 0 .acquire, .arrive]).gates.map
    (fun r => (r.epoch, r.st.running, r.st.waiting)) = [(1, 2, 0), (2, 2, 0)] := by decide

end Thanos.Gate
