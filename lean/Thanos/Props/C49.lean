import Thanos.Model.Memcached
import Thanos.Lemmas.Memcached
import Thanos.Lemmas.SortCmp
import Thanos.Generated.Facts
/-
  C49 — Memcached key placement is consistent.

  The theorems about the hash (range, consistency, batch = single, adding a server last) are for an
  arbitrary step function of the jump-hash loop that moves forward
  (`Forward step : ∀ k b, 0 ≤ b → b < (step k b).2`); those about the listing order and the history of
  `SetServers` calls hold for any step.  For the real formula
  `int64(float64(b+1) * (float64(1<<31) / float64((key>>33)+1)))` this is proved over the rationals
  (`ratStep_forward`); that IEEE rounding keeps it (the quotient is ≥ 1.0 because division is
  monotone and 2^31/2^31 = 1 exactly; multiplying the exactly representable b+1 by a factor ≥ 1.0
  cannot round below b+1) is the remaining assumption — Lean's `Float` is opaque to proofs.  The
  correspondence runs `realStep` (IEEE doubles) against Go bit for bit, and a stalled loop would
  show there as `none`.
-/
namespace Thanos.Memcached

theorem shr33_lt (x : UInt64) : (x >>> 33).toNat < 2 ^ 31 := by
  have h := UInt64.toNat_lt x
  have e : (x >>> 33).toNat = x.toNat / 2 ^ 33 := by
    rw [UInt64.toNat_shiftRight]
    simp [Nat.shiftRight_eq_div_pow]
  rw [e]
  omega

/-- the rational step moves forward: (b+1)·2³¹/(k+1) ≥ b+1 because k+1 ≤ 2³¹ -/
theorem ratStep_forward : Forward ratStep := by
  intro key b hb
  simp only [ratStep]
  have hlt := shr33_lt (key * 2862933555777941757 + 1)
  generalize (((key * 2862933555777941757 + 1) >>> 33).toNat) = kn at hlt
  have hk1 : Int.ofNat kn + 1 ≤ 2147483648 := by simp only [Int.ofNat_eq_natCast]; omega
  have hpos : 0 < Int.ofNat kn + 1 := by simp only [Int.ofNat_eq_natCast]; omega
  have : (b + 1) ≤ (b + 1) * 2147483648 / (Int.ofNat kn + 1) := by
    apply Int.le_ediv_of_mul_le hpos
    exact Int.mul_le_mul_of_nonneg_left hk1 (by omega)
  omega

/-- with `m ≥ n` buckets a key keeps its bucket or moves to one of the new ones -/
theorem jump_mono (step : UInt64 → Int → UInt64 × Int) (hs : Forward step) (key : UInt64) (n m : Nat) (hn : 1 ≤ n)
    (hnm : n ≤ m) : ∃ r r', jumpHashWith step key n = some r ∧ jumpHashWith step key m = some r' ∧
      0 ≤ r ∧ r < n ∧ (r' = r ∨ n ≤ r' ∧ r' < m) := by
  obtain ⟨r, hr, hrn⟩ := jumpGo_range step hs n (n + 1) key (-1) 0 (Int.le_refl 0) (by omega)
  obtain ⟨r', hr', h⟩ :=
    jumpGo_mono step hs n m (Int.ofNat_le.mpr hnm) (n + 1) (m + 1) key (-1) 0 (Int.le_refl 0) (by omega) r hr
  have ⟨h0, hlt⟩ := hrn.resolve_left fun h => h.1 (Int.natCast_pos.mpr hn)
  exact ⟨r, r', hr, hr', h0, hlt, h⟩

/-- **range**: with `n ≥ 1` buckets the jump hash ends in a bucket in `[0, n)` -/
theorem jump_range (step : UInt64 → Int → UInt64 × Int) (hs : Forward step) (key : UInt64) (n : Nat)
    (hn : 1 ≤ n) : ∃ r, jumpHashWith step key n = some r ∧ 0 ≤ r ∧ r < n :=
  let ⟨r, _, hr, _, h0, hlt, _⟩ := jump_mono step hs key n n hn (Nat.le_refl n)
  ⟨r, hr, h0, hlt⟩

/-- **consistency**: with one more bucket a key keeps its bucket or moves to the new one -/
theorem jump_consistent (step : UInt64 → Int → UInt64 × Int) (hs : Forward step) (key : UInt64) (n : Nat)
    (hn : 1 ≤ n) : ∃ r r', jumpHashWith step key n = some r ∧ jumpHashWith step key (n + 1) = some r' ∧
      (r' = r ∨ r' = n) :=
  let ⟨r, r', hr, hr', _, _, h⟩ := jump_mono step hs key n (n + 1) hn (Nat.le_succ n)
  ⟨r, r', hr, hr', h.imp_right fun h => Int.le_antisymm (Int.le_of_lt_add_one h.2) h.1⟩

/-- with `m ≥ n` servers a key keeps its index or gets one of the new ones -/
theorem pickIdx_mono (step : UInt64 → Int → UInt64 × Int) (hs : Forward step) (n m : Nat) (hn : 1 ≤ n) (hnm : n ≤ m)
    (h : UInt64) : ∃ i i', pickIdx step n h = some i ∧ pickIdx step m h = some i' ∧ i < n ∧ i' < m ∧
      (i' = i ∨ n ≤ i') := by
  obtain ⟨r, r', hr, hr', h0, hlt, hrr⟩ := jump_mono step hs h n m hn hnm
  obtain ⟨ht, htm, ht'⟩ : r.toNat < n ∧ r'.toNat < m ∧ (r'.toNat = r.toNat ∨ n ≤ r'.toNat) := by omega
  -- the index is the bucket, also in the one-server shortcut (bucket 0)
  have e : ∀ k x, jumpHashWith step h k = some x → x.toNat < k → pickIdx step k h = some x.toNat := by
    intro k x hx hlt
    unfold pickIdx
    rw [if_neg (Nat.ne_zero_of_lt hlt), hx]
    split
    · exact congrArg some (by omega)
    · rfl
  exact ⟨r.toNat, r'.toNat, e n r hr ht, e m r' hr' htm, ht, htm, ht'⟩

/-- `PickServer` never fails with servers configured and answers one of them -/
theorem pick_some (step : UInt64 → Int → UInt64 × Int) (hs : Forward step) (sorted : List String)
    (hne : sorted ≠ []) (h : UInt64) : ∃ s ∈ sorted, pickServer step sorted h = some s := by
  obtain ⟨i, _, hi, _, hlt, _⟩ :=
    pickIdx_mono step hs sorted.length sorted.length (List.length_pos_iff.mpr hne) (Nat.le_refl _) h
  refine ⟨sorted[i], List.getElem_mem hlt, ?_⟩
  simp [pickServer, hi, List.getElem?_eq_getElem hlt]

/-- **batch = single**: `PickServerForKeys` lists every key exactly under the server `PickServer`
    gives for it, in request order, each server once (also in the one-server shortcut). -/
theorem C49_batch (step : UInt64 → Int → UInt64 × Int) (hs : Forward step) (sorted : List String)
    (keys : List (String × UInt64)) (m : List (String × List (String × UInt64)))
    (hm : pickForKeys step sorted keys = some m) :
    (m.map (·.1)).Nodup ∧
    (∀ s ks, (s, ks) ∈ m → ks = keys.filter (fun k => pickServer step sorted k.2 == some s)) ∧
    (∀ k ∈ keys, ∃ s ks, (s, ks) ∈ m ∧ k ∈ ks ∧ pickServer step sorted k.2 = some s) := by
  revert hm
  -- no server; one server (the shortcut); two or more
  fun_cases pickForKeys step sorted keys with
  | case1 => exact fun hm => nomatch hm
  | case2 a =>
    intro hm
    cases hm
    have hp : ∀ h, pickServer step [a] h = some a := by intro h; simp [pickServer, pickIdx]
    refine ⟨by simp, ?_, ?_⟩
    · intro s' ks hmem
      simp at hmem
      obtain ⟨rfl, rfl⟩ := hmem
      exact (List.filter_eq_self.mpr (by simp [hp])).symm
    · intro k hk
      exact ⟨a, keys, by simp, hk, hp k.2⟩
  | case3 sorted hne _ =>
    intro hm
    cases hm
    obtain ⟨hnd, hks, hin⟩ := groupKeys_spec (fun k : String × UInt64 => pickServer step sorted k.2) keys
    refine ⟨hnd, hks, fun k hk => ?_⟩
    obtain ⟨s, _, hs'⟩ := pick_some step hs sorted hne k.2
    obtain ⟨ks, hmem, hk'⟩ := hin k hk s hs'
    exact ⟨s, ks, hmem, hk', hs'⟩

theorem canon_perm_eq (la lb : List String) (h : la.Perm lb) : canon la = canon lb :=
  mergeSort_eq_of_perm compare h

/-- **listing order** (the repaired `SetServers`: `sort.Strings`, then natsort): whatever the
    third-party natural sort does with a list, two listings of the same servers give the same
    address list, hence the same server for every key.  No assumption on natsort is needed. -/
theorem C49_perm (step : UInt64 → Int → UInt64 × Int) (nat : List String → List String)
    (la lb : List String) (hperm : la.Perm lb) (h : UInt64) :
    pickServer step (setServers nat la) h = pickServer step (setServers nat lb) h := by
  simp [setServers, canon_perm_eq la lb hperm]

/-- The same for a selector that applies natsort to the list as given, under the hypothesis
    natsort does not meet: the order sorted by is antisymmetric on the servers. -/
theorem C49_perm_antisymm (step : UInt64 → Int → UInt64 × Int) (le : String → String → Prop)
    (la lb sa sb : List String) (hperm : la.Perm lb) (ha : sa.Perm la) (hb : sb.Perm lb)
    (hsa : sa.Pairwise le) (hsb : sb.Pairwise le)
    (hanti : ∀ a b, a ∈ la → b ∈ la → le a b → le b a → a = b) (h : UInt64) :
    pickServer step sa h = pickServer step sb h := by
  have hab : sa.Perm sb := ha.trans (hperm.trans hb.symm)
  have : sa = sb := List.Perm.eq_of_pairwise
    (fun a b ha' hb' => hanti a b (ha.mem_iff.mp ha') (hperm.mem_iff.mpr (hb.mem_iff.mp hb'))) hsa hsb hab
  rw [this]

/-- the order clause for a selector that sorts the list as given, by an arbitrary procedure that
    only promises a rearrangement -/
def C49_order_full (step : UInt64 → Int → UInt64 × Int) (sort : List String → List String) : Prop :=
  ∀ la lb : List String, la.Perm lb → ∀ h, pickServer step (sort la) h = pickServer step (sort lb) h

/-- … is false: `sort.Sort` with a comparison that answers "less" both ways (natsort.Compare on
    "/s/1" and "/s/01") swaps the pair whatever its order, so the two listings end up in different
    orders and a key with bucket 1 changes server. -/
theorem C49_order_full_false : ∃ (step : UInt64 → Int → UInt64 × Int) (sort : List String → List String),
    Forward step ∧ (∀ l, (sort l).Perm l) ∧ ¬ C49_order_full step sort := by
  refine ⟨fun k b => (k, b + 1), List.reverse, ?_, fun l => List.reverse_perm l, ?_⟩
  · intro k b _; show b < b + 1; omega
  · intro h
    have := h ["/s/1", "/s/01"] ["/s/01", "/s/1"] (by decide) 0
    revert this
    decide

/-- **adding a server**, full strength: wherever the new server sorts, a key stays or moves to it -/
def C49_add_full (step : UInt64 → Int → UInt64 × Int) : Prop :=
  ∀ (sorted : List String) (new : String) (p : Nat) (h : UInt64), p ≤ sorted.length →
    pickServer step (insertAt sorted p new) h = pickServer step sorted h ∨
    pickServer step (insertAt sorted p new) h = some new

/-- … is false for jump hash over a sorted list (F49): servers [b, c], new server a sorts first;
    a key in bucket 1 was on c and is now on b. -/
theorem C49_add_full_false : ∃ step : UInt64 → Int → UInt64 × Int, Forward step ∧ ¬ C49_add_full step := by
  refine ⟨fun k b => (k, if b = 0 then 1 else b + 5), ?_, ?_⟩
  · intro k b hb
    show b < (if b = 0 then 1 else b + 5)
    split <;> omega
  · intro h
    have := h ["b", "c"] "a" 0 0 (by decide)
    revert this
    decide

/-- not used below: the `sorted ++ [new]` of `C49_add_partial` is `insertAt` at `p = sorted.length`, the last
    position `C49_add_full` allows -/
theorem insertAt_length (l : List String) (x : String) : insertAt l l.length x = l ++ [x] := by
  simp [insertAt]

/-- servers added after the last one: a key stays where it was or moves to one of the new servers, however many
    there are (`jump_mono`); `C49_add_partial` is the case of one -/
theorem pick_append (step : UInt64 → Int → UInt64 × Int) (hs : Forward step) (sorted more : List String) (h : UInt64) :
    pickServer step (sorted ++ more) h = pickServer step sorted h ∨
    ∃ s ∈ more, pickServer step (sorted ++ more) h = some s := by
  by_cases hne : sorted = []
  · subst hne
    cases more with
    | nil => exact .inl rfl
    | cons a l => exact .inr (pick_some step hs (a :: l) (List.cons_ne_nil a l) h)
  · obtain ⟨i, i', hi, hi', hilt, hlt, hrel⟩ := pickIdx_mono step hs sorted.length (sorted ++ more).length
      (List.length_pos_iff.mpr hne) (List.length_append ▸ Nat.le_add_right _ _) h
    simp only [pickServer, hi, hi']
    rcases hrel with rfl | hge
    · exact .inl (List.getElem?_append_left hilt)
    · rw [List.getElem?_append_right hge]
      have hb := Nat.sub_lt_left_of_lt_add hge (List.length_append ▸ hlt)
      exact .inr ⟨more[i' - sorted.length], List.getElem_mem hb, List.getElem?_eq_getElem hb⟩

/-- … and holds when the new server sorts last (what the code comment asks operators to arrange). -/
theorem C49_add_partial (step : UInt64 → Int → UInt64 × Int) (hs : Forward step) (sorted : List String)
    (new : String) (h : UInt64) :
    pickServer step (sorted ++ [new]) h = pickServer step sorted h ∨
    pickServer step (sorted ++ [new]) h = some new :=
  (pick_append step hs sorted [new] h).imp_right fun ⟨_, hm, e⟩ => List.mem_singleton.mp hm ▸ e

def lastGood (cur : List String) : List SetCall → List String
  | [] => cur
  | .ok sorted :: rest => lastGood sorted rest
  | .fail :: rest => lastGood cur rest

/-- **all-or-nothing**: after any history of `SetServers` calls the selector holds exactly the list of
    the last call that succeeded; failing calls (a name that does not resolve) leave no trace -/
theorem runCalls_lastGood : ∀ (calls : List SetCall) (cur : List String), runCalls cur calls = lastGood cur calls
  | [], _ => rfl
  | .ok sorted :: rest, cur => by
    simp only [runCalls, List.foldl_cons, setCall, lastGood]
    exact runCalls_lastGood rest sorted
  | .fail :: rest, cur => by
    simp only [runCalls, List.foldl_cons, setCall, lastGood]
    exact runCalls_lastGood rest cur

theorem runCalls_fails (cur : List String) : ∀ (fs : List SetCall), (∀ c ∈ fs, c = .fail) → runCalls cur fs = cur
  | [], _ => rfl
  | c :: fs, h => by
    cases h c List.mem_cons_self
    exact runCalls_fails cur fs fun x hx => h x (List.mem_cons_of_mem _ hx)

/-- **placement is a function of the last successful list**: two selectors whose histories end with the
    same successful call — whatever failing calls follow it, whatever came before — place every key on
    the same server, single or batched -/
theorem C49_history (step : UInt64 → Int → UInt64 × Int) (sorted : List String)
    (before before' : List SetCall) (cur cur' : List String) (fails fails' : List SetCall)
    (hf : ∀ c ∈ fails, c = .fail) (hf' : ∀ c ∈ fails', c = .fail) (h : UInt64)
    (keys : List (String × UInt64)) :
    pickServer step (runCalls cur (before ++ .ok sorted :: fails)) h =
      pickServer step (runCalls cur' (before' ++ .ok sorted :: fails')) h ∧
    pickForKeys step (runCalls cur (before ++ .ok sorted :: fails)) keys =
      pickForKeys step (runCalls cur' (before' ++ .ok sorted :: fails')) keys := by
  have key : ∀ (b : List SetCall) (c : List String) (fs : List SetCall), (∀ x ∈ fs, x = SetCall.fail) →
      runCalls c (b ++ .ok sorted :: fs) = sorted := fun b c fs hfs => by
    rw [runCalls, List.foldl_append, List.foldl_cons]
    exact runCalls_fails sorted fs hfs
  rw [key before cur fails hf, key before' cur' fails' hf']
  exact ⟨rfl, rfl⟩

/-- Regenerated obligation: `SetServers` builds the new list in a FRESH slice (`make`), fills it in the
    loop (the only early return is inside the loop, before anything of the selector is touched),
    and only after the loop takes the lock and installs it — so a failing call cannot change what
    lookups see (`setCall … .fail = cur`). -/
theorem C49_build_fact : Thanos.Facts.setServersBuild =
    ["naddr := make([]net.Addr, len(servers))", "range sortedServers", "naddr[i], err = parseStaticAddr(server)",
     "return in loop", "end range", "s.mu.Lock", "s.mu.Unlock", "s.addrs = naddr"] := rfl

/-- Regenerated obligation: `SetServers` sorts lexically before it sorts naturally (so
    `setServers` is the model of the code as it is and `C49_perm` its theorem). -/
theorem C49_sort_order_fact : Thanos.Facts.setServersSortCalls = ["sort.Strings", "natsort.Sort"] := rfl

-- non-vacuity: a forward step, a concrete key, three servers
example : Forward (fun k b => (k, b + 1)) := by intro k b _; show b < b + 1; omega
example : jumpHashWith (fun k b => (k, if b = 0 then 1 else b + 5)) 0 2 = some 1 := by decide
example : pickServer (fun k b => (k, if b = 0 then 1 else b + 5)) ["b", "c"] 0 = some "c" := by decide
example : pickServer (fun k b => (k, if b = 0 then 1 else b + 5)) (insertAt ["b", "c"] 0 "a") 0 = some "b" := by decide
example : pickForKeys (fun k b => (k, if b = 0 then 1 else b + 5)) ["b", "c"] [("k1", 0), ("k2", 1)] =
    some [("c", [("k1", 0), ("k2", 1)])] := by decide
example : (ratStep 12345 0).2 = 1 := by decide
example : runCalls [] [.ok ["a", "b"], .fail, .ok ["a", "c"], .fail, .fail] = ["a", "c"] := by decide
example : applyPerm [1, 0, 2] ["a10", "a2", "b"] = some ["a2", "a10", "b"] := by decide
example : ["b", "a10", "a2"].Perm ["a2", "b", "a10"] := by decide

end Thanos.Memcached
