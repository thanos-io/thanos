import Thanos.Lemmas.Downsample
import Thanos.Lemmas.DownsampleRaw
import Thanos.Lemmas.DownsampleAggrLoop
import Thanos.Generated.Facts
/-
  C36 — Raw downsampling aggregates are exact.
  Model: Model/Downsample.lean (transliteration of DownsampleRaw / downsampleRawLoop /
  downsampleBatch / floatAggregator / aggrChunkBuilder and of query.chunkSeriesIterator);
  specification: Model/DownsampleSpec.lean (`runs` = grouping by window).
  Domain of the theorems: timestamps strictly increasing (int64), resolution > 0, values finite
  floats (|v| ≤ MaxFloat64), numChunks ≥ 1.  Negative timestamps: with Go's truncating `%` in
  `currentWindow` and −1 as "no window yet", samples before the epoch are lost (F36,
  harness/corpus/C36/negative-timestamps.ops, `C36_truncating_window_false`); the code in /repo (8e950d955) and
  the model use the floored remainder and `math.MinInt64`, and the C36 theorems hold for all int64
  timestamps (`RawIn`, `C36_full_holds`).  The hypotheses `RawIn` / `RawOK`, the batches `batchesOf` and the general
  theorem `downsampleRaw_series` behind the layout, read-back and well-formedness results are in
  Lemmas/DownsampleRaw.lean.
-/
namespace Thanos.Downsample

/-- **Per-window exactness of one batch** (`downsampleFloatBatch` on a time-ordered batch): `chunkOf_runs` for the
    chunk it returns. -/
theorem C36_batch (r : Int) (hr : 0 < r) (batch : List Pt) (lastT lv : Int)
    (hlast : batch.getLast? = some (lastT, lv)) (h0 : ∀ p ∈ batch, minInt64 < p.1) (hs : Sorted batch)
    (hfin : ∀ p ∈ batch, Finite p.2) :
    ∃ c, floatBatch batch r = some c ∧
      c.count = (runs r batch).map (fun g => (min g.1 lastT, (g.2.length : Int))) ∧
      c.sum = (runs r batch).map (fun g => (min g.1 lastT, (g.2.map (·.2)).sum)) ∧
      c.min.map (fun p => (p.1, some p.2)) = (runs r batch).map (fun g => (min g.1 lastT, (g.2.map (·.2)).min?)) ∧
      c.max.map (fun p => (p.1, some p.2)) = (runs r batch).map (fun g => (min g.1 lastT, (g.2.map (·.2)).max?)) :=
  ⟨_, floatBatch_chunkOf r (List.ne_nil_of_mem (List.mem_of_getLast? hlast)), chunkOf_runs r hr hlast h0 hs hfin⟩

/-- the specification side of `C36_batch`: for time-ordered samples the run with window end `w`
    is the set of samples whose window ends at `w`, and every window occurs exactly once -/
theorem C36_runs_spec (r : Int) (hr : 0 < r) (l : List Pt) (hs : Sorted l) :
    (runs r l).flatMap (·.2) = l ∧
    (runs r l).Pairwise (fun a b => a.1 < b.1) ∧
    ∀ g ∈ runs r l, g.2 ≠ [] ∧ g.2 = l.filter (fun p => currentWindow p.1 r = g.1) := by
  have hs' : l.Pairwise (fun a b => a.1 ≤ b.1) := hs.imp (fun h => Int.le_of_lt h)
  exact ⟨runs_flatten r l, runs_keys_sorted r hr l hs',
    fun g hg => ⟨runs_ne_nil r l g hg, runs_eq_filter r hr l hs' g hg⟩⟩

/-- the window end is the last millisecond of the window `[w − r + 1, w]` that contains `t` -/
theorem C36_window (t r : Int) (hr : 0 < r) :
    t ≤ currentWindow t r ∧ currentWindow t r < t + r ∧ (currentWindow t r + 1) % r = 0 :=
  ⟨currentWindow_ge hr, currentWindow_lt hr, currentWindow_aligned hr⟩

/-- **C36, per window, for the whole series.**  DownsampleRaw cuts the non-NaN samples into
    non-empty batches that never split a window (`Aligned`), so the window runs of the series are
    the window runs of the batches; it produces one chunk per batch, and the count / sum / min /
    max sub-chunks of the chunks, concatenated, hold for every window run `g` of every batch `b`
    one sample at `min(window end, last timestamp of b)` with `|g|`, `Σ g`, `min g`, `max g`. -/
theorem C36_windows (r : Int) (hr : 0 < r) (data : List Raw) (nc : Nat) (hnc : 0 < nc) (ok : RawIn data) :
    ∃ chunks, downsampleRaw data r nc = some chunks ∧
      let bs := batchesOf r nc data
      bs.flatten = dropNaN data ∧ (∀ b ∈ bs, b ≠ []) ∧ Aligned r bs ∧
      bs.flatMap (runs r) = runs r (dropNaN data) ∧
      chunks.length = bs.length ∧
      chunks.flatMap (·.count) = bs.flatMap (fun b => (runs r b).map fun g => (min g.1 (lastT b), (g.2.length : Int))) ∧
      chunks.flatMap (·.sum) = bs.flatMap (fun b => (runs r b).map fun g => (min g.1 (lastT b), (g.2.map (·.2)).sum)) ∧
      chunks.flatMap (fun c => c.min.map fun p => (p.1, some p.2)) =
        bs.flatMap (fun b => (runs r b).map fun g => (min g.1 (lastT b), (g.2.map (·.2)).min?)) ∧
      chunks.flatMap (fun c => c.max.map fun p => (p.1, some p.2)) =
        bs.flatMap (fun b => (runs r b).map fun g => (min g.1 (lastT b), (g.2.map (·.2)).max?)) := by
  obtain ⟨hflat, hne, hal⟩ := ptBatches_props r hr data nc ok.sorted
  have hper := chunkOf_batch r hr nc ok
  exact ⟨_, downsampleRaw_eq r data hnc, hflat, hne, hal, (runs_flatten_aligned r _ hal ▸ hflat ▸ rfl),
    List.length_map _, flatMap_map_congr fun b hb => (hper b hb).1, flatMap_map_congr fun b hb => (hper b hb).2.1,
    flatMap_map_congr fun b hb => (hper b hb).2.2.1, flatMap_map_congr fun b hb => (hper b hb).2.2.2⟩

/-- **C36, values, independent of the batching**: the concatenated count (sum, min, max)
    sub-chunks carry, in order, `|g|` (`Σ g`, `min g`, `max g`) for the window runs `g` of the
    non-NaN samples of the whole series — with `C36_runs_spec`: for every window that contains a
    non-NaN sample exactly one output sample, aggregating exactly the samples of that window. -/
theorem C36_values (r : Int) (hr : 0 < r) (data : List Raw) (nc : Nat) (hnc : 0 < nc) (ok : RawIn data) :
    ∃ chunks, downsampleRaw data r nc = some chunks ∧
      (chunks.flatMap (·.count)).map (·.2) = (runs r (dropNaN data)).map (fun g => (g.2.length : Int)) ∧
      (chunks.flatMap (·.sum)).map (·.2) = (runs r (dropNaN data)).map (fun g => (g.2.map (·.2)).sum) ∧
      (chunks.flatMap (·.min)).map (fun p => some p.2) = (runs r (dropNaN data)).map (fun g => (g.2.map (·.2)).min?) ∧
      (chunks.flatMap (·.max)).map (fun p => some p.2) = (runs r (dropNaN data)).map (fun g => (g.2.map (·.2)).max?) := by
  obtain ⟨chunks, hc, _, _, _, hruns, _, h1, h2, h3, h4⟩ := C36_windows r hr data nc hnc ok
  have key : ∀ sel : Chunk → List Pt, (chunks.flatMap sel).map (fun p => some p.2) =
      (chunks.flatMap fun c => (sel c).map fun p => (p.1, some p.2)).map (·.2) := fun sel => by
    simp [List.map_flatMap, List.map_map, Function.comp_def]
  refine ⟨chunks, hc, ?_, ?_, ?_, ?_⟩
  · rw [h1, flatMap_runs_values, hruns]
  · rw [h2, flatMap_runs_values, hruns]
  · rw [key, h3, flatMap_runs_values, hruns]
  · rw [key, h4, flatMap_runs_values, hruns]

/-- **C36, totals**: Σ count = number of non-NaN raw samples, Σ sum = Σ of their values -/
theorem C36_totals (r : Int) (hr : 0 < r) (data : List Raw) (nc : Nat) (hnc : 0 < nc) (ok : RawIn data) :
    ∃ chunks, downsampleRaw data r nc = some chunks ∧
      ((chunks.flatMap (·.count)).map (·.2)).sum = ((dropNaN data).length : Int) ∧
      ((chunks.flatMap (·.sum)).map (·.2)).sum = ((dropNaN data).map (·.2)).sum := by
  obtain ⟨chunks, hc, h1, h2, _, _⟩ := C36_values r hr data nc hnc ok
  refine ⟨chunks, hc, ?_, ?_⟩
  · rw [h1, sum_lengths, runs_flatten]
  · rw [h2, sum_sums, runs_flatten]

/-- **C36, overall minimum and maximum**: the least sample of the min aggregate is the least
    non-NaN raw value, the greatest sample of the max aggregate the greatest -/
theorem C36_minmax (r : Int) (hr : 0 < r) (data : List Raw) (nc : Nat) (hnc : 0 < nc) (ok : RawIn data) :
    ∃ chunks, downsampleRaw data r nc = some chunks ∧
      ((chunks.flatMap (·.min)).map (·.2)).min? = ((dropNaN data).map (·.2)).min? ∧
      ((chunks.flatMap (·.max)).map (·.2)).max? = ((dropNaN data).map (·.2)).max? := by
  obtain ⟨chunks, hc, _, _, h3, h4⟩ := C36_values r hr data nc hnc ok
  refine ⟨chunks, hc, ?_, ?_⟩
  · apply min?_eq_of_foldl_all
    intro M
    have := foldl_groups min List.min? rfl (fun _ _ => List.min?_cons') (runs r (dropNaN data)) ((chunks.flatMap (·.min)).map (·.2)) M
      (by simpa [List.map_map, Function.comp_def] using h3)
    rw [this, runs_flatten]
  · apply max?_eq_of_foldl_all
    intro M
    have := foldl_groups max List.max? rfl (fun _ _ => List.max?_cons') (runs r (dropNaN data)) ((chunks.flatMap (·.max)).map (·.2)) M
      (by simpa [List.map_map, Function.comp_def] using h4)
    rw [this, runs_flatten]

/-- **C36, chunk layout**: `ChunkLayout` of every chunk, written out, and consecutive chunks do not
    overlap (`MaxTime` of a chunk < `MinTime` of every later one). -/
theorem C36_chunks_ordered (r : Int) (hr : 0 < r) (data : List Raw) (nc : Nat) (hnc : 0 < nc) (ok : RawIn data) :
    ∃ chunks, downsampleRaw data r nc = some chunks ∧
      (∀ c ∈ chunks, ∃ ts, c.count.map (·.1) = ts ∧ c.sum.map (·.1) = ts ∧ c.min.map (·.1) = ts ∧ c.max.map (·.1) = ts ∧
        ts.Pairwise (· < ·) ∧ ts.head? = some c.mint ∧ ts.getLast? = some c.maxt) ∧
      chunks.Pairwise (fun c1 c2 => c1.maxt < c2.mint) := by
  obtain ⟨chunks, hc, hlay, hs, _⟩ := downsampleRaw_series r hr data nc hnc ok
  rw [List.map_flatMap, List.pairwise_flatMap] at hs
  refine ⟨chunks, hc, fun c hcm => ?_, hs.2.imp_of_mem fun hc1 hc2 h => ?_⟩
  · have l := (hlay c hcm).1
    exact ⟨_, rfl, l.sumT, l.minT, l.maxT, l.sorted, l.first, l.last⟩
  · -- `maxt` is the last timestamp of a chunk, `mint` the first of a later one
    exact h _ (List.mem_of_getLast? (hlay _ hc1).1.last) _ (List.mem_of_mem_head? (hlay _ hc2).1.first)

/-- **C36, read-back**: reading the count (sum, min, max) aggregate of the produced chunks through
    the querier's chunk iterator returns exactly the concatenation of the sub-chunks — i.e. the
    window samples of `C36_windows`. -/
theorem C36_readback (r : Int) (hr : 0 < r) (data : List Raw) (nc : Nat) (hnc : 0 < nc) (ok : RawIn data) :
    ∃ chunks, downsampleRaw data r nc = some chunks ∧
      chunkSeriesIter (chunks.map (·.count)) = chunks.flatMap (·.count) ∧
      chunkSeriesIter (chunks.map (·.sum)) = chunks.flatMap (·.sum) ∧
      chunkSeriesIter (chunks.map (·.min)) = chunks.flatMap (·.min) ∧
      chunkSeriesIter (chunks.map (·.max)) = chunks.flatMap (·.max) := by
  obtain ⟨chunks, hc, hlay, hs, _⟩ := downsampleRaw_series r hr data nc hnc ok
  have rb := series_readback chunks (fun c hc => (hlay c hc).1.ne) hs
  exact ⟨chunks, hc, (rb _ fun _ _ => rfl).1, (rb _ fun c hc => (hlay c hc).1.sumT).1,
    (rb _ fun c hc => (hlay c hc).1.minT).1, (rb _ fun c hc => (hlay c hc).1.maxT).1⟩

/-- **C36, well-formedness of the result**: `WFChunks`, what re-downsampling (C38) asks of its input. -/
theorem C36_wellformed (r : Int) (hr : 0 < r) (data : List Raw) (nc : Nat) (hnc : 0 < nc) (ok : RawOK data) :
    ∃ chunks, downsampleRaw data r nc = some chunks ∧ WFChunks chunks := by
  obtain ⟨chunks, hc, hlay, hs, hspan⟩ := downsampleRaw_series r hr data nc hnc ok.toIn
  refine ⟨chunks, hc, fun c hc => ?_, hs, fun t ht => ?_⟩
  · obtain ⟨l, hmin, hmax⟩ := hlay c hc
    exact ⟨l.ne, l.sumT, l.minT, l.maxT, hmin, hmax⟩
  · obtain ⟨lo, hlo, hi, hhi, h1, h2⟩ := hspan t ht
    exact ⟨Int.le_trans (ok.nonneg _ hlo) h1, Int.lt_of_le_of_lt h2 (ok.bounded _ hhi)⟩

/-- **C36, read-back over any range.**  Reading the count (sum, min, max) aggregate through the
    querier's series bounded to `[mint, maxt]` (chunkSeriesIterator over ALL chunks of the series,
    wrapped by the bounded iterator) returns exactly the samples of the concatenated sub-chunks
    whose timestamp lies in `[mint, maxt]`, both ends inclusive.  Of `RawOK` the proof uses `RawIn` only. -/
theorem C36_readback_range (r : Int) (hr : 0 < r) (data : List Raw) (nc : Nat) (hnc : 0 < nc) (ok : RawOK data)
    (mint maxt : Int) :
    ∃ chunks, downsampleRaw data r nc = some chunks ∧
      boundedDrain mint maxt (chunkSeriesIter (chunks.map (·.count))) =
        (chunks.flatMap (·.count)).filter (fun p => mint ≤ p.1 ∧ p.1 ≤ maxt) ∧
      boundedDrain mint maxt (chunkSeriesIter (chunks.map (·.sum))) =
        (chunks.flatMap (·.sum)).filter (fun p => mint ≤ p.1 ∧ p.1 ≤ maxt) ∧
      boundedDrain mint maxt (chunkSeriesIter (chunks.map (·.min))) =
        (chunks.flatMap (·.min)).filter (fun p => mint ≤ p.1 ∧ p.1 ≤ maxt) ∧
      boundedDrain mint maxt (chunkSeriesIter (chunks.map (·.max))) =
        (chunks.flatMap (·.max)).filter (fun p => mint ≤ p.1 ∧ p.1 ≤ maxt) := by
  obtain ⟨chunks, hc, hlay, hs, _⟩ := downsampleRaw_series r hr data nc hnc ok.toIn
  have rb := series_readback chunks (fun c hc => (hlay c hc).1.ne) hs
  exact ⟨chunks, hc, (rb _ fun _ _ => rfl).2 mint maxt, (rb _ fun c hc => (hlay c hc).1.sumT).2 mint maxt,
    (rb _ fun c hc => (hlay c hc).1.minT).2 mint maxt, (rb _ fun c hc => (hlay c hc).1.maxT).2 mint maxt⟩

/-- Regenerated obligations about the querier's series: every loop of `chunkSeries.Iterator` that
    builds the per-chunk iterators ranges over all chunks of the series (no trimming: the model's
    `chunkSeriesIter` gets every chunk), and the result is wrapped by the bounded iterator with the
    series' `mint`, `maxt`. -/
theorem C36_querier_facts :
    Thanos.Facts.dsQuerierChunkLoops = ["range s.chunks", "range s.chunks", "range s.chunks", "range s.chunks",
      "range s.chunks", "range s.chunks"] ∧
    Thanos.Facts.dsQuerierBounded = ["dedup.NewBoundedSeriesIterator(sit, s.mint, s.maxt)",
      "dedup.NewBoundedSeriesIterator(sit, s.mint, s.maxt)"] :=
  ⟨rfl, rfl⟩

/-- int64: for timestamps and resolutions below 2^62 every intermediate value of `currentWindow`
    (and `lastT + 1` in the readers) stays inside int64, so the `Int` model and the Go code agree -/
theorem C36_no_overflow (t r : Int) (ht : 0 ≤ t) (ht' : t < 2 ^ 62) (hr : 0 < r) (hr' : r < 2 ^ 62) :
    0 ≤ t % r ∧ 0 ≤ t - t % r ∧ t - t % r + r ≤ maxInt64 ∧ 0 ≤ currentWindow t r ∧ currentWindow t r < maxInt64 ∧
      t + 1 ≤ maxInt64 := by
  have h1 := Int.emod_nonneg t (Int.ne_of_gt hr)
  have h2 := Int.emod_lt_of_pos t hr
  have h3 : t % r ≤ t := by
    have := Int.le_add_of_nonneg_right (a := t % r)
      (Int.mul_nonneg (Int.le_of_lt hr) (Int.ediv_nonneg ht (Int.le_of_lt hr)))
    rwa [Int.emod_add_mul_ediv] at this
  have hcw := currentWindow_eq (t := t) hr
  have hm := maxInt64_val
  omega

/-- the count total of C36 (`C36_totals` without Σ sum) for all strictly increasing int64 series, negative
    timestamps included -/
def C36_full : Prop :=
  ∀ (r : Int) (data : List Raw) (nc : Nat), 0 < r → 0 < nc → SortedRaw data →
    (∀ p ∈ data, minInt64 < p.1 ∧ p.1 < maxInt64) → (∀ p ∈ dropNaN data, Finite p.2) →
    ∃ chunks, downsampleRaw data r nc = some chunks ∧
      ((chunks.flatMap (·.count)).map (·.2)).sum = ((dropNaN data).length : Int)

/-- an instance of `C36_totals`; the window-level statements `C36_windows` … `C36_readback` admit negative
    timestamps as well (`RawIn`) -/
theorem C36_full_holds : C36_full := by
  intro r data nc hr hnc hs hb hf
  obtain ⟨chunks, hc, h1, _⟩ := C36_totals r hr data nc hnc ⟨hs, fun p hp => (hb p hp).1, fun p hp => (hb p hp).2, hf⟩
  exact ⟨chunks, hc, h1⟩

/-- F36: `currentWindow` with Go's truncating `%` (`currentWindowTrunc`) puts the timestamp −5 (resolution 50)
    into the window that ends at 49 — the window of the timestamp 3 — instead of the window [−50, −1]. -/
theorem C36_truncating_window_false :
    ¬ (∀ t r : Int, 0 < r → t ≤ currentWindowTrunc t r ∧ currentWindowTrunc t r < t + r) := by
  intro h
  have := (h (-5) 50 (by decide)).2
  revert this
  decide

-- the two samples at −5 and 3 are both counted, in their own windows
example : (downsampleRaw [(-5, some 7), (3, some 9)] 50 1).map (fun cs => cs.map (·.count)) =
    some [[(-1, 1), (3, 1)]] := rfl

/-- Regenerated obligations: the conditions and expressions of the source that the model
    transliterates (a change of any of them breaks this theorem at `lake build` time). -/
theorem C36_source_facts :
    Thanos.Facts.dsCurrentWindowRem = "t % r" ∧ Thanos.Facts.dsCurrentWindowConds = ["m < 0"] ∧
    Thanos.Facts.dsCurrentWindow = "t - m + r - 1" ∧
    Thanos.Facts.dsBatchNextTInit = "int64(math.MinInt64)" ∧
    Thanos.Facts.dsBatchConds = ["s.t > nextT", "nextT != math.MinInt64", "aggr.processedSamples() > 0"] ∧
    Thanos.Facts.dsBatchNextT = "min( currentWindow(s.t, resolution), lastT)" ∧
    Thanos.Facts.dsRawBatchSize = "(len(data) / numChunks) + 1" ∧
    Thanos.Facts.dsRawLoops = ["len(data) > 0", "j < len(data) && data[j].t <= curW", "range data[:j]"] ∧
    Thanos.Facts.dsRawCurW = "currentWindow(data[j-1].t, resolution)" ∧
    Thanos.Facts.dsAggregatorAddConds = ["a.total > 0", "s.v < a.last", "s.v < a.min", "s.v > a.max"] :=
  ⟨rfl, rfl, rfl, rfl, rfl, rfl, rfl, rfl, rfl, rfl⟩

/-- Regenerated obligations about the entry points, i.e. how the modelled functions are composed:
    DownsampleRaw hands `downsampleFloatBatch` itself to the loop and that function gives
    `downsampleBatch` a fresh `&floatAggregator{}` per batch (the model's `floatBatch` starts from
    `Agg.zero`); the block-level `Downsample()` calls DownsampleRaw for a raw series only when the
    chunk encoding changes and once after the loop over the series' chunks — never on a partial
    buffer (the model's `downsampleRaw` gets the whole series). -/
theorem C36_entry_facts :
    Thanos.Facts.dsRawBatchFn = ["downsampleHistogramBatch", "downsampleFloatBatch"] ∧
    Thanos.Facts.dsFloatBatchAggr = ["&floatAggregator{}"] ∧
    Thanos.Facts.dsFloatBatchCalls = ["newAggrChunkBuilder", "Append", "downsampleBatch", "Append", "encode"] ∧
    Thanos.Facts.dsDownsampleRawCalls =
      ["for postings.Next() > if origMeta.Thanos.Downsample.Resolution == 0 > for range chks > if cutNewChunk(c.Chunk.Encoding(), prevEnc)",
       "for postings.Next() > if origMeta.Thanos.Downsample.Resolution == 0",
       "for postings.Next() > else-of origMeta.Thanos.Downsample.Resolution == 0 > for range chks > else-of c.Chunk.NumSamples() == 0"] :=
  ⟨rfl, rfl, rfl, rfl⟩

-- non-vacuity: the batch of TestDownsampleCounterBoundaryReset's first chunk and a two-window batch
example : floatBatch [(10, 1), (20, 3), (30, 5)] 50 =
    some { mint := 30, maxt := 30, count := [(30, 3)], sum := [(30, 9)], min := [(30, 1)], max := [(30, 5)],
           counter := [(10, 1), (30, 5), (30, 5)] } := rfl
example : runs 50 [(10, 1), (20, 3), (60, 5), (70, 2)] = [(49, [(10, 1), (20, 3)]), (99, [(60, 5), (70, 2)])] := rfl
example : (floatBatch [(10, 1), (20, 3), (60, 5), (70, 2)] 50).map (·.sum) = some [(49, 4), (70, 7)] := rfl
example : Sorted [(10, 1), (20, 3), (60, 5), (70, 2)] := by unfold Sorted; decide
example : Finite 5 := by decide
-- the whole-series hypotheses are met by a series with a NaN, a window-end sample and a gap …
example : RawOK [(1, some 1), (2, none), (49, some 3), (50, some 2), (260, some 9)] := by
  refine ⟨by unfold SortedRaw; decide, by decide, by decide, by decide⟩
-- … on which two chunks are produced for numChunks = 2 (batch size 3, extended to the window end)
example : (downsampleRaw [(1, some 1), (2, none), (49, some 3), (50, some 2), (260, some 9)] 50 2).map
    (fun cs => cs.map (·.sum)) = some [[(49, 4)], [(99, 2), (260, 9)]] := rfl
example : batchesOf 50 2 [(1, some 1), (2, none), (49, some 3), (50, some 2), (260, some 9)] =
    [[(1, 1), (49, 3)], [(50, 2), (260, 9)]] := rfl

end Thanos.Downsample
