import Thanos.Model.Shipper
import Thanos.Lemmas.ShipperSync
import Thanos.Generated.Facts
/-
  C35 — The shipper uploads every eligible block completely, at least once.

  Model: Model/Shipper.lean (`Shipper.Sync` over the bucket model of C28).  For every set of
  local blocks (any number, levels, empty ones, any segment files), both settings of
  uploadCompacted / allowOutOfOrderUploads, every fault of every Sync — a crash budget (after k
  mutating bucket calls every call fails) and/or a transient failure (exactly the j-th bucket call
  fails, the others pass) — and every history of Syncs and losses of the shipper file:

   * `C35_record_sound`  the invariant `Sound`, "bucket consistent (C28) ∧ every id in thanos.shipper.json
                         is visible — hence complete — in the bucket", survives every Sync, crashed
                         anywhere; `C35_history` lifts it to all histories;
   * `C35_complete`      a Sync that returns nil leaves every eligible local block recorded and
                         complete in the bucket;
   * `C35_labels`        which label version such a block carries (`C35_labels_within`, `C35_labels_const`;
                         `history_labelsOK`);
   * `C35_progress_all`  after any history, a crash-free Sync over pairwise non-overlapping local
                         blocks (`NoOverlap`) returns nil, in every configuration (the overlap check included);
                         `C35_progress`: without the overlap check (`allowOutOfOrderUploads` or no
                         compacted uploads) from any state whatsoever, overlapping blocks or not.

  All are corollaries of Lemmas/ShipperSync: safety by `sync_preserves` (instances `LoopInv` for `Sound`, `KeysLocal`,
  `LblInv` for the labels), completeness by `sync_records`, progress by `sync_progress` with the overlap check switched
  off (`overlapCheck_off`) or passing (`overlapCheck_passes`, Lemmas/Shipper).
-/
namespace Thanos.Shipper
open Thanos.Bucket

/-- the state invariant; what is visible is complete by `Good.complete` -/
def Sound (locals : List LBlock) (st : State) : Prop :=
  Good (worldOf locals) st.bkt ∧ ∀ id ∈ st.file.getD [], Visible st.bkt id

theorem C35_record_sound {locals : List LBlock} (hl : LocalsOK locals) (cfg : Cfg) (k : Fault)
    (st : State) (h : Sound locals st) : Sound locals (sync cfg locals k st).st := by
  obtain ⟨u, hinv, ef | ef⟩ := sync_preserves (fun b hb => loopInv_closed hl cfg (st.file.getD []) hb) k
    ⟨h.1, fun _ hid => (nomatch hid), h.2⟩
  · exact ⟨hinv.good, by rw [ef]; exact hinv.has⟩
  · exact ⟨hinv.good, by rw [ef]; exact hinv.up⟩

/-- histories: Syncs under any fault (crash budget / transient failure), each with its own flags and
    external labels (`Cfg`), and losses of the shipper file, from scratch -/
inductive History (locals : List LBlock) : State → Prop where
  | init : History locals ⟨[], none, []⟩
  | sync (st cfg k) : History locals st → History locals (sync cfg locals k st).st
  | lostFile (st) : History locals st → History locals ⟨st.bkt, none, st.lbl⟩

theorem history_sound {locals : List LBlock} (hl : LocalsOK locals) {st : State}
    (h : History locals st) : Sound locals st := by
  induction h with
  | init => exact ⟨good_empty _, by simp⟩
  | sync st cfg k _ ih => exact C35_record_sound hl cfg k st ih
  | lostFile st _ ih => exact ⟨ih.1, by simp⟩

/-- **C35 (never records an incomplete block)**: in every state of every history, every block
    listed in thanos.shipper.json has its meta.json and all files it lists in the bucket. -/
theorem C35_history {locals : List LBlock} (hl : LocalsOK locals) {st : State}
    (h : History locals st) (id : Nat) (hid : id ∈ st.file.getD []) : Complete st.bkt id :=
  let hs := history_sound hl h
  hs.1.complete id (hs.2 id hid)

/-- **C35 (completeness)**, from any `Sound` state: whatever crashed before. -/
theorem C35_complete {locals : List LBlock} (hl : LocalsOK locals) (cfg : Cfg) (k : Fault)
    (st : State) (h : Sound locals st) (hok : (sync cfg locals k st).ok = true)
    (b : LBlock) (hb : b ∈ locals) (he : eligible cfg b = true) :
    b.id ∈ (sync cfg locals k st).st.file.getD [] ∧ Complete (sync cfg locals k st).st.bkt b.id := by
  -- recorded by the loop's accounts; what is recorded is visible, and what is visible is complete
  have hsound := C35_record_sound hl cfg k st h
  have hrec := sync_records hok hb he
  exact ⟨hrec, hsound.1.complete _ (hsound.2 _ hrec)⟩

/-- `lbl` stands for a field of meta.json: a state makes sense only if every visible block has an entry in it -/
def LabelsOK (st : State) : Prop := ∀ id, Visible st.bkt id → (lookupL st.lbl id).isSome = true

theorem labelsOK_sync {locals : List LBlock} (hl : LocalsOK locals) (cfg : Cfg) (k : Fault) (st : State)
    (h : LabelsOK st) : LabelsOK (sync cfg locals k st).st := by
  intro id hv
  rcases sync_lbl hl cfg k st id hv with ⟨hv0, e⟩ | ⟨n, _, e⟩
  · rw [e]; exact h id hv0
  · rw [e]; rfl

theorem history_labelsOK {locals : List LBlock} (hl : LocalsOK locals) {st : State} (h : History locals st) :
    LabelsOK st := by
  induction h with
  | init => intro id hv; simp [Visible, Bucket.get] at hv
  | sync st cfg k _ ih => exact labelsOK_sync hl cfg k st ih
  | lostFile st _ ih => exact ih

/-- `C35_labels` with the moment `n` of the callback value inside this Sync: not later than the calls the Sync
    made (`doUpload` reads `labelNow cfg n` when the block's upload begins, after `n` calls have reached the bucket) -/
theorem C35_labels_within {locals : List LBlock} (hl : LocalsOK locals) (cfg : Cfg) (k : Fault) (st : State)
    (hs : Sound locals st) (hlab : LabelsOK st) (hok : (sync cfg locals k st).ok = true)
    (b : LBlock) (hb : b ∈ locals) (he : eligible cfg b = true) :
    ∃ v, lookupL (sync cfg locals k st).st.lbl b.id = some v ∧
      ((Visible st.bkt b.id ∧ lookupL st.lbl b.id = some v) ∨
        ∃ n, n ≤ (sync cfg locals k st).trace.length ∧ v = labelNow cfg n) := by
  have hvis := (C35_record_sound hl cfg k st hs).2 b.id (sync_records hok hb he)
  rcases sync_lbl hl cfg k st b.id hvis with ⟨hv0, e⟩ | ⟨n, hn, e⟩
  · obtain ⟨v, hl0⟩ := Option.isSome_iff_exists.mp (hlab b.id hv0)
    exact ⟨v, e.trans hl0, Or.inl ⟨hv0, hl0⟩⟩
  · exact ⟨_, e, Or.inr ⟨n, hn, rfl⟩⟩

/-- **C35 (external labels)**: after a Sync that returned nil, every eligible local block is in the
    bucket with a label version `v` such that EITHER the block was already visible before this
    Sync and `v` is what its meta.json carried then (the shipper records it through the Exists
    check and never rewrites it), OR `v` is a value of THIS Sync's labels callback (`labelNow cfg n` for some `n`,
    which `C35_labels_within` bounds by the calls the Sync made) — never a value from an earlier Sync. -/
theorem C35_labels {locals : List LBlock} (hl : LocalsOK locals) (cfg : Cfg) (k : Fault) (st : State)
    (hs : Sound locals st) (hlab : LabelsOK st) (hok : (sync cfg locals k st).ok = true)
    (b : LBlock) (hb : b ∈ locals) (he : eligible cfg b = true) :
    ∃ v, lookupL (sync cfg locals k st).st.lbl b.id = some v ∧
      ((Visible st.bkt b.id ∧ lookupL st.lbl b.id = some v) ∨ ∃ n, v = labelNow cfg n) :=
  let ⟨v, hv, h⟩ := C35_labels_within hl cfg k st hs hlab hok b hb he
  ⟨v, hv, h.imp_right fun ⟨n, _, e⟩ => ⟨n, e⟩⟩

/-- with a constant callback value `v` during the Sync, a block that was not in the bucket before
    ends up with exactly `v` -/
theorem C35_labels_const {locals : List LBlock} (hl : LocalsOK locals) (cfg : Cfg) (hc : cfg.lswitch = none)
    (k : Fault) (st : State) (hs : Sound locals st) (hlab : LabelsOK st)
    (hok : (sync cfg locals k st).ok = true) (b : LBlock) (hb : b ∈ locals) (he : eligible cfg b = true)
    (hnew : ¬ Visible st.bkt b.id) : lookupL (sync cfg locals k st).st.lbl b.id = some cfg.lcur := by
  obtain ⟨v, hv, h | ⟨n, e⟩⟩ := C35_labels hl cfg k st hs hlab hok b hb he
  · exact absurd h.1 hnew
  · rw [hv, e]; simp [labelNow, hc]

/-- **C35 (progress)** in the configurations that never run the overlap check: from ANY state, so after any history
    of crashes and transient failures a fault-free Sync establishes `C35_complete`. -/
theorem C35_progress (cfg : Cfg) (hcfg : cfg.allowOOO = true ∨ cfg.uploadCompacted = false)
    (locals : List LBlock) (st : State) : (sync cfg locals Fault.none st).ok = true :=
  sync_progress (P := fun _ _ => True) trivial
    (fun _ _ a hf _ he => ⟨_, hf ▸ overlapCheck_off hcfg locals he a, trivial⟩)

theorem history_keys {locals : List LBlock} {st : State} (h : History locals st) :
    KeysLocal locals st.bkt := by
  induction h with
  | init => intro p hp; simp at hp
  | sync st cfg k _ ih => exact sync_keys cfg k st ih
  | lostFile st _ ih => exact ih

/-- Full-strength progress statement (every configuration, overlap check included). -/
def C35_progress_full : Prop :=
  ∀ (cfg : Cfg) (locals : List LBlock), NoOverlap locals →
    ∀ st, History locals st → (sync cfg locals Fault.none st).ok = true

/-- **C35 (progress, every configuration)**; by `C35_complete` the Sync then leaves every eligible block recorded and
    complete.  False without the repair of the overlap checker (`C35_wedge_before_repair`). -/
theorem C35_progress_all : C35_progress_full := by
  intro cfg locals hno st hist
  exact sync_progress (P := fun s c => KeysLocal locals s ∧ ∀ ms, c = some ms → LocalRanges locals ms)
    ⟨history_keys hist, nofun⟩
    (fun b hb a hf hP _ =>
      let ⟨c, e, hc⟩ := overlapCheck_passes hno cfg hb hf hP.1 hP.2
      -- `KeysLocal` reads the bucket only, so the two branches of `Closed.upload` say the same
      ⟨c, e, (ite_self _).mp ((keysLocal_closed cfg [] hb).upload (u := []) (l := []) (t := []) Fault.none hP.1), hc⟩)

-- ---------------------------------------------------------------- the defect that was repaired

/-- Without the repair (`skipPartial = false`) the overlap checker fails on the shipper's own partial upload: the
    Sync of block 14 (level 2) crashes after its first chunk, and on what it leaves the lazy sync of the checker has no
    answer (in the code every later Sync then aborts, "get all block meta … not found", and the block is never
    shipped).  With `skipPartial = true` the directory is skipped and the next fault-free Sync returns nil. -/
theorem C35_wedge_before_repair :
    let b : LBlock := ⟨14, 18000, 23000, 2, 19, ⟨[("chunks/000001", 72), ("chunks/000002", 99)], 298⟩⟩
    let s := (sync ⟨true, false, 1, none⟩ [b] ⟨some 1, none⟩ ⟨[], none, []⟩).st
    s.bkt ≠ [] ∧ s.file = none ∧
    checkerSyncWith false [b] s.bkt = none ∧ checkerSyncWith true [b] s.bkt = some [] ∧
    (sync ⟨true, false, 1, none⟩ [b] Fault.none s).ok = true := by decide +kernel

-- ---------------------------------------------------------------- regenerated facts

/-- `upload` asks the labels callback itself, every time; `Shipper` has no field that could hold a
    resolved copy; the overlap checker gets the callback too -/
theorem C35_fact_uploadLabels : Thanos.Facts.shipperUploadLabelsExpr = "lset := s.labels()" := rfl
theorem C35_fact_shipperFields : Thanos.Facts.shipperStructFields =
    ["logger", "dir", "metrics", "bucket", "source", "metadataFilePath", "uploadCompacted", "allowOutOfOrderUploads",
     "skipCorruptedBlocks", "hashFunc", "uploadConcurrency", "labels", "mtx"] := rfl
theorem C35_fact_checkerLabels :
    Thanos.Facts.shipperCheckerLabelsArg = "func() labels.Labels { return s.labels() }" := rfl

/-- the overlap checker skips a block directory whose meta.json does not exist -/
theorem C35_fact_checkerSkipsPartial :
    Thanos.Facts.shipperCheckerSkipsPartial =
      (if codeSkipPartial then "c.bucket.IsObjNotFoundErr(errors.Cause(err))" else "unknown") := rfl

/-- in `Sync`: the file is read first, per block Exists → overlap check → upload, file written after the loop -/
theorem C35_fact_syncOrder : Thanos.Facts.shipperSyncOrder =
    ["ReadMetaFile", "s.bucket.Exists", "checker.IsOverlapping", "s.upload", "WriteMetaFile"] := rfl
theorem C35_fact_uploadOrder : Thanos.Facts.shipperUploadOrder =
    ["hardlinkBlock", "meta.WriteToDir", "block.Upload"] := rfl
theorem C35_fact_blockUploadOrder : Thanos.Facts.uploadOrder = codeUploadOrder := rfl

-- ---------------------------------------------------------------- non-vacuity

def exLocals : List LBlock :=
  [⟨1, 0, 1000, 1, 10, ⟨[("chunks/000001", 12)], 40⟩⟩, ⟨2, 1000, 2000, 2, 10, ⟨[], 7⟩⟩, ⟨3, 2000, 3000, 1, 0, ⟨[], 7⟩⟩]

example : LocalsOK exLocals := by
  refine ⟨by decide, ?_⟩
  intro b hb
  simp only [exLocals, List.mem_cons, List.mem_nil_iff, or_false] at hb
  rcases hb with rfl | rfl | rfl <;> exact wfBlock_of_nodup _ (by decide) (by decide)

-- first Sync crashes after 2 of the 3 calls of block 1: nothing recorded, block 1 invisible;
-- the restart uploads both eligible blocks (block 3 is empty) and records them
example : (sync ⟨true, true, 1, none⟩ exLocals ⟨some 2, none⟩ ⟨[], none, []⟩).ok = false := by decide
example : (sync ⟨true, true, 1, none⟩ exLocals ⟨some 2, none⟩ ⟨[], none, []⟩).st.file = none := by decide
example : (sync ⟨true, true, 1, none⟩ exLocals Fault.none (sync ⟨true, true, 1, none⟩ exLocals ⟨some 2, none⟩ ⟨[], none, []⟩).st).st.file = some [1, 2] := by decide +kernel
example : (sync ⟨true, true, 1, none⟩ exLocals Fault.none (sync ⟨true, true, 1, none⟩ exLocals ⟨some 2, none⟩ ⟨[], none, []⟩).st).ok = true := by decide +kernel

-- the labels callback switches from version 1 to 7 after the 3 calls of block 1: block 1 carries 1, block 2 carries 7
example : (sync ⟨true, true, 1, some (3, 7)⟩ exLocals Fault.none ⟨[], none, []⟩).st.lbl = [(2, 7), (1, 1)] := by decide +kernel

-- a transient failure of the 2nd bucket call (the first chunk upload of block 1) with out-of-order uploads allowed:
-- the Sync goes on, ships block 2, WRITES the file without block 1 and reports an error; block 1 stays invisible
example : (sync ⟨true, true, 1, none⟩ exLocals ⟨none, some 1⟩ ⟨[], none, []⟩).ok = false := by decide
example : (sync ⟨true, true, 1, none⟩ exLocals ⟨none, some 1⟩ ⟨[], none, []⟩).st.file = some [2] := by decide
example : get (sync ⟨true, true, 1, none⟩ exLocals ⟨none, some 1⟩ ⟨[], none, []⟩).st.bkt (1, metaName) = none := by decide

end Thanos.Shipper
