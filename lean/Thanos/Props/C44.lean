import Thanos.Model.Sharding
import Thanos.Model.ShardEval
import Thanos.Lemmas.ShardFragment
import Thanos.Generated.Facts
/-
  C44 — Sharded query execution returns the unsharded result.

  The shard function partitions the series and is constant on series that agree on the sharding
  projection — for every hash function, shard count and label set.  The analyzer (`analyze`, a
  transliteration of `QueryAnalyzer.Analyze`) chooses the projection; for the fragment `FExpr`
  the per-shard results are a permutation of the unsharded result when the metric name is treated
  consistently (`C44_sound`), and not otherwise (`C44_fragment_full_false`, `…_by`).

  `C44_sound` is `C44_compat_sound` — evaluation commutes with taking a shard and invents no shard when
  no node changes the shard of a series (`Compat`; `eval_shard`, `sh_of_eval`, Lemmas/ShardEval) — at the
  stores' shard function: every expression the analyzer accepts is `Expr.OK` for its answer (`analyze_ok`,
  Lemmas/ShardAnalyze), and a well-formed fragment whose syntax is `OK` has `Compat` semantics (`bridge`,
  Lemmas/ShardFragment; together `compat_of_analyze`).
-/
namespace Thanos.Sharding

/-- with `total ≥ 1` shards, exactly one shard index accepts a series. -/
theorem shard_partition (hash : Labels → Nat) (total : Nat) (ht : 0 < total) (K : List String) (by_ : Bool)
    (ls : Labels) :
    ∃ i, i < total ∧ shardMatches hash total i K by_ ls = true ∧
      ∀ j, shardMatches hash total j K by_ ls = true → j = i :=
  ⟨_, Nat.mod_lt _ ht, beq_self_eq_true _, fun _ hj => (eq_of_beq hj).symm⟩

/-- the requests `shardQuery` builds cover exactly the indices `0 … n-1` -/
theorem shardIndices_spec (n i : Nat) : i ∈ shardIndices n ↔ i < n := by simp [shardIndices]

/-- every series is answered by exactly one of the `n` sharded requests -/
theorem C44_exactly_one (hash : Labels → Nat) (n : Nat) (hn : 0 < n) (K : List String) (by_ : Bool) (ls : Labels) :
    ((shardIndices n).filter fun i => shardMatches hash n i K by_ ls).length = 1 := by
  have h : (fun i => shardMatches hash n i K by_ ls) = (· == hash (projection K by_ ls) % n) :=
    funext fun _ => BEq.comm
  rw [h, ← List.count_eq_length_filter, shardIndices, List.count_range, if_pos (Nat.mod_lt _ hn)]

/-- the shard depends on the projection only -/
theorem shard_cong (hash : Labels → Nat) (total i : Nat) (K : List String) (by_ : Bool) (l1 l2 : Labels)
    (h : projection K by_ l1 = projection K by_ l2) :
    shardMatches hash total i K by_ l1 = shardMatches hash total i K by_ l2 := by
  simp [shardMatches, h]

theorem projection_by (K : List String) (ls : Labels) :
    projection K true ls = ls.filter fun l => K.contains l.1 := by
  simp [projection, shardByLabel_eq]

theorem projection_without (K : List String) (ls : Labels) :
    projection K false ls = ls.filter fun l => !K.contains l.1 := by
  simp [projection, shardByLabel_eq]

example : projection ["a"] true [("__name__", "m"), ("a", "1"), ("b", "x")] = [("a", "1")] := rfl
example : projection ["a"] false [("__name__", "m"), ("a", "1"), ("b", "x")] = [("__name__", "m"), ("b", "x")] := rfl
example : shardMatches (fun l => l.length + 4) 3 2 ["a"] true [("__name__", "m"), ("a", "1")] = true := by decide

/-! ### the analyzer on concrete queries (what it decides, incl. the nil / empty distinction) -/

private def up : Expr := .sel "up"

-- sum by (a) (up): shard by a
example : analyze (.agg "sum" .by_ ["a"] none up) = ⟨some ["a"], true⟩ := rfl
-- sum (up): empty non-nil label list — not shardable
example : isShardable (analyze (.agg "sum" .none [] none up)) = false := by decide
-- up + on() up: `on()` yields an empty non-nil list, which disables sharding for the whole query
example : isShardable (analyze (.bin "+" .on [] (.agg "sum" .by_ ["a"] none up) up)) = false := by decide
-- sum by (a, b) (x) / ignoring (b) sum by (a, b) (y): by a
example : analyze (.bin "/" .ignoring ["b"] (.agg "sum" .by_ ["a", "b"] none up) (.agg "sum" .by_ ["a", "b"] none up))
    = ⟨some ["a"], true⟩ := by decide +kernel
-- histogram_quantile(0.9, sum by (le, a) (x)): by a
example : analyze (.call "histogram_quantile" [.num "0.9", .agg "sum" .by_ ["le", "a"] none up]) = ⟨some ["a"], true⟩ := by decide +kernel
-- absent(...) / scalar(...): never sharded
example : analyze (.agg "sum" .by_ ["a"] none (.call "absent" [up])) = nonShardable := by decide +kernel
-- label_replace target removed from the by labels
example : isShardable (analyze (.agg "sum" .by_ ["dst"] none (.call "label_replace" [up, .str "dst", .str "$1", .str "a", .str "(.*)"]))) = false := by
  decide +kernel
-- vector op scalar has no vector matching
example : analyze (.bin "*" .none [] (.agg "sum" .by_ ["a"] none up) (.num "2")) = ⟨some ["a"], true⟩ := rfl
-- F44a: `sum without (a) (…)` shards on every label except `a` — the metric name included
example : analyze (.agg "sum" .without ["a"] none (.sel "{__name__=~\"m0|m1\"}")) = ⟨some ["a"], false⟩ := rfl

-- count_values writes its own label: dynamic in the repaired analyzer (`analyze`), a sharding label in the one as found (`analyzeWith false`)
example : isShardable (analyze (.agg "count_values" .by_ ["a"] (some (.str "a")) (.sel "m0"))) = false := by decide
example : analyzeWith false (.agg "count_values" .by_ ["a"] (some (.str "a")) (.sel "m0")) = ⟨some ["a"], true⟩ := rfl
example : analyze (.agg "count_values" .by_ ["a", "b"] (some (.str "a")) (.sel "m0")) = ⟨some ["b"], true⟩ := by decide +kernel

/-! ### sharded evaluation of the fragment equals unsharded evaluation

  Fragment (`FExpr`, Lemmas/ShardFragment.lean, a constructor per kind of node): selectors, pointwise
  functions, `by` / `without` aggregations with ANY operator, one-to-one and many-to-one vector
  matching, `histogram_quantile`, `label_replace` / `label_join`, range functions, functions over
  subqueries, selecting aggregations (`topk` …) and `count_values`, nested to any depth.
  `FExpr.toExpr` is what the analyzer sees, `FExpr.toV` what the engine computes (spec-level
  semantics at one timestamp, `eval`). -/

/-- abstract form: if no node changes the shard of a series, evaluating on each shard and
    concatenating is a permutation of evaluating once, and (second part) a series label set comes
    out of one shard only — so `MergeResponse`, which merges by label set, is a plain union. -/
theorem C44_compat_sound (sh : Labels → Nat) (e : VExpr) (hc : Compat sh e) (S : TVec) (t : Int) (n : Nat)
    (hn : ∀ t' s, s ∈ S t' → sh s.1 < n) :
    ((shardIndices n).flatMap fun i => eval e (shardOfT sh i S) t).Perm (eval e S t) ∧
    ∀ i j x y, x ∈ eval e (shardOfT sh i S) t → y ∈ eval e (shardOfT sh j S) t → x.1 = y.1 → i = j := by
  constructor
  · simp only [eval_shard sh _ e hc]
    -- the shards below `n` hold every output series, since they hold every input series (`sh_of_eval`)
    exact (perm_shards sh (eval e S t) n).trans (.of_eq (List.filter_eq_self.mpr fun _ hx =>
      decide_eq_true (sh_of_eval hc (P := (· < n)) hn hx)))
  · intro i j x y hx hy hxy
    rw [eval_shard sh _ e hc] at hx hy
    rw [← of_decide_eq_true (List.mem_filter.mp hx).2, ← of_decide_eq_true (List.mem_filter.mp hy).2, hxy]

/-- what the stores hand to shard `i` of `total` at every timestamp -/
def shardInput (hash : Labels → Nat) (total i : Nat) (K : List String) (by_ : Bool) (S : TVec) : TVec :=
  fun t => (S t).filter fun s => shardMatches hash total i K by_ s.1

/-- C44 for the fragment at full strength: whatever labels the analyzer chooses. -/
def C44_fragment_full : Prop :=
  ∀ (hash : Labels → Nat) (total : Nat) (e : FExpr) (K : List String) (by_ : Bool) (S : TVec) (t : Int),
    0 < total → e.WF → analyze e.toExpr = ⟨some K, by_⟩ → K ≠ [] →
    ((shardIndices total).flatMap fun i => eval e.toV (shardInput hash total i K by_ S) t).Perm (eval e.toV S t)

/-- **C44_sound** (fragment): when the analyzer shards a well-formed fragment query (`FExpr.WF`)
    by `K` and the metric name is treated consistently (`NameSafe`: not among `by` labels, among
    `without` labels), then for every hash function, shard count ≥ 1, time-indexed series set,
    evaluation timestamp, aggregation operators and nesting depth the concatenation of the
    per-shard results is a permutation of the unsharded result, and no label set is produced by
    two shards. -/
theorem C44_sound (hash : Labels → Nat) (total : Nat) (e : FExpr) (K : List String) (by_ : Bool) (S : TVec) (t : Int)
    (ht : 0 < total) (hwf : e.WF) (ha : analyze e.toExpr = ⟨some K, by_⟩) (hname : NameSafe K by_) :
    ((shardIndices total).flatMap fun i => eval e.toV (shardInput hash total i K by_ S) t).Perm (eval e.toV S t) ∧
    ∀ i j x y, x ∈ eval e.toV (shardInput hash total i K by_ S) t →
      y ∈ eval e.toV (shardInput hash total j K by_ S) t → x.1 = y.1 → i = j := by
  have hshard : ∀ i, shardInput hash total i K by_ S = shardOfT (shReal hash total K by_) i S := fun i =>
    funext fun t' => List.filter_congr fun s _ => Bool.beq_eq_decide_eq ..
  simp only [hshard]
  exact C44_compat_sound _ _ (compat_of_analyze hwf ha hname) S t total fun _ s _ => Nat.mod_lt _ ht

/-- `sum without (a) (sel)` over the two series m0{a="1"} = 1 and m1{a="2"} = 2 -/
private def wq : FExpr := .aggWithout "sum" ["a"] List.sum (.sel "{__name__=~\"m0|m1\"}" fun _ => true)
private def wS : Vec := [([("__name__", "m0"), ("a", "1")], 1), ([("__name__", "m1"), ("a", "2")], 2)]
private def wHash : Labels → Nat := fun l => if l = [("__name__", "m0")] then 0 else 1

/-- F44a: without `NameSafe` the statement is false — the analyzer shards
    `sum without (a) ({__name__=~"m0|m1"})` on every label but `a`, the metric name included, so
    the two series of the single group `{}` may be sent to different shards: two partial sums
    `{} = 1`, `{} = 2` instead of `{} = 3`. -/
theorem C44_fragment_full_false : ¬ C44_fragment_full := by
  intro h
  have := (h wHash 2 wq ["a"] false (fun _ => wS) 0 (by decide) (by simp [wq, FExpr.WF]) (by decide +kernel) (by decide)).length_eq
  revert this
  decide +kernel

private def bq : FExpr := .aggBy "sum" ["__name__", "a"] List.sum (.fn "abs" true some (.sel "{__name__=~\"m0|m1\"}" fun _ => true))
private def bS : Vec := [([("__name__", "m0"), ("a", "1")], 1), ([("__name__", "m1"), ("a", "1")], 2)]
private def bHash : Labels → Nat := fun l => if l = [("__name__", "m0"), ("a", "1")] then 0 else 1

/-- … and in `by` mode: `sum by (__name__, a) (abs (sel))` — `abs` drops the metric name, the
    analyzer still shards by it -/
theorem C44_fragment_full_false_by :
    analyze bq.toExpr = ⟨some ["__name__", "a"], true⟩ ∧
    ¬ ((shardIndices 2).flatMap fun i => eval bq.toV (shardInput bHash 2 i ["__name__", "a"] true fun _ => bS) 0).Perm
      (eval bq.toV (fun _ => bS) 0) := by
  refine ⟨by decide +kernel, fun h => ?_⟩
  have := h.length_eq
  revert this
  decide +kernel

private def cq : FExpr := .aggBy "sum" ["a"] List.sum (.countValues false [] "a" (.sel "m0" fun _ => true))
private def cS : Vec := [([("__name__", "m0"), ("a", "1")], 5), ([("__name__", "m0"), ("a", "2")], 5)]
private def cHash : Labels → Nat := fun l => if l = [("a", "1")] then 0 else 1

/-- F44b: the `count_values` fix (`eaea30e3e`) is necessary — with the analyzer as found
    (`analyzeWith false`: the label written by `count_values` is not treated as dynamic),
    `sum by (a) (count_values without () ("a", m0))` is sharded by `a` although `count_values`
    overwrites `a`: two series with the same value land in different shards and the outer sum
    comes out as two partial results `{a="5"} = 1` instead of `{a="5"} = 2`. -/
theorem C44_countValues_unfixed_false :
    analyzeWith false cq.toExpr = ⟨some ["a"], true⟩ ∧ NameSafe ["a"] true ∧
    isShardable (analyze cq.toExpr) = false ∧
    ¬ ((shardIndices 2).flatMap fun i => eval cq.toV (shardInput cHash 2 i ["a"] true fun _ => cS) 0).Perm
      (eval cq.toV (fun _ => cS) 0) := by
  refine ⟨by decide +kernel, by simp [NameSafe], by decide +kernel, fun h => ?_⟩
  have := h.length_eq
  revert this
  decide +kernel

-- non-vacuity of C44_sound: a nested by-aggregation that the analyzer shards by `a`
example : analyze (FExpr.aggBy "max" ["a"] (fun _ => 0) (.fn "abs" true some (.aggBy "sum" ["a", "b"] List.sum (.sel "m0" fun _ => true)))).toExpr
    = ⟨some ["a"], true⟩ := by decide +kernel
example : NameSafe ["a"] true := by simp [NameSafe]
-- vector matching: sum by (a) (m0) / on (a) sum by (a, b) (m1) is sharded by a; m0 + ignoring (b) m1 without b and the name
example : analyze (FExpr.bin "/" true ["a"] true (fun x y => y.map (x + ·))
      (.aggBy "sum" ["a"] List.sum (.sel "m0" fun _ => true)) (.aggBy "sum" ["a", "b"] List.sum (.sel "m1" fun _ => true))).toExpr
    = ⟨some ["a"], true⟩ := rfl
example : analyze (FExpr.bin "+" false ["b"] true (fun x y => y.map (x + ·)) (.sel "m0" fun _ => true) (.sel "m1" fun _ => true)).toExpr
    = ⟨some ["b", "__name__"], false⟩ := rfl
example : NameSafe ["b", "__name__"] false := by simp [NameSafe]
-- histogram_quantile(0.9, sum by (le, a) (…)) is sharded by a; label_replace's target is taken out of the by labels
example : analyze (FExpr.histQ "0.9" (fun _ => 0) (.aggBy "sum" ["le", "a"] List.sum (.sel "h_bucket" fun _ => true))).toExpr
    = ⟨some ["a"], true⟩ := by decide +kernel
example : analyze (FExpr.aggBy "sum" ["a", "dst"] List.sum
      (.labelFn "label_replace" "dst" ["$1", "a", "(.*)"] (fun _ => some "x") (.sel "m0" fun _ => true))).toExpr
    = ⟨some ["a"], true⟩ := by decide +kernel
-- many-to-one: m0 * on (a) group_left (pod) m1 is sharded by a
example : analyze (FExpr.binMany "*" true ["a"] ["pod"] true (fun x y => some (x * y)) (.sel "m0" fun _ => true) (.sel "m1" fun _ => true)).toExpr
    = ⟨some ["a"], true⟩ := rfl
-- max_over_time((sum by (a) (rate(m0[1m])))[10m:1m]) is sharded by a
example : analyze (FExpr.subq "max_over_time" "10m:1m" true (fun t => [t - 60, t]) (fun _ => 0)
      (.aggBy "sum" ["a"] List.sum (.rangeFn "rate" "m0" "1m" (fun _ => true) true (fun t => [t - 60, t]) (fun _ => 0)))).toExpr
    = ⟨some ["a"], true⟩ := by decide +kernel
-- topk by (a) (2, m0) and count_values by (a) ("v", m0) are sharded by a
example : analyze (FExpr.aggSel "topk" true ["a"] "2" (fun _ _ => true) (.sel "m0" fun _ => true)).toExpr
    = ⟨some ["a"], true⟩ := rfl
example : analyze (FExpr.countValues true ["a"] "v" (.sel "m0" fun _ => true)).toExpr = ⟨some ["a"], true⟩ := by decide +kernel
-- sum by (a, v) (count_values by (a, b) ("v", m0)): the written label `v` is not hashed
example : analyze (FExpr.aggBy "sum" ["a", "v"] List.sum (.countValues true ["a", "b"] "v" (.sel "m0" fun _ => true))).toExpr
    = ⟨some ["a"], true⟩ := by decide +kernel
-- … and a without-query made safe by an explicit `__name__`
example : analyze (FExpr.aggWithout "sum" ["a", "__name__"] List.sum (.sel "m0" fun _ => true)).toExpr = ⟨some ["a", "__name__"], false⟩ := rfl
example : NameSafe ["a", "__name__"] false := by simp [NameSafe]

/-- the analyzer's callback (incl. the count_values case of the repair), scopeToLabels and
    IsShardable read as transliterated -/
theorem C44_fact_analyzer :
    Thanos.Facts.analyzeBody =
      ["expr, err := extpromql.ParseExpr(query)",
       "if err != nil {",
       "return nonShardableQuery(), err",
       "}",
       "var ( analysis QueryAnalysis dynamicLabels []string )",
       "isShardable := true",
       "parser.Inspect(expr, func(node parser.Node, nodes []parser.Node) error { switch n := node.(type) { case *parser.Call: if n.Func != nil { switch n.Func.Name { case \"label_join\", \"label_replace\": dstLabel := stringFromArg(n.Args[1]) dynamicLabels = append(dynamicLabels, dstLabel) case \"absent_over_time\", \"absent\", \"scalar\": isShardable = false return errNotShardable case \"histogram_quantile\": analysis = analysis.scopeToLabels([]string{\"le\"}, false) } } case *parser.BinaryExpr: if n.VectorMatching != nil { shardingLabels := n.VectorMatching.MatchingLabels if !n.VectorMatching.On { shardingLabels = append(shardingLabels, model.MetricNameLabel) } analysis = analysis.scopeToLabels(shardingLabels, n.VectorMatching.On) } case *parser.AggregateExpr: shardingLabels := make([]string, 0) if len(n.Grouping) > 0 { shardingLabels = n.Grouping } analysis = analysis.scopeToLabels(shardingLabels, !n.Without) if n.Op == parser.COUNT_VALUES { dynamicLabels = append(dynamicLabels, stringFromArg(n.Param)) } } return nil })",
       "if !isShardable {",
       "return nonShardableQuery(), nil",
       "}",
       "if len(dynamicLabels) > 0 {",
       "analysis = analysis.scopeToLabels(dynamicLabels, false)",
       "}",
       "return analysis, nil"] ∧
    Thanos.Facts.scopeToLabelsBody =
      ["if q.shardingLabels == nil {",
       "return QueryAnalysis{ shardBy: by, shardingLabels: labels, }",
       "}",
       "if q.shardBy && by {",
       "return QueryAnalysis{ shardBy: true, shardingLabels: intersect(q.shardingLabels, labels), }",
       "}",
       "if !q.shardBy && !by {",
       "return QueryAnalysis{ shardBy: false, shardingLabels: union(q.shardingLabels, labels), }",
       "}",
       "labelsBy, labelsWithout := q.shardingLabels, labels",
       "if !q.shardBy {",
       "labelsBy, labelsWithout = labelsWithout, labelsBy",
       "}",
       "return QueryAnalysis{ shardBy: true, shardingLabels: without(labelsBy, labelsWithout), }"] ∧
    Thanos.Facts.isShardableBody =
      ["return len(q.shardingLabels) > 0"] :=
  ⟨rfl, rfl, rfl⟩

theorem C44_fact_matcher :
    Thanos.Facts.matchesZLabelsBody =
      ["if s == nil || !s.isSharded {",
       "return true",
       "}",
       "*s.buf = (*s.buf)[:0]",
       "for _, lbl := range zLabels {",
       "if shardByLabel(s.shardingLabelset, lbl, s.by) {",
       "*s.buf = append(*s.buf, lbl.Name...)",
       "*s.buf = append(*s.buf, sep[0])",
       "*s.buf = append(*s.buf, lbl.Value...)",
       "*s.buf = append(*s.buf, sep[0])",
       "}",
       "}",
       "hash := xxhash.Sum64(*s.buf)",
       "return hash%uint64(s.totalShards) == uint64(s.shardIndex)"] ∧
    Thanos.Facts.shardByLabelBody =
      ["_, shardHasLabel := labelSet[zlabel.Name]",
       "if groupingBy && shardHasLabel {",
       "return true",
       "}",
       "groupingWithout := !groupingBy",
       "if groupingWithout && !shardHasLabel {",
       "return true",
       "}",
       "return false"] ∧
    Thanos.Facts.shardQueryBody =
      ["tr, ok := r.(ShardedRequest)",
       "if !ok {",
       "return []queryrange.Request{r}",
       "}",
       "reqs := make([]queryrange.Request, s.numShards)",
       "for i := 0; i < s.numShards; i++ {",
       "reqs[i] = tr.WithShardInfo(&storepb.ShardInfo{ TotalShards: int64(s.numShards), ShardIndex: int64(i), By: analysis.ShardBy(), Labels: analysis.ShardingLabels(), })",
       "}",
       "return reqs"] :=
  ⟨rfl, rfl, rfl⟩

end Thanos.Sharding
