import Thanos.Model.IndexHeader
import Thanos.Lemmas.IndexHeader
import Thanos.Lemmas.IndexLookup
import Thanos.Lemmas.IndexMeta
import Thanos.Generated.Facts
/-
  C11 — Binary index-header answers equal the full index.

  The postings offset table of one label name is a strictly increasing list of (value, posting
  offset); label values are compared through their ranks (the harness supplies them), so the
  theorems hold for every table, of any size.  `C11_lookup` is the sampled multi-value lookup, at every
  sampling rate; the other theorems take the header's remaining answers in turn: `LabelValues`, `LabelNames`,
  `LookupSymbol` through its caches, the index-format-v1 branch (`C11_v1_*`) and the skip length of
  `skipNAndName` (`C11_skip_*`), the last two with the wrong variant they rule out; then the regenerated facts.
-/
namespace Thanos.IndexHeader

/-- `n ≥ 1` is what the code requires of the sampling rate; no proof below reads it (`sample_sampling` holds of every `n`) -/
def C11_lookup_full : Prop :=
  ∀ (n : Nat) (tbl : List (Nat × Nat)) (lastValOffset : Int) (values : List Nat),
    n ≥ 1 → tbl ≠ [] → StrictlyIncreasing tbl → Sorted values →
    lookup (sample n tbl) tbl lastValOffset values = .ok (specLookup tbl lastValOffset values)

/-- what `init` keeps in memory of a label name's table: the entries at the multiples of the
    sampling rate, and the last one — each with its position in the table -/
theorem C11_sample_spec (n : Nat) (tbl : List (Nat × Nat)) :
    sample n tbl =
      tbl.zipIdx.filterMap fun ek => if keptAt n tbl.length ek.2 then some (ek.1.1, ek.2) else none :=
  sample_eq n tbl

/-- not used below: `lookup` on an empty request, whatever is kept in memory -/
theorem lookup_nil (offs : List Sampled) (tbl : List (Nat × Nat)) (l : Int) :
    lookup offs tbl l [] = .ok [] := rfl

/-- **C11, the multi-value lookup.**  For every sampling rate `n ≥ 1`, every non-empty (strictly
    increasing) postings offset table of a label name, of any size, and every sorted list of
    requested values
    — duplicates, values that do not exist, values before the first and after the last — the
    index-header's `postingsOffset` returns exactly the locations the full table gives, in order,
    with `NotFoundRange` for the missing ones, and never fails. -/
theorem C11_lookup : C11_lookup_full :=
  fun n tbl lastValOffset _ _ hne hinc hsorted =>
    lookup_of_sampling (sample_sampling n tbl) hne (strictlyIncreasing_iff.mp hinc) lastValOffset (sorted_iff.mp hsorted)

-- non-vacuity: a table and a value list that meet the hypotheses of C11_lookup; then the theorem's
-- conclusion written out for that table at sampling 4 and a value list with a duplicate and absent
-- values before, between and after the table values (early i++ to the last sampled entry included)
example : StrictlyIncreasing [(1, 100), (2, 200), (4, 300), (6, 400), (8, 500)] ∧ Sorted [0, 1, 2, 2, 6, 8, 9] := by
  simp [StrictlyIncreasing, Sorted]
example : lookup (sample 4 [(1, 100), (2, 200), (4, 300), (6, 400), (8, 500)])
    [(1, 100), (2, 200), (4, 300), (6, 400), (8, 500)] 996 [0, 5, 6, 8, 8, 9] =
    .ok [notFound, notFound, ⟨404, 496⟩, ⟨504, 996⟩, ⟨504, 996⟩, notFound] := by rfl

-- small-scope instances (tests, not the claim)
example : lookup (sample 2 [(0, 100), (2, 200), (4, 300), (6, 400), (8, 500)])
    [(0, 100), (2, 200), (4, 300), (6, 400), (8, 500)] 996 [0, 1, 2, 2, 6, 8, 9] =
    .ok (specLookup [(0, 100), (2, 200), (4, 300), (6, 400), (8, 500)] 996 [0, 1, 2, 2, 6, 8, 9]) := by
  rfl
example : sample 3 [(0, 100), (2, 200), (4, 300), (6, 400), (8, 500)] = [(0, 0), (6, 3), (8, 4)] := by rfl
example : sample 2 [(0, 100), (2, 200), (4, 300), (6, 400), (8, 500)] = [(0, 0), (4, 2), (8, 4)] := by rfl

/-- LabelValues returns every value of the label name, in table order, for every sampling rate (`hn` is not read,
    as in `C11_lookup_full`) -/
theorem C11_labelValues_all (n : Nat) (hn : n ≥ 1) (tbl : List (Nat × Nat)) (hne : tbl ≠ [])
    (hs : StrictlyIncreasing tbl) : labelValues (sample n tbl) tbl = .ok (tbl.map (·.1)) :=
  labelValues_of_sampling (sample_sampling n tbl) hne (strictlyIncreasing_iff.mp hs)

/-- LabelNames: the keys of the postings map — for a table whose names come in non-decreasing order
    (format v2 groups and sorts them; for v1 the reader sorts the keys) exactly the distinct names of
    the table except the name of the all-postings key, each once, in increasing order. -/
theorem C11_labelNames (emptyName : Option Nat) (names : List Nat) (h : names.Pairwise (· ≤ ·)) :
    (labelNames emptyName names).Pairwise (· < ·) ∧
    ∀ x, x ∈ labelNames emptyName names ↔ x ∈ names ∧ some x ≠ emptyName :=
  ⟨labelNames_strict emptyName names h, mem_labelNames emptyName names⟩

/-- LookupSymbol: any sequence of lookups, through the map of label-name symbols and the
    direct-mapped cache of value symbols (any number of slots, collisions, overwritten slots,
    the empty symbol that never counts as cached), answers what the symbol table answers — for a
    v1 index at the shifted reference. -/
theorem C11_lookupSymbols (table : Nat → Option (List Nat)) (names : List (Nat × List Nat))
    (size shift : Nat) (hn : NamesOK table names) (refs : List Nat) :
    lookupSymbols table names size shift refs [] =
      refs.map fun o => table ((o + shift) % 4294967296) :=
  lookupSymbols_ok table names size shift hn refs [] (cacheOK_nil table)

/-- the same from any reachable cache state (the invariant is preserved by every lookup) -/
theorem C11_lookupSymbol_step (table : Nat → Option (List Nat)) (names : List (Nat × List Nat))
    (size shift o : Nat) (c : SymCache) (hn : NamesOK table names) (hc : CacheOK table c) :
    (lookupSymbol table names size shift o c).1 = table ((o + shift) % 4294967296) ∧
    CacheOK table (lookupSymbol table names size shift o c).2 :=
  lookupSymbol_ok table names size shift o c hn hc

/-- the hit test needs the reference: a cache that compared the slot only would answer a
    colliding reference with the wrong symbol (two references 1024 apart) -/
example : lookupSymbols (fun o => if o = 1 then some [97] else if o = 1025 then some [98] else none)
    [] 1024 0 [1, 1025, 1, 1025, 7] [] = [some [97], some [98], some [97], some [98], none] := by rfl

/-- index format v1, multi-value lookup: one answer per requested value, in order — the stored
    range of the pair, or NotFoundRange. -/
theorem C11_v1_lookup (e lastEnd : Nat) (tbl : List EntryV1) (name : Nat) (values : List Nat)
    (hk : (tbl.any fun x => x.1 = name) = true) :
    lookupV1 false e lastEnd tbl name values =
      values.map (fun v => ((rangesV1 e lastEnd tbl).reverse.lookup (name, v)).getD notFound) ∧
    (lookupV1 false e lastEnd tbl name values).length = values.length := by
  have h : lookupV1 false e lastEnd tbl name values =
      values.map (fun v => ((rangesV1 e lastEnd tbl).reverse.lookup (name, v)).getD notFound) := by
    unfold lookupV1; simp [hk]
  exact ⟨h, h ▸ List.length_map _⟩

/-- … where the stored range of the i-th entry starts 4 bytes after its offset and ends 4 bytes
    before the next entry's offset; the last entry's ends 4 bytes before the end of the section and
    is missing altogether if its name is "" -/
theorem C11_v1_ranges (e lastEnd : Nat) (tbl : List EntryV1) :
    (∀ i a b, tbl[i]? = some a → tbl[i + 1]? = some b →
      (rangesV1 e lastEnd tbl)[i]? = some ((a.1, a.2.1), ⟨(a.2.2 : Int) + 4, (b.2.2 : Int) - 4⟩)) ∧
    (∀ a, tbl.getLast? = some a → (rangesV1 e lastEnd tbl)[tbl.length - 1]? =
      if a.1 = e then none else some ((a.1, a.2.1), ⟨(a.2.2 : Int) + 4, (lastEnd : Int) - 4⟩)) :=
  ⟨fun i a b ha hb => rangesV1_inner e lastEnd tbl i a b ha hb,
   fun a ha => rangesV1_last e lastEnd tbl a ha⟩

/-- a v1 branch that skips a missing value (`continue`) is wrong: the answer is shorter than the
    request, so positions no longer correspond … -/
theorem C11_v1_omit_false :
    ∃ (e lastEnd : Nat) (tbl : List EntryV1) (name : Nat) (values : List Nat),
      (tbl.any fun x => x.1 = name) = true ∧
      (lookupV1 true e lastEnd tbl name values).length ≠ values.length :=
  ⟨0, 1000, [(1, 5, 100), (1, 7, 200)], 1, [5, 6, 7], rfl, by decide⟩

/-- … and right exactly as far as every requested value exists -/
theorem C11_v1_omit_partial (e lastEnd : Nat) (tbl : List EntryV1) (name : Nat) (values : List Nat)
    (hall : ∀ v ∈ values, ((rangesV1 e lastEnd tbl).reverse.lookup (name, v)).isSome) :
    lookupV1 true e lastEnd tbl name values = lookupV1 false e lastEnd tbl name values := by
  unfold lookupV1
  split
  · rfl
  · -- every value is found: skipping the missing ones and answering `notFound` for them are the same
    rw [if_pos rfl, if_neg Bool.false_ne_true, ← List.filterMap_eq_map]
    exact filterMap_congr fun v hv =>
      (Option.getD_of_ne_none (Option.isSome_iff_ne_none.mp (hall v hv)) _).symm

example : lookupV1 false 0 1000 [(1, 5, 100), (0, 0, 200), (1, 7, 300)] 1 [5, 6, 7] =
    [⟨104, 196⟩, notFound, ⟨304, 996⟩] := by rfl
example : lookupV1 false 0 1000 [(1, 5, 100), (0, 0, 200)] 0 [0] = [notFound] := by decide
example : labelNames (some 0) [0, 1, 1, 1, 3, 3] = [1, 3] := by decide

/-- `skipNAndName` as it is: the length is measured on the first entry visited (whatever the length
    of the label name — one, two or three bytes of length prefix) and reused for every further entry
    of the same label name; both times the decoder stands exactly on the label value. -/
theorem C11_skip_measured (name v1 v2 : List Nat) (o1 o2 : Nat) (rest1 rest2 : List Nat)
    (hn : name.length < 2 ^ 64) :
    (skipNAndName (entryBytes name v1 o1 ++ rest1) 0).1 =
      Thanos.Uvarint.uvarint v1.length ++ v1 ++ Thanos.Uvarint.uvarint o1 ++ rest1 ∧
    (skipNAndName (entryBytes name v2 o2 ++ rest2) (skipNAndName (entryBytes name v1 o1 ++ rest1) 0).2).1 =
      Thanos.Uvarint.uvarint v2.length ++ v2 ++ Thanos.Uvarint.uvarint o2 ++ rest2 := by
  rw [skip_measure name v1 o1 rest1 hn]
  exact ⟨rfl, by rw [skip_again]⟩

/-- a skip length computed upfront as `1 + 1 + len(name)` is the measured one exactly for label
    names shorter than 128 bytes -/
theorem C11_skip_upfront_iff (name : List Nat) : nameSkipLen name = 1 + 1 + name.length ↔ name.length < 128 := by
  unfold nameSkipLen
  rw [← Uvarint.uvarint_length_one_iff]
  omega

/-- … so it is wrong: with a label name of 128 bytes (two bytes of length prefix) the decoder stands
    one byte before the label value, on the name's last byte -/
theorem C11_skip_upfront_false :
    ∃ name : List Nat, nameSkipLen name ≠ 1 + 1 + name.length :=
  ⟨List.replicate 128 97, by
    intro h
    have := (C11_skip_upfront_iff (List.replicate 128 97)).mp h
    simp at this⟩

example : (skipNAndName (entryBytes [97, 98] [120] 300 ++ [7]) 0) = ([1, 120, 172, 2, 7], 4) := by rfl

/-- regenerated fact: the skip length starts as 0 in `postingsOffset` and `skipNAndName` measures it
    from the decoder (`d.Len()` before and after decoding), it is not computed from the name -/
theorem C11_skip_fact :
    Thanos.Facts.skipNAndNameStmts =
      ["if:*buf == 0 {", "*buf = d.Len()", "d.Uvarint()", "d.UvarintBytes()", "*buf -= d.Len()",
       "return", "}", "d.Skip(*buf)"] ∧
    Thanos.Facts.postingsOffsetBufInit = ["buf := 0", "skipNAndName(&d, &buf)", "skipNAndName(&d, &buf)"] :=
  ⟨rfl, rfl⟩

/-- regenerated fact: the in-memory index-header owns its bytes — NewMemoryWriter allocates a fresh
    buffer, MemoryWriter.Close only flushes (it hands the buffer to nobody), and the package has no
    package-level pool.  (The model takes a header's bytes as an immutable value: this is the
    condition under which it may.) -/
theorem C11_memory_header_owned_fact :
    Thanos.Facts.memoryWriterCtorStmts =
      ["return &MemoryWriter{ id: id, buf: bytes.NewBuffer(make([]byte, 0, size)), pos: 0, }"] ∧
    Thanos.Facts.memoryWriterCloseStmts = ["return mw.Flush()"] ∧
    Thanos.Facts.indexheaderPoolVars = [] := ⟨rfl, rfl, rfl⟩

/-! regenerated facts: the statements of LookupSymbol, LabelNames and the v1 branch are the ones
    transliterated in Model/IndexHeader.lean -/

theorem C11_lookupSymbol_fact :
    Thanos.Facts.lookupSymbolStmts =
      ["if:r.indexVersion == index.FormatV1 {", "o += headerLen - index.HeaderLen", "}",
       "if:s, ok := r.nameSymbols[o]; ok {", "return s, nil", "}",
       "cacheIndex := o % valueSymbolsCacheSize", "r.valueSymbolsMx.RLock()",
       "if:cached := r.valueSymbols[cacheIndex]; cached.index == o && cached.symbol != \"\" {",
       "v := cached.symbol", "r.valueSymbolsMx.RUnlock()", "return v, nil", "}",
       "r.valueSymbolsMx.RUnlock()", "s, err := r.symbols.Lookup(o)",
       "if:err != nil {", "return s, err", "}",
       "r.valueSymbolsMx.Lock()", "r.valueSymbols[cacheIndex].index = o",
       "r.valueSymbols[cacheIndex].symbol = s", "r.valueSymbolsMx.Unlock()", "return s, nil"] := rfl

theorem C11_labelNames_fact :
    Thanos.Facts.labelNamesStmts =
      ["allPostingsKeyName, _ := index.AllPostingsKey()",
       "labelNames := make([]string, 0, len(r.postings))",
       "range:name,unknown in r.postings {", "if:name == allPostingsKeyName {", "continue", "}",
       "labelNames = append(labelNames, name)", "}", "sort.Strings(labelNames)",
       "return labelNames, nil"] := rfl

theorem C11_v1_fact :
    Thanos.Facts.postingsOffsetV1Stmts =
      ["e, ok := r.postingsV1[name]", "if:!ok {", "return nil, nil", "}",
       "range:_,v in values {", "rng, ok := e[v]", "if:!ok {", "rngs = append(rngs, NotFoundRange)", "continue", "}",
       "rngs = append(rngs, rng)", "}", "return rngs, nil"] ∧
    Thanos.Facts.headerInitLastNameConds =
      ["if:lastName != nil", "if:string(lastName) != \"\"", "if:lastName != nil", "if:lastName != nil"] :=
  ⟨rfl, rfl⟩

/-! ### regenerated facts: the control skeleton of the lookup and the sampling tests of `init`
    are the ones transliterated in Model/IndexHeader.lean -/

theorem C11_lookup_skeleton_fact :
    Thanos.Facts.postingsOffsetConds =
      ["if:len(values) == 0",
       "for:valueIndex < len(values) && values[valueIndex] < e.offsets[0].value",
       "for:valueIndex < len(values)",
       "if:i == len(e.offsets)",
       "for:len(rngs) < len(values)",
       "if:i > 0 && e.offsets[i].value != wantedValue",
       "for:d.Err() == nil",
       "if:len(newSameRngs) > 0",
       "for:string(value) >= wantedValue",
       "if:string(value) == wantedValue",
       "if:valueIndex == len(values)",
       "if:len(newSameRngs) == 0 && i+1 < len(e.offsets)",
       "if:wantedValue >= e.offsets[i+1].value",
       "break Iter",
       "if:i+1 == len(e.offsets)",
       "if:valueIndex != len(values) && wantedValue <= e.offsets[i+1].value",
       "if:wantedValue == e.offsets[i+1].value",
       "if:len(newSameRngs) > 0",
       "if:d.Err() != nil"] := rfl

theorem C11_sampling_fact :
    Thanos.Facts.headerSamplingConds =
      ["if:(valueCount-1)%r.postingOffsetsInMemSampling != 0",
       "if:(valueCount-1)%r.postingOffsetsInMemSampling == 0",
       "if:(valueCount-1)%r.postingOffsetsInMemSampling != 0"] := rfl

end Thanos.IndexHeader
