import Thanos.Model.DedupFilter
import Thanos.Lemmas.DedupFilter
import Thanos.Generated.Facts
/-
  C31 — Only blocks fully covered by another block are hidden as duplicates.

  For every listing of blocks with distinct ULIDs (any number of blocks, groups, any source
  lists — also empty ones and ones with repeated entries):
   * `C31_hidden_covered`: a hidden block has a *kept* block of the *same group* whose sources
     include all of its sources;
   * `C31_cover`: every source of every block is a source of some kept block;
   * `C31_perm`: the set of hidden blocks does not depend on the listing order (Go map order,
     `sort.Slice` instability) — because the comparator, with the full ULID order (time, then
     entropy) as last tie-break, is a total order (`sort_unique`); `C31_time_only_order_dependent`
     shows that a tie-break on the timestamp alone loses this;
   * `C31_concurrency`: groups are filtered independently and the hidden set is the union over
     groups, whatever way the groups are distributed over workers and in whatever order their
     results arrive.
  The model is a transliteration of `Filter` / `filterGroup` / `contains`.
-/
namespace Thanos.DedupFilter

theorem C31_hidden_covered (metas : List Meta) (hd : DistinctIds metas) (b : Meta) (hb : b ∈ metas)
    (hhid : b.id ∈ dups metas) :
    ∃ p ∈ metas, p.id ∉ dups metas ∧ p.group = b.group ∧ ∀ a ∈ b.sources, a ∈ p.sources := by
  obtain ⟨c, hc, e, p, hp, hpk, hsub⟩ :=
    filterGroup_spec (distinct_groupMetas hd _) _ ((mem_dups_iff_group hd hb).mp hhid)
  cases inj_of_nodup_map hd (mem_groupMetas.mp hc).1 hb e
  obtain ⟨hpm, hpg⟩ := mem_groupMetas.mp hp
  exact ⟨p, hpm, fun hpd => hpk (hpg ▸ (mem_dups_iff_group hd hpm).mp hpd), hpg, hsub⟩

theorem C31_cover (metas : List Meta) (hd : DistinctIds metas) (m : Meta) (hm : m ∈ metas)
    (x : Nat) (hx : x ∈ m.sources) : ∃ p ∈ kept metas, x ∈ p.sources := by
  by_cases h : m.id ∈ dups metas
  · obtain ⟨p, hp, hk, _, hsub⟩ := C31_hidden_covered metas hd m hm h
    exact ⟨p, by simp [kept, hp, hk], hsub x hx⟩
  · exact ⟨m, by simp [kept, hm, h], hx⟩

/-- every block is either kept or hidden, never both, and nothing else appears -/
theorem C31_partition (metas : List Meta) (m : Meta) :
    m ∈ kept metas ↔ m ∈ metas ∧ m.id ∉ dups metas := by
  simp [kept]

theorem C31_dups_are_blocks (metas : List Meta) (hd : DistinctIds metas) (d : Nat) (h : d ∈ dups metas) :
    ∃ m ∈ metas, m.id = d := by
  obtain ⟨g, _, hdg⟩ := mem_dups.mp h
  obtain ⟨c, hc, _, e⟩ := dup_in_group hd hdg
  exact ⟨c, hc, e⟩

theorem C31_perm (metas metas' : List Meta) (p : metas.Perm metas') (hd : DistinctIds metas)
    (hk : KeyInj metas) (d : Nat) :
    d ∈ dups metas ↔ d ∈ dups metas' := by
  have key : ∀ g, filterGroup (groupMetas metas g) = filterGroup (groupMetas metas' g) := fun g =>
    congrArg (childLoop · [] []) (sort_unique (p.filter _) (distinct_groupMetas hd g)
      fun a ha b hb => hk a (mem_groupMetas.mp ha).1 b (mem_groupMetas.mp hb).1)
  simp only [mem_dups, key, p.mem_iff]

theorem C31_perm_kept (metas metas' : List Meta) (p : metas.Perm metas') (hd : DistinctIds metas)
    (hk : KeyInj metas) (m : Meta) :
    m ∈ kept metas ↔ m ∈ kept metas' := by
  rw [C31_partition, C31_partition, p.mem_iff, C31_perm metas metas' p hd hk]

theorem dupsIn_flatten (metas : List Meta) (ws : List (List Nat)) :
    dupsIn metas ws.flatten = ws.flatMap (dupsIn metas) := by
  simp only [dupsIn, List.flatMap_def, List.map_flatten, List.flatten_flatten, List.map_map]
  rfl

/-- `ws` = the groups each worker handled, in the order it handled them; the conclusion is a `Perm`, so the order in
    which the results arrive does not matter either -/
theorem C31_concurrency (metas : List Meta) (ws : List (List Nat))
    (h : ws.flatten.Perm (groupsOf metas)) : (ws.flatMap (dupsIn metas)).Perm (dups metas) := by
  rw [← dupsIn_flatten]
  exact List.Perm.flatMap_right _ h

/-- a group's result depends on the blocks of that group only -/
theorem C31_group_independent (metas extra : List Meta) (g : Nat) (h : ∀ m ∈ extra, m.group ≠ g) :
    filterGroup (groupMetas (metas ++ extra) g) = filterGroup (groupMetas metas g) := by
  have : extra.filter (fun m => decide (m.group = g)) = [] :=
    List.filter_eq_nil_iff.mpr fun m hm => by simpa using h m hm
  rw [groupMetas, List.filter_append, this, List.append_nil, groupMetas]

/-- swapping the arguments of `contains` (a seeded change of DESIGN §11) hides a block that is
    not covered: the property statement is not vacuous about the direction of the test -/
theorem C31_swapped_contains_false :
    ¬ (∀ a ∈ ([1, 2, 3] : List Nat), a ∈ ([1] : List Nat)) ∧ contains [1, 2, 3] [1] = true ∧
      contains [1] [1, 2, 3] = false := by decide

/-- **Why the tie-break must be the full ULID order**: with a tie-break on the ULID's timestamp
    alone (`lessT`), two blocks of one group with the same sources and level whose ULIDs differ
    only in entropy compare equal, the comparator is not a total order, and which of the two is
    hidden depends on the order in which the listing (a Go map) hands them over. -/
theorem C31_time_only_order_dependent :
    let a : Meta := ⟨5001, 5, 1, 0, 1, [10, 11]⟩
    let b : Meta := ⟨5002, 5, 2, 0, 1, [10, 11]⟩
    [a, b].Perm [b, a] ∧ DistinctIds [a, b] ∧ KeyInj [a, b] ∧
      dupsT [a, b] = [5001] ∧ dupsT [b, a] = [5002] ∧
      dups [a, b] = [5002] ∧ dups [b, a] = [5002] := by
  refine ⟨List.Perm.swap _ _ _, by unfold DistinctIds; decide, ?_, by decide, by decide, by decide, by decide⟩
  intro x hx y hy
  simp only [List.mem_cons, List.mem_nil_iff, or_false] at hx hy
  rcases hx with rfl | rfl <;> rcases hy with rfl | rfl <;> simp

-- ---------------------------------------------------------------- regenerated facts

/-- `filterGroup` asks `contains(parentSources, childSources)` … -/
theorem C31_fact_containsArgs : Thanos.Facts.dedupContainsArgs = "parentSources, childSources" := rfl
/-- … and `contains(s1, s2)` ranges over `s2` outside (∀) and `s1` inside (∃): s2 ⊆ s1 -/
theorem C31_fact_containsSig : Thanos.Facts.dedupContainsSig = "s1, s2" := rfl
theorem C31_fact_containsLoops :
    Thanos.Facts.dedupContainsLoops = "outer range s2; inner range s1" := rfl
/-- the comparator: equal source counts ⇒ higher level first, then ULID ascending; else more sources first -/
theorem C31_fact_sortLess : Thanos.Facts.dedupSortLess =
    ["ilvl > jlvl", "metaSlice[i].ULID.Compare(metaSlice[j].ULID) < 0", "ilen-jlen > 0", "if ilen == jlen"] := rfl
/-- … and inside the equal-count branch the level decides before the ULID -/
theorem C31_fact_sortLevel : Thanos.Facts.dedupSortLevelCond = "ilvl != jlvl" := rfl

-- non-vacuity: in group 0 blocks 1 and 2 are covered by 3 and 6 is not; an equal-sources pair in group 1; a pair
-- with equal sources and different levels in group 2
def exMetas : List Meta :=
  [⟨3, 3, 0, 0, 2, [10, 11, 12, 13]⟩, ⟨1, 1, 0, 0, 1, [10, 11]⟩, ⟨2, 2, 0, 0, 1, [12, 13]⟩, ⟨4, 4, 0, 1, 1, [10, 11]⟩,
   ⟨5, 4, 7, 1, 1, [11, 10]⟩, ⟨6, 6, 0, 0, 1, [13, 14]⟩, ⟨7, 7, 0, 2, 1, [20]⟩, ⟨8, 8, 0, 2, 2, [20]⟩]

example : DistinctIds exMetas := by unfold DistinctIds; decide
example : dups exMetas = [1, 2, 5, 7] := by decide   -- 8 (level 2) hides 7 although 7 < 8
example : (kept exMetas).map (·.id) = [3, 4, 6, 8] := by decide

end Thanos.DedupFilter
