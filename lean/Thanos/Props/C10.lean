import Thanos.Model.StoreSpec
import Thanos.Model.Partition
import Thanos.Lemmas.StoreSpec
import Thanos.Lemmas.Partition
import Thanos.Lemmas.BlockSetInv
import Thanos.Generated.Facts
/-
  C10 — Store gateway answers equal a direct TSDB read of the same blocks.

  "For any set of blocks in object storage, any selectors and any time range, the store gateway returns
   exactly the series (labels plus external labels) and chunk contents that reading the same blocks with
   the Prometheus TSDB reader gives for chunks overlapping that range.  The answer does not depend on
   whether index caches are cold or warm, on lazy posting expansion settings, on series batch size, or on
   the index-header sampling rate."

  Specification level (partial).  `readBlock` is the direct read: a series of a block is returned iff every
  selector accepts its labels *with the block's external labels on it* and one of its chunks overlaps the
  range; it carries those labels (minus dropped replica labels) and all overlapping chunks.  The theorems
  show the store specification of `Model/StoreSpec.lean` (external-label matcher filter + residual matchers
  on stored labels + `decodeSeriesForTime`'s early-exit chunk scan) equals the direct read (by
  `matchers_on_extended` and `chunksForTime_eq_filter`, Lemmas/StoreSpec.lean), and that no configuration occurs
  in it.  The real BucketStore is compared with the specification and, independently, with the Prometheus reader
  (`tsdb.OpenBlock` + `NewBlockChunkQuerier`) on every run, under generated configurations and cache histories.
  Code-level kernels: the chunk scan (`chunksForTime_eq_filter`), the partitioner (`C10_partition_covers`,
  `C10_partition_ordered`), the posting groups (Props/C10Postings.lean).
-/
namespace Thanos.StoreSpec
open Thanos.Labels

def readBlock (R : List Nat) (b : Block) (r : Req) : List Entry :=
  b.series.filterMap fun s =>
    if matchesAll r.matchers (extendSorted s.lset b.ext) then
      let cs := s.chunks.filter (overlapsChunk · r.mint r.maxt)
      if cs.isEmpty then none else some (serveBucket R b.ext s.lset, cs)
    else none

/-- C10 for one block, at full strength -/
def C10_block_full : Prop :=
  ∀ (R : List Nat) (b : Block) (r : Req), WFBlock b → (∀ s ∈ b.series, ChunksSorted s.chunks) →
    blockSeries R b r = readBlock R b r

/-- … holds whenever some selector is not about an external label of the block -/
theorem C10_block_partial (R : List Nat) (b : Block) (r : Req) (wf : WFBlock b)
    (hc : ∀ s ∈ b.series, ChunksSorted s.chunks) (hres : filterExt b.ext r.matchers ≠ some []) :
    blockSeries R b r = readBlock R b r := by
  have hext (s : Series) (hs : s ∈ b.series) :=
    matchers_on_extended b.ext s.lset wf.ext_sorted wf.ext_ne (wf.lset_ne s hs) r.matchers
  unfold blockSeries readBlock
  match hf : filterExt b.ext r.matchers with
  | none =>
    refine (List.filterMap_eq_nil_iff.mpr fun s hs => ?_).symm
    rw [hext s hs, hf]
    rfl
  | some [] => exact absurd hf hres
  | some (m :: ms) =>
    refine filterMap_congr fun s hs => ?_
    simp only [hext s hs, hf, chunksForTime_eq_filter s.chunks r.mint r.maxt (hc s hs)]

/-- a request whose selectors all name external labels of the block gets nothing from the store gateway
    (`ExpandedPostings` returns no postings without matchers; the TSDB store refuses such a request with
    InvalidArgument), although the direct read matches every series -/
theorem C10_block_full_false : ¬ C10_block_full := by
  intro h
  have := h [] ⟨[(5, 9)], 0, 100, [⟨[(1, 8)], [⟨10, 20, 1⟩]⟩], 0⟩ ⟨0, 50, [⟨5, false, [9]⟩], [], false, false, 0⟩
    ⟨by unfold StrictSorted; decide, by intro x hx; simp at hx; subst hx; decide,
     by intro s hs; simp at hs; subst hs; unfold StrictSorted; decide,
     by intro s hs x hx; simp at hs; subst hs; simp at hx; subst hx; decide,
     by intro s hs; simp at hs; subst hs; simp⟩
    (by intro s hs; simp at hs; subst hs; unfold ChunksSorted; decide)
  revert this
  decide

/-- the whole store gateway: the union over the selected blocks of the direct reads -/
theorem C10_gateway (blocks : List Block) (r : Req) (wf : ∀ b ∈ blocks, WFBlock b)
    (hc : ∀ b ∈ blocks, ∀ s ∈ b.series, ChunksSorted s.chunks)
    (hres : ∀ b ∈ blocks, filterExt b.ext r.matchers ≠ some []) :
    bucketSeries blocks r = (selected blocks r).flatMap (readBlock r.without · r) := by
  unfold bucketSeries
  apply flatMap_congr
  intro b hb
  have hbm : b ∈ blocks := (List.mem_filter.mp (mem_selected blocks r b hb)).1
  exact C10_block_partial r.without b r (wf b hbm) (hc b hbm) (hres b hbm)

/-- the blocks the store gateway reads never exceed the maximum resolution of the request and all overlap its
    range: the block selection of C15 (`bucketBlockSet.getFor`, per set of blocks with equal external labels) is
    part of the specification, so downsampled blocks are covered by `C10_gateway` as well -/
theorem C10_selected_allowed (blocks : List Block) (r : Req) (b : Block) (h : b ∈ selected blocks r) :
    b.res ≤ r.maxRes ∧ b ∈ blocks ∧ blockOverlaps b r.mint r.maxt = true := by
  have hov := List.mem_filter.mp (mem_selected blocks r b h)
  obtain ⟨ext, sel, x, hg, hx, _, _, _, hr⟩ := selected_source h
  exact ⟨hr ▸ BlockSet.resolution_wf (BlockSet.addAll_wf _ _ BlockSet.empty_wf) hg hx, hov.1, hov.2⟩

/-- the expanded postings of (block, matchers) are range independent, and every request over any range is
    answered from them by looking at chunk ranges only: this is what makes it sound to cache them under a key
    without time range (a list that lacks the series without chunks in the FIRST request's range would lose
    them for later requests) -/
theorem C10_cached_postings_range_independent (serve : Labels → Labels) (ms : List Matcher) (series : List Series)
    (mint maxt : Int) :
    selectSeries serve ms series mint maxt =
      (expandedPostings ms series).filterMap (fun s =>
        let cs := chunksForTime s.chunks mint maxt
        if cs.isEmpty then none else some (serve s.lset, cs)) := by
  unfold selectSeries expandedPostings
  rw [List.filterMap_filter]

/-- regenerated facts: what is stored as expanded postings — the complete list when nothing is lazy, and with lazy
    expansion the list `b.expandedPostings`, to which a series is appended after the lazy matchers accepted it and
    BEFORE the test for chunks in range (the early skip is only taken without lazy expansion) -/
theorem C10_fact_expanded_postings_cache :
    Thanos.Facts.storesExpandedPostingsStored =
      ["ExpandedPostings: ms, index.EmptyPostings()", "ExpandedPostings: ms, index.NewListPostings(ps.postings)",
       "nextBatch: b.blockMatchers, index.NewListPostings(b.expandedPostings)"]
    ∧ Thanos.Facts.storesNextBatchLoop.take 9 =
      ["if b.ctx.Err", "hasMatchedChunks := b.indexr.LoadSeriesForTime", "if err != nil { return }",
       "if !lazyExpandedPosting && !hasMatchedChunks { continue }", "if b.indexr.LookupLabelsSymbols",
       "b.lset = b.b.Labels", "loop", "if lazyExpandedPosting { b.expandedPostings = append }",
       "if !hasMatchedChunks { continue }"] := ⟨rfl, rfl⟩

/-- configurations of the store gateway the answer must not depend on -/
structure Config where
  lazyPostings : Bool
  batchSize : Nat
  sampling : Nat
  cacheWarm : Bool
  maxGap : Nat

/-- what the store gateway answers under a configuration, according to the specification -/
def gatewayAnswer (_ : Config) (blocks : List Block) (r : Req) : List (Labels × List Nat) :=
  canonSeries (bucketSeries blocks r)

/-- no configuration occurs in the specification (the implementation is held to it by the differential runs
    under generated configurations and cache histories) -/
theorem C10_config_independent (c1 c2 : Config) (blocks : List Block) (r : Req) :
    gatewayAnswer c1 blocks r = gatewayAnswer c2 blocks r := rfl

end Thanos.StoreSpec

namespace Thanos.Partition

/-- every requested range lies inside the part that holds its index (ranges sorted by start) -/
theorem C10_partition_covers (g : Nat) (rs : List (Nat × Nat)) (hs : rs.Pairwise (fun a b => a.1 ≤ b.1)) :
    ∀ (n : Nat) (h : n < rs.length), Covers (partition g rs) n (rs[n]).1 (rs[n]).2 := by
  cases rs with
  | nil => exact fun n h => absurd h (Nat.not_lt_zero n)
  | cons x rs =>
    obtain ⟨s, e⟩ := x
    have hp := List.pairwise_cons.mp hs
    intro n hn
    refine go_cover g rs ⟨s, e, 0, 1⟩ 1 (Nat.zero_le 1) (Nat.le_refl 1) hp.1 hp.2 ?_
    cases n with
    | zero => exact .inl ⟨Nat.le_refl _, Nat.zero_lt_one, Nat.le_refl _, Nat.le_refl _⟩
    | succ n =>
      have hn' : n < rs.length := Nat.lt_of_succ_lt_succ hn
      exact .inr (Nat.add_comm n 1 ▸ List.mk_add_mem_zipIdx_iff_getElem?.mpr (List.getElem?_eq_getElem hn') :
        (rs[n], n + 1) ∈ rs.zipIdx 1)

/-- parts are consecutive, non-empty index ranges in order, and there are at most as many as ranges -/
theorem C10_partition_ordered (g : Nat) (rs : List (Nat × Nat)) :
    (partition g rs).Pairwise (fun p q => p.j ≤ q.i) ∧ (∀ p ∈ partition g rs, p.i < p.j ∧ p.j ≤ rs.length) ∧
      (partition g rs).length ≤ rs.length := by
  cases rs with
  | nil => exact ⟨.nil, fun _ hp => (nomatch hp), Nat.le_refl 0⟩
  | cons x rs =>
    obtain ⟨s, e⟩ := x
    obtain ⟨h1, h2⟩ := go_parts_chain g rs ⟨s, e, 0, 1⟩ 1 Nat.zero_lt_one (Nat.le_refl 1)
    exact ⟨h1, fun p hp => ⟨(h2 p hp).2.1, (Nat.add_comm 1 rs.length ▸ (h2 p hp).2.2 : p.j ≤ rs.length + 1)⟩,
      go_length g rs ⟨s, e, 0, 1⟩ 1⟩

-- non-vacuity: max gap 5, ranges [0,10) [12,20) [40,45) [41,43): two parts, the second keeps the longer end
example : partition 5 [(0, 10), (12, 20), (40, 45), (41, 43)] = [⟨0, 20, 0, 2⟩, ⟨40, 45, 2, 4⟩] := rfl

end Thanos.Partition

namespace Thanos.StoreSpec
-- non-vacuity: raw [0,100), 5m [0,100), raw [100,200) under one external label set; at max resolution 1h the 5m block
-- and the second raw block are read, at raw resolution the two raw blocks
def exampleBlocks : List Block :=
  [⟨[(5, 9)], 0, 100, [], 0⟩, ⟨[(5, 9)], 0, 100, [], 300000⟩, ⟨[(5, 9)], 100, 200, [], 0⟩]
example : (selected exampleBlocks ⟨0, 300, [], [], false, false, 3600000⟩).map (fun b => (b.mint, b.res)) = [(0, 300000), (100, 0)] := rfl
example : (selected exampleBlocks ⟨0, 300, [], [], false, false, 0⟩).map (fun b => (b.mint, b.res)) = [(0, 0), (100, 0)] := rfl
example : chunksForTime [⟨0, 9, 1⟩, ⟨10, 19, 2⟩, ⟨20, 29, 3⟩, ⟨30, 39, 4⟩] 15 25 = [⟨10, 19, 2⟩, ⟨20, 29, 3⟩] := rfl
example : ChunksSorted [⟨0, 9, 1⟩, ⟨10, 19, 2⟩, ⟨20, 29, 3⟩, ⟨30, 39, 4⟩] := by unfold ChunksSorted; decide
example : (filterExt [(5, 9)] [⟨5, false, [9]⟩, ⟨1, false, [8]⟩]).map (·.map (·.name)) = some [1] := rfl
end Thanos.StoreSpec
