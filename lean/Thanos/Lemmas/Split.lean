import Thanos.Model.Split
/-
  C41 (split by interval).  `nextIntervalBoundary` returns the last point on the request's phase
  before the next interval boundary (`nib_spec`).  For a positive step the grid is the points
  `a + step·k` with `k` below a count, and the `k`-th point is below the count exactly when it is
  not after the end (`idx_lt_count`); a sub-range that ends on the grid splits the grid as a list
  (`grid_split`), so the sub-grids of the range loop concatenate to the grid (`split_spec`).  A
  sub-request is `SubOK` because it starts at the loop's `start` (`SubOK.head`) or because it is one
  of the rest of the loop, which resumes on the same phase (`SubOK.next`).  The labels loop
  produces `Tiles`.  Both loops run on `stop - start` as fuel (`fuel_step`).  `boundary_within` and `tdiv_mul_floor`
  are two facts about Go's `/` that Props/C41 reads.
-/
namespace Thanos.Split

theorem grid_gap {a b s : Int} (hd : s ∣ b - a) (h : a < b + s) : a ≤ b :=
  Int.not_lt.mp fun hlt =>
    Int.not_le.mpr (Int.sub_left_lt_of_lt_add h)
      (Int.le_of_dvd (Int.sub_pos_of_lt hlt) (Int.neg_sub b a ▸ Int.dvd_neg.mpr hd))

/-- `e = B - r`, moved one step down when `r = 0`, for a remainder `r` of `B - t` modulo `step`:
    the last point congruent to `t` strictly before the boundary `B` -/
theorem lastBefore {t B step r e : Int} (hs : 0 < step) (hr0 : 0 ≤ r) (hr1 : r < step)
    (hd : step ∣ B - t - r) (he : e = if B - r = B then B - r - step else B - r) :
    step ∣ e - t ∧ e < B ∧ B ≤ e + step := by
  split at he
  · have : e - t = B - t - r - step ∧ e < B ∧ B ≤ e + step := by omega
    exact ⟨this.1 ▸ Int.dvd_sub hd (Int.dvd_refl _), this.2⟩
  · have : e - t = B - t - r ∧ e < B ∧ B ≤ e + step := by omega
    exact ⟨this.1 ▸ hd, this.2⟩

/-- `nextIntervalBoundary` for positive step and interval, any `t` (also negative, where Go's
    truncating division makes "the next boundary" `B = (t/iv + 1)*iv` the one after next): the
    result is at or after `t` because it is less than a step before `B`, which is after `t`
    (`grid_gap`). -/
theorem nib_spec {t step iv : Int} (hs : 0 < step) (hi : 0 < iv) :
    ∃ e, nib t step iv = some e ∧ t ≤ e ∧ (e - t) % step = 0 ∧
      e < (t.tdiv iv + 1) * iv ∧ (t.tdiv iv + 1) * iv ≤ e + step := by
  have hne : ¬ (iv = 0 ∨ step = 0) := by omega
  have hb := Int.lt_tdiv_add_one_mul_self t hi
  obtain ⟨h2, h3, h4⟩ := lastBefore (t := t) hs (Int.tmod_nonneg step (Int.sub_nonneg_of_le (Int.le_of_lt hb)))
    (Int.tmod_lt_of_pos _ hs) Int.dvd_self_sub_tmod rfl
  exact ⟨_, by simp only [nib, hne, if_false], grid_gap h2 (Int.lt_of_lt_of_le hb h4),
    Int.emod_eq_zero_of_dvd h2, h3, h4⟩

/-- two intervals, not one: for `t < 0` truncation makes `t/iv·iv` the boundary at or *after* `t` (see `nib_spec`) -/
theorem boundary_within (t : Int) {iv : Int} (hi : 0 < iv) :
    t < (t.tdiv iv + 1) * iv ∧ (t.tdiv iv + 1) * iv < t + 2 * iv := by
  have := Int.tmod_lt_of_pos t hi
  have := Int.lt_tmod_of_pos t hi
  rw [Int.add_mul, Int.one_mul, Int.tdiv_mul_self]
  omega

/-- Go's `x / s * s`, as `stepAlign.Do` writes it, on a non-negative `x` -/
theorem tdiv_mul_floor {x s : Int} (hs : 0 < s) (hx : 0 ≤ x) : x.tdiv s * s ≤ x ∧ x < x.tdiv s * s + s := by
  rw [Int.tdiv_mul_self]
  exact ⟨Int.sub_le_self x (Int.tmod_nonneg s hx),
    Int.lt_add_of_sub_right_lt (Int.sub_lt_sub_left (Int.tmod_lt_of_pos x hs) x)⟩

theorem exists_nat_of_dvd {a t step : Int} (hs : 0 < step) (hat : a ≤ t) (hd : step ∣ t - a) :
    ∃ k : Nat, t = a + step * k := by
  obtain ⟨k, hk⟩ := hd
  have hk0 : 0 ≤ k := Int.nonneg_of_mul_nonneg_right (hk ▸ Int.sub_nonneg_of_le hat) hs
  exact ⟨k.toNat, by rw [Int.toNat_of_nonneg hk0, ← hk, Int.add_comm, Int.sub_add_cancel]⟩

theorem gridN_add (s step : Int) (m n : Nat) :
    gridN s step (m + n) = gridN s step m ++ gridN (s + step * m) step n := by
  simp only [gridN, List.range_add, List.map_append, List.map_map, Function.comp_def, Int.natCast_add, Int.mul_add,
    Int.add_assoc]

/-- for a positive step the count alone decides emptiness: it is `0` when `e < a` -/
theorem grid_eq {a e step : Int} (hs : 0 < step) :
    grid a e step = gridN a step ((e - a) / step + 1).toNat := by
  unfold grid
  split
  · next h =>
    rw [Int.toNat_eq_zero.mpr (Int.ediv_neg_of_neg_of_pos (Int.sub_neg_of_lt h) hs)]
    rfl
  · rfl

theorem grid_length {a e step : Int} (hs : 0 < step) : (grid a e step).length = ((e - a) / step + 1).toNat := by
  rw [grid_eq hs, gridN, List.length_map, List.length_range]

theorem idx_lt_count {a e step : Int} (hs : 0 < step) (k : Nat) :
    k < ((e - a) / step + 1).toNat ↔ a + step * k ≤ e := by
  rw [Int.lt_toNat, Int.lt_add_one_iff, Int.le_ediv_iff_mul_le hs, ← Int.add_le_iff_le_sub, Int.mul_comm, Int.add_comm]

theorem mem_gridN {s step : Int} {n : Nat} {t : Int} :
    t ∈ gridN s step n ↔ ∃ k : Nat, k < n ∧ s + step * k = t := by
  simp only [gridN, List.mem_map, List.mem_range]

/-- validates the specification function `grid` -/
theorem mem_grid {start stop step t : Int} (hs : 0 < step) :
    t ∈ grid start stop step ↔ start ≤ t ∧ t ≤ stop ∧ (t - start) % step = 0 := by
  rw [grid_eq hs, mem_gridN]
  constructor
  · rintro ⟨k, hk, rfl⟩
    refine ⟨Int.le_add_of_nonneg_right (Int.mul_nonneg (Int.le_of_lt hs) (Int.natCast_nonneg k)),
      (idx_lt_count hs k).mp hk, ?_⟩
    rw [Int.add_comm, Int.add_sub_cancel]
    exact Int.mul_emod_right _ _
  · rintro ⟨h1, h2, h3⟩
    obtain ⟨k, rfl⟩ := exists_nat_of_dvd hs h1 (Int.dvd_of_emod_eq_zero h3)
    exact ⟨k, (idx_lt_count hs k).mpr h2, rfl⟩

theorem grid_pairwise {start stop step : Int} (hs : 0 < step) : (grid start stop step).Pairwise (· < ·) := by
  rw [grid_eq hs, gridN, List.pairwise_map]
  exact List.pairwise_lt_range.imp fun hab =>
    Int.add_lt_add_left (Int.mul_lt_mul_of_pos_left (Int.ofNat_lt.mpr hab) hs) _

theorem grid_of_lt {a b step : Int} (h : b < a) : grid a b step = [] :=
  if_pos h

theorem grid_self (a step : Int) : grid a a step = [a] := by
  simp [grid, gridN]

theorem grid_progression {a step : Int} (hs : 0 < step) (k : Nat) :
    grid a (a + step * k) step = gridN a step (k + 1) := by
  rw [grid_eq hs, Int.add_comm a, Int.add_sub_cancel, Int.mul_ediv_cancel_left _ (Int.ne_of_gt hs)]
  rfl

theorem grid_drop {a e step : Int} (hs : 0 < step) (m : Nat) (h : a + step * m ≤ e + step) :
    grid a e step = gridN a step m ++ grid (a + step * m) e step := by
  have h2 : (e - a) / step = (e - (a + step * m)) / step + m := by
    rw [← Int.add_mul_ediv_left _ _ (Int.ne_of_gt hs)]
    congr 1
    omega
  have h3 : -1 ≤ (e - (a + step * m)) / step := Int.le_ediv_of_mul_le hs (by omega)
  rw [grid_eq hs, grid_eq hs, ← gridN_add, h2, Int.add_right_comm, Int.toNat_add_nat (Int.add_le_add_right h3 1),
    Nat.add_comm]

theorem grid_split {a b e step : Int} (hs : 0 < step) (hab : a ≤ b) (hbe : b ≤ e)
    (hal : step ∣ (b - a)) : grid a e step = grid a b step ++ grid (b + step) e step := by
  obtain ⟨k, rfl⟩ := exists_nat_of_dvd hs hab hal
  have hb : a + step * (k + 1 : Nat) = a + step * k + step := by
    rw [Int.natCast_succ, Int.mul_add, Int.mul_one, Int.add_assoc]
  rw [grid_progression hs k, ← hb]
  exact grid_drop hs (k + 1) (by rw [hb]; exact Int.add_le_add_right hbe step)

theorem grid_nodup {start stop step : Int} (hs : 0 < step) : (grid start stop step).Nodup :=
  (grid_pairwise hs).imp Int.ne_of_lt

theorem splitLoop_done {stop step iv start : Int} (h : ¬ start < stop) (fuel : Nat) :
    splitLoop stop step iv fuel start = .ok [] := by
  cases fuel <;> simp [splitLoop, h]

theorem splitLoop_step {stop step iv start e : Int} {fuel : Nat} {l : List (Int × Int)} (h : start < stop)
    (he : nib start step iv = some e) (hl : splitLoop stop step iv fuel (e + step) = .ok l) :
    splitLoop stop step iv (fuel + 1) start = .ok ((start, if e + step ≥ stop then stop else e) :: l) := by
  simp [splitLoop, h, he, hl]

/-- what one sub-request must satisfy relative to the loop's current `start` -/
def SubOK (start stop step : Int) (q : Int × Int) : Prop :=
  step ∣ (q.1 - start) ∧ start ≤ q.1 ∧ q.1 ≤ q.2 ∧ q.2 ≤ stop ∧ (step ∣ (q.2 - q.1) ∨ q.2 = stop)

theorem SubOK.head {start stop step e : Int} (h1 : start ≤ e) (h2 : e ≤ stop) (h : step ∣ e - start ∨ e = stop) :
    SubOK start stop step (start, e) :=
  ⟨Int.sub_self start ▸ Int.dvd_zero step, Int.le_refl _, h1, h2, h⟩

theorem SubOK.next {start stop step e : Int} {q : Int × Int} (hs : 0 < step) (h1 : start ≤ e)
    (hd : step ∣ e - start) (h : SubOK (e + step) stop step q) : SubOK start stop step q := by
  have : q.1 - start = q.1 - (e + step) + (e - start + step) := by omega
  exact ⟨this ▸ Int.dvd_add h.1 (Int.dvd_add hd (Int.dvd_refl _)),
    Int.le_trans (Int.le_trans h1 (Int.le_add_of_nonneg_right (Int.le_of_lt hs))) h.2.1, h.2.2⟩

theorem fuel_step {stop start next : Int} {k : Nat} (hf : stop - start ≤ (k + 1 : Nat)) (h : start < next) :
    stop - next ≤ k := by
  omega

theorem splitLoop_spec {stop step iv : Int} (hs : 0 < step) (hi : 0 < iv) (fuel : Nat) (start : Int)
    (hf : stop - start ≤ fuel) (hlt : start < stop) :
    ∃ l, splitLoop stop step iv fuel start = .ok l ∧
      l.flatMap (fun q => grid q.1 q.2 step) = grid start stop step ∧
      ∀ q ∈ l, SubOK start stop step q := by
  induction fuel generalizing start with
  | zero => exact absurd (Int.sub_pos_of_lt hlt) (Int.not_lt.mpr hf)
  | succ k ih =>
    obtain ⟨e, he, h1, h2, _, _⟩ := nib_spec (t := start) hs hi
    have hdvd : step ∣ (e - start) := Int.dvd_of_emod_eq_zero h2
    by_cases hend : e + step ≥ stop
    · exact ⟨[(start, stop)], by rw [splitLoop_step hlt he (splitLoop_done (Int.not_lt.mpr hend) k), if_pos hend],
        List.flatMap_singleton .., List.forall_mem_singleton.mpr (.head (Int.le_of_lt hlt) (Int.le_refl _) (.inr rfl))⟩
    · have hnext : e + step < stop := Int.not_le.mp hend
      have hes : e ≤ stop := Int.le_of_lt (Int.lt_trans (Int.lt_add_of_pos_right e hs) hnext)
      obtain ⟨l', hl', hg', hq'⟩ := ih (e + step) (fuel_step hf (Int.lt_add_of_le_of_pos h1 hs)) hnext
      refine ⟨(start, e) :: l', by rw [splitLoop_step hlt he hl', if_neg hend], ?_,
        List.forall_mem_cons.mpr ⟨.head h1 hes (.inl hdvd), fun q hq => (hq' q hq).next hs h1 hdvd⟩⟩
      rw [List.flatMap_cons, hg']
      exact (grid_split hs h1 hes hdvd).symm

/-- `splitQuery` (range case) with the per-sub-request facts the results cache needs (`SubOK`) -/
theorem split_spec (start stop step iv : Int) (hs : 0 < step) (hi : 0 < iv) :
    ∃ l, split start stop step iv = .ok l ∧
      l.flatMap (fun q => grid q.1 q.2 step) = grid start stop step ∧
      ∀ q ∈ l, SubOK start stop step q := by
  unfold split
  by_cases heq : start = stop
  · subst heq
    exact ⟨[(start, start)], if_pos rfl, by simp [grid_self], List.forall_mem_singleton.mpr
      (.head (Int.le_refl _) (Int.le_refl _) (.inr rfl))⟩
  · rw [if_neg heq]
    by_cases hlt : start < stop
    · exact splitLoop_spec hs hi _ start (Int.self_le_toNat _) hlt
    · exact ⟨[], splitLoop_done hlt _, (grid_of_lt (Int.lt_iff_le_and_ne.mpr ⟨Int.not_lt.mp hlt, Ne.symm heq⟩)).symm,
        List.forall_mem_nil _⟩

theorem labelsLoop_done {stop dur start : Int} (h : ¬ start < stop) (fuel : Nat) :
    labelsLoop stop dur fuel start = .ok [] := by
  cases fuel <;> simp [labelsLoop, h]

theorem labelsLoop_step {stop dur start : Int} {fuel : Nat} {l : List (Int × Int)} (h : start < stop)
    (hl : labelsLoop stop dur fuel (start + dur) = .ok l) :
    labelsLoop stop dur (fuel + 1) start = .ok ((start, min (start + dur) stop) :: l) := by
  simp [labelsLoop, h, hl]

/-- consecutive, non-empty sub-ranges of length ≤ dur that start at `a` and end exactly at `b` -/
def Tiles (dur : Int) : List (Int × Int) → Int → Int → Prop
  | [], _, _ => False
  | [q], a, b => q.1 = a ∧ q.2 = b ∧ a < b ∧ b - a ≤ dur
  | q :: q' :: l, a, b => q.1 = a ∧ a < q.2 ∧ q.2 - a ≤ dur ∧ Tiles dur (q' :: l) q.2 b

theorem labelsLoop_spec {stop dur : Int} (hd : 0 < dur) (fuel : Nat) (start : Int)
    (hf : stop - start ≤ fuel) (hlt : start < stop) :
    ∃ l, labelsLoop stop dur fuel start = .ok l ∧ Tiles dur l start stop := by
  induction fuel generalizing start with
  | zero => exact absurd (Int.sub_pos_of_lt hlt) (Int.not_lt.mpr hf)
  | succ k ih =>
    have hstep := Int.lt_add_of_pos_right start hd
    by_cases hnext : start + dur < stop
    · obtain ⟨l', hl', ht'⟩ := ih (start + dur) (fuel_step hf hstep) hnext
      refine ⟨(start, start + dur) :: l', by rw [labelsLoop_step hlt hl', Int.min_eq_left (Int.le_of_lt hnext)], ?_⟩
      cases l' with
      | nil => exact ht'.elim
      | cons q' l'' => exact ⟨rfl, hstep, Int.sub_left_le_of_le_add (Int.le_refl _), ht'⟩
    · have hle := Int.not_lt.mp hnext
      exact ⟨[(start, stop)], by rw [labelsLoop_step hlt (labelsLoop_done hnext k), Int.min_eq_right hle],
        rfl, rfl, hlt, Int.sub_left_le_of_le_add hle⟩

def Covers (l : List (Int × Int)) (a b : Int) : Prop :=
  ∀ t, a ≤ t → t ≤ b → ∃ q ∈ l, q.1 ≤ t ∧ t ≤ q.2

theorem Tiles.covers {dur : Int} : ∀ {l : List (Int × Int)} {a b : Int}, Tiles dur l a b → Covers l a b
  | [], _, _, h => h.elim
  | [q], _, _, ⟨h1, h2, _, _⟩ => fun _ ha hb => ⟨q, .head _, h1 ▸ ha, h2 ▸ hb⟩
  | q :: q' :: l, a, b, ⟨h1, _, _, h4⟩ => by
    intro t ha hb
    by_cases ht : t ≤ q.2
    · exact ⟨q, .head _, h1 ▸ ha, ht⟩
    · obtain ⟨p, hp, hp1, hp2⟩ := Tiles.covers h4 t (Int.le_of_lt (Int.not_le.mp ht)) hb
      exact ⟨p, .tail _ hp, hp1, hp2⟩

theorem Tiles.bounds {dur : Int} : ∀ {l : List (Int × Int)} {a b : Int}, Tiles dur l a b →
    ∀ q ∈ l, a ≤ q.1 ∧ q.1 < q.2 ∧ q.2 ≤ b ∧ q.2 - q.1 ≤ dur
  | [], _, _, h => h.elim
  | [q], _, _, ⟨rfl, rfl, h3, h4⟩ => List.forall_mem_singleton.mpr ⟨Int.le_refl _, h3, Int.le_refl _, h4⟩
  | q :: q' :: _, _, _, ⟨rfl, h2, h3, h4⟩ =>
    have ih := Tiles.bounds h4
    -- the first sub-range ends where the second starts, which ends at or before `b`
    have h := ih q' (.head _)
    List.forall_mem_cons.mpr ⟨⟨Int.le_refl _, h2, Int.le_trans h.1 (Int.le_trans (Int.le_of_lt h.2.1) h.2.2.1), h3⟩,
      fun p hp => ⟨Int.le_trans (Int.le_of_lt h2) (ih p hp).1, (ih p hp).2⟩⟩

theorem Tiles.sum_len {dur : Int} : ∀ {l : List (Int × Int)} {a b : Int}, Tiles dur l a b →
    (l.map (fun q => q.2 - q.1)).sum = b - a ∧ b - a ≤ dur * l.length
  | [], _, _, h => h.elim
  | [q], _, _, ⟨rfl, rfl, _, h4⟩ => ⟨Int.add_zero _, (Int.mul_one dur).symm ▸ h4⟩
  | q :: q' :: l, _, b, ⟨rfl, _, h3, h4⟩ => by
    have ⟨ih1, ih2⟩ := Tiles.sum_len h4
    rw [List.length_cons, Int.natCast_succ, Int.mul_add, Int.mul_one, List.map_cons, List.sum_cons, ih1]
    omega

end Thanos.Split
