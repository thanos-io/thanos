import Thanos.Model.ShuffleShard
import Thanos.Lemmas.Hashring
import Thanos.Lemmas.HashringPerm
/-
  For C21.  The selection loop of one zone (`pickZone_spec`): while fewer nodes are selected than the zone has, every
  draw adds a node of the zone not yet selected, whatever the random positions; over the zones, the selection is
  refused exactly when a zone is too small and is otherwise the zones' picks in a row (`selectNodes_spec`).  An LRU all
  of whose entries are what `compute` answers now (`LruSound`) answers like `compute` and stays so, whatever the
  capacity and the history (`getCached_sound`).  The `*_ren` lemmas: the selection, up to a tenant's node list
  (`tenantShard_ren`), commutes with a renaming of the endpoint indices that is injective on the ring; with
  `mkRing_permute` (Lemmas/HashringPerm.lean) this gives C21's independence of the order of the endpoint list.
-/
namespace Thanos.ShuffleShard
open Thanos.Hashring

theorem mem_scanFrom {secs : List Sec} {i : Nat} {s : Sec} : s ∈ scanFrom secs i ↔ s ∈ secs := by
  rw [scanFrom, List.mem_append, Or.comm, ← List.mem_append, List.take_append_drop]

theorem mem_zoneNodes {secs : List Sec} {e : Nat} : e ∈ zoneNodes secs ↔ ∃ s ∈ secs, s.ep = e := by
  rw [zoneNodes, mem_dedup, List.mem_map]

theorem pickOne_some {secs : List Sec} {selected : List Nat} {pos e : Nat}
    (h : pickOne secs selected pos = some e) : e ∈ zoneNodes secs ∧ e ∉ selected := by
  obtain ⟨s, hf, rfl⟩ := Option.map_eq_some_iff.mp h
  exact ⟨mem_zoneNodes.mpr ⟨s, mem_scanFrom.mp (List.mem_of_find?_eq_some hf), rfl⟩, by simpa using List.find?_some hf⟩

theorem pickOne_none {secs : List Sec} {selected : List Nat} {pos : Nat}
    (h : pickOne secs selected pos = none) : ∀ e ∈ zoneNodes secs, e ∈ selected := by
  intro e he
  obtain ⟨s, hs, rfl⟩ := mem_zoneNodes.mp he
  simpa using List.find?_eq_none.mp (Option.map_eq_none_iff.mp h) s (mem_scanFrom.mpr hs)

theorem pickZone_spec (secs : List Sec) : ∀ (positions : List Nat) (selected : List Nat),
    selected.Nodup → (∀ e ∈ selected, e ∈ zoneNodes secs) →
    selected.length + positions.length ≤ (zoneNodes secs).length →
    (pickZone secs positions selected).Nodup ∧
    (pickZone secs positions selected).length = selected.length + positions.length ∧
    ∀ e ∈ pickZone secs positions selected, e ∈ zoneNodes secs
  | [], selected, hn, hsub, _ => ⟨hn, rfl, hsub⟩
  | pos :: rest, selected, hn, hsub, hlen => by
    rw [pickZone]
    rw [List.length_cons] at hlen
    cases hp : pickOne secs selected pos with
    | none =>
      -- every node of the zone is selected already, yet there are fewer selected than nodes
      have : (zoneNodes secs).length ≤ selected.length := (nodup_dedup _).length_le_of_subset (pickOne_none hp)
      exact absurd (Nat.le_trans hlen this) (Nat.not_le.mpr (Nat.lt_add_of_pos_right (Nat.succ_pos _)))
    | some e =>
      obtain ⟨hzone, hnot⟩ := pickOne_some hp
      obtain ⟨r1, r2, r4⟩ := pickZone_spec secs rest (selected ++ [e]) (nodup_concat hn hnot)
        (fun x hx => (List.mem_append.mp hx).elim (hsub x) fun h => List.mem_singleton.mp h ▸ hzone)
        (by rwa [List.length_append, List.length_singleton, Nat.add_assoc, Nat.add_comm 1])
      exact ⟨r1, by rw [r2, List.length_append, List.length_singleton, List.length_cons, Nat.add_assoc, Nat.add_comm 1], r4⟩

/-- `.tooBig` is `getTenantShard`'s "shard size … larger than number of nodes in AZ" -/
theorem selectNodes_spec (take : Nat) (secsOf : Nat → List Sec) (positions : Nat → List Nat) : ∀ (zones : List Nat),
    (selectNodes take secsOf positions zones = .tooBig ∧ ∃ z ∈ zones, (zoneNodes (secsOf z)).length < take) ∨
    (selectNodes take secsOf positions zones =
        .nodes (zones.flatMap fun z => pickZone (secsOf z) ((positions z).take take) []) ∧
      ∀ z ∈ zones, take ≤ (zoneNodes (secsOf z)).length)
  | [] => Or.inr ⟨rfl, nofun⟩
  | z :: zs => by
    rw [selectNodes]
    by_cases h : (zoneNodes (secsOf z)).length < take
    · exact Or.inl ⟨if_pos h, z, List.mem_cons_self, h⟩
    · rw [if_neg h]
      rcases selectNodes_spec take secsOf positions zs with ⟨h1, z', hz', hlt⟩ | ⟨h1, h2⟩
      · exact Or.inl ⟨by rw [h1], z', List.mem_cons_of_mem _ hz', hlt⟩
      · exact Or.inr ⟨by rw [h1, List.flatMap_cons], List.forall_mem_cons.mpr ⟨Nat.le_of_not_lt h, h2⟩⟩

/-- the refusal does not look at the drawn positions: however many there are -/
theorem tenantShard_tooBig_iff (ring : List Sec) (dflt : Nat) (ovs : List Override) (tenant : String)
    (positions : Nat → List Nat) :
    tenantShard true ring dflt ovs tenant positions = .tooBig ↔
      ∃ z ∈ dedup (ring.map (·.az)),
        (zoneNodes (ring.filter (·.az == z))).length < perZone (shardSize dflt ovs tenant) (dedup (ring.map (·.az))).length := by
  simp only [tenantShard, if_true]
  rcases selectNodes_spec (perZone (shardSize dflt ovs tenant) (dedup (ring.map (·.az))).length)
      (fun z => ring.filter (·.az == z)) positions (dedup (ring.map (·.az))) with
    ⟨h1, h2⟩ | ⟨h1, h2⟩
  · exact ⟨fun _ => h2, fun _ => h1⟩
  · constructor
    · intro h; rw [h1] at h; cases h
    · rintro ⟨z, hz, hlt⟩
      have := h2 z hz
      omega

theorem Lru.get_eq_find? {α : Type} (k : String) : ∀ (c : Lru α), Lru.get c k = (c.find? (·.1 == k)).map (·.2)
  | [] => rfl
  | (k', v) :: c => by
    rw [Lru.get, List.find?_cons]
    by_cases h : k' = k
    · rw [if_pos h, beq_iff_eq.mpr h]; rfl
    · rw [if_neg h, beq_eq_false_iff_ne.mpr h]; exact Lru.get_eq_find? k c

theorem Lru.mem_of_get {α : Type} {c : Lru α} {k : String} {v : α} (h : Lru.get c k = some v) : (k, v) ∈ c := by
  rw [Lru.get_eq_find?] at h
  obtain ⟨⟨k', _⟩, hf, rfl⟩ := Option.map_eq_some_iff.mp h
  have hk := List.find?_some (p := fun x : String × α => x.1 == k) hf
  exact beq_iff_eq.mp hk ▸ List.mem_of_find?_eq_some hf

/-- every entry of the cache is what `compute` answers for its tenant now -/
def LruSound {α : Type} (compute : String → Option α) (c : Lru α) : Prop :=
  ∀ p ∈ c, compute p.1 = some p.2

theorem getCached_sound {α : Type} (compute : String → Option α) (cap : Nat) (c : Lru α) (tenant : String)
    (hs : LruSound compute c) :
    (getCached compute cap c tenant).1 = compute tenant ∧ LruSound compute (getCached compute cap c tenant).2 := by
  -- moving or adding a sound entry to the front, dropping entries elsewhere
  have front : ∀ {v}, compute tenant = some v → ∀ p ∈ (tenant, v) :: c.filter (·.1 != tenant), compute p.1 = some p.2 :=
    fun hv => List.forall_mem_cons.mpr ⟨hv, fun p hp => hs p (List.mem_filter.mp hp).1⟩
  rw [getCached]
  cases hg : c.get tenant with
  | some v => exact ⟨(hs _ (Lru.mem_of_get hg)).symm, front (hs _ (Lru.mem_of_get hg))⟩
  | none =>
    cases hc : compute tenant with
    | none => exact ⟨rfl, hs⟩
    | some v => exact ⟨rfl, fun p hp => front hc p (List.mem_of_mem_take hp)⟩

theorem getCachedSeq_eq {α : Type} (compute : String → Option α) (cap : Nat) :
    ∀ (ts : List String) (c : Lru α), LruSound compute c → getCachedSeq compute cap c ts = ts.map compute
  | [], _, _ => rfl
  | t :: ts, c, hs => by
    obtain ⟨h1, h2⟩ := getCached_sound compute cap c t hs
    simp only [getCachedSeq, List.map_cons]
    rw [h1, getCachedSeq_eq compute cap ts _ h2]

/-- an instance's answers are those of its cache and its `compute` -/
theorem Instance.run_fst {α : Type} : ∀ (ts : List String) (i : Instance α),
    (i.run ts).1 = getCachedSeq i.compute i.cap i.cache ts
  | [], _ => rfl
  | t :: ts, i => congrArg (_ :: ·) (Instance.run_fst ts { i with cache := (getCached i.compute i.cap i.cache t).2 })

theorem Instance.run_eq {α : Type} : ∀ (ts : List String) (i : Instance α), LruSound i.compute i.cache →
    (i.run ts).1 = ts.map i.compute :=
  fun ts i hs => (i.run_fst ts).trans (getCachedSeq_eq i.compute i.cap ts i.cache hs)

/-- `f` is injective on the endpoint indices in `d`; `Hashring.InjOn f ring` is this for `d = ring.map (·.ep)` -/
def InjOnL (f : Nat → Nat) (d : List Nat) : Prop := ∀ a ∈ d, ∀ b ∈ d, f a = f b → a = b

theorem _root_.Thanos.Hashring.InjOn.toL {f : Nat → Nat} {ring : List Sec} (h : InjOn f ring) :
    InjOnL f (ring.map (·.ep)) :=
  List.forall_mem_map.mpr fun s hs => List.forall_mem_map.mpr (h s hs)

theorem contains_map_inj {f : Nat → Nat} {d sel : List Nat} (hinj : InjOnL f d) (hs : ∀ a ∈ sel, a ∈ d)
    {e : Nat} (he : e ∈ d) : (sel.map f).contains (f e) = sel.contains e := by
  apply Bool.eq_iff_iff.mpr
  simp only [List.contains_iff_mem, List.mem_map]
  constructor
  · rintro ⟨a, ha, hfa⟩
    have := hinj a (hs a ha) e he hfa
    rw [← this]; exact ha
  · intro h; exact ⟨e, h, rfl⟩

theorem searchIdx_ren (f : Nat → Nat) (pos : Nat) (secs : List Sec) :
    searchIdx pos (secs.map (ren f)) = searchIdx pos secs := by
  rw [searchIdx, List.findIdx?_map]
  rfl

theorem scanFrom_ren (f : Nat → Nat) (secs : List Sec) (i : Nat) :
    scanFrom (secs.map (ren f)) i = (scanFrom secs i).map (ren f) := by
  rw [scanFrom, scanFrom, List.map_append, List.map_drop, List.map_take]

theorem pickOne_ren {f : Nat → Nat} {d : List Nat} (hinj : InjOnL f d) (secs : List Sec) (sel : List Nat) (pos : Nat)
    (hsecs : ∀ s ∈ secs, s.ep ∈ d) (hsel : ∀ a ∈ sel, a ∈ d) :
    pickOne (secs.map (ren f)) (sel.map f) pos = (pickOne secs sel pos).map f := by
  -- the renamed scan stops at the same section: its endpoint is selected iff it was
  rw [pickOne, pickOne, searchIdx_ren, scanFrom_ren, List.find?_map, Option.map_map, Option.map_map,
    find?_congr (q := fun s => !sel.contains s.ep) fun s hs => by
      rw [Function.comp_apply, ren_ep, contains_map_inj hinj hsel (hsecs s (mem_scanFrom.mp hs))]]
  rfl

theorem pickZone_ren {f : Nat → Nat} {d : List Nat} (hinj : InjOnL f d) (secs : List Sec)
    (hsecs : ∀ s ∈ secs, s.ep ∈ d) : ∀ (positions : List Nat) (sel : List Nat), (∀ a ∈ sel, a ∈ d) →
    pickZone (secs.map (ren f)) positions (sel.map f) = (pickZone secs positions sel).map f
  | [], _, _ => rfl
  | pos :: rest, sel, hsel => by
    rw [pickZone, pickZone, pickOne_ren hinj secs sel pos hsecs hsel]
    cases hp : pickOne secs sel pos with
    | none => exact pickZone_ren hinj secs hsecs rest sel hsel
    | some e =>
      obtain ⟨s, hs, rfl⟩ := mem_zoneNodes.mp (pickOne_some hp).1
      have := pickZone_ren hinj secs hsecs rest (sel ++ [s.ep]) fun a ha =>
        (List.mem_append.mp ha).elim (hsel a) fun h => List.mem_singleton.mp h ▸ hsecs s hs
      rwa [List.map_append] at this

theorem dedup_map_inj {f : Nat → Nat} {d : List Nat} (hinj : InjOnL f d) : ∀ (l : List Nat), (∀ a ∈ l, a ∈ d) →
    dedup (l.map f) = (dedup l).map f
  | [], _ => rfl
  | a :: l, h => by
    have hl := fun b hb => h b (List.mem_cons_of_mem a hb)
    rw [List.map_cons, dedup, dedup, contains_map_inj hinj hl (h a List.mem_cons_self), dedup_map_inj hinj l hl]
    split
    · rfl
    · rfl

theorem zoneNodes_ren {f : Nat → Nat} {d : List Nat} (hinj : InjOnL f d) (secs : List Sec)
    (hsecs : ∀ s ∈ secs, s.ep ∈ d) : zoneNodes (secs.map (ren f)) = (zoneNodes secs).map f := by
  rw [zoneNodes, zoneNodes, List.map_map, ← dedup_map_inj hinj _ (List.forall_mem_map.mpr hsecs), List.map_map]
  rfl

def Shard.map (f : Nat → Nat) : Shard → Shard
  | .nodes eps => .nodes (eps.map f)
  | .tooBig => .tooBig

theorem selectNodes_ren {f : Nat → Nat} {d : List Nat} (hinj : InjOnL f d) (take : Nat) (secsOf : Nat → List Sec)
    (positions : Nat → List Nat) (hsecs : ∀ z, ∀ s ∈ secsOf z, s.ep ∈ d) : ∀ (zones : List Nat),
    selectNodes take (fun z => (secsOf z).map (ren f)) positions zones = (selectNodes take secsOf positions zones).map f
  | [] => rfl
  | z :: zs => by
    rw [selectNodes, selectNodes, zoneNodes_ren hinj (secsOf z) (hsecs z), List.length_map,
      selectNodes_ren hinj take secsOf positions hsecs zs,
      show pickZone ((secsOf z).map (ren f)) ((positions z).take take) [] = _ from
        pickZone_ren hinj (secsOf z) (hsecs z) ((positions z).take take) [] nofun]
    split
    · rfl
    · cases selectNodes take secsOf positions zs with
      | tooBig => rfl
      | nodes rest => exact congrArg Shard.nodes List.map_append.symm

theorem tenantShard_ren (f : Nat → Nat) (zoneAware : Bool) (ring : List Sec) (dflt : Nat) (ovs : List Override)
    (tenant : String) (positions : Nat → List Nat) (hinj : InjOnL f (ring.map (·.ep))) :
    tenantShard zoneAware (ring.map (ren f)) dflt ovs tenant positions =
      (tenantShard zoneAware ring dflt ovs tenant positions).map f := by
  have haz : (ring.map (ren f)).map (·.az) = ring.map (·.az) := by simp [Function.comp_def]
  unfold tenantShard
  cases zoneAware with
  | true =>
    simp only [if_true, haz]
    have hfil : ∀ z, (ring.map (ren f)).filter (fun s => s.az == z) = (ring.filter (fun s => s.az == z)).map (ren f) := by
      intro z; rw [List.filter_map]; rfl
    simp only [hfil]
    exact selectNodes_ren hinj _ (fun z => ring.filter (fun s => s.az == z)) positions
      (fun z s hs => List.mem_map.mpr ⟨s, (List.mem_filter.mp hs).1, rfl⟩) _
  | false =>
    simp only [Bool.false_eq_true, if_false]
    exact selectNodes_ren hinj _ (fun _ => ring) positions (fun _ s hs => List.mem_map.mpr ⟨s, hs, rfl⟩) [0]

end Thanos.ShuffleShard
