import Thanos.Model.Merge
import Thanos.Lemmas.Order
import Thanos.Lemmas.OrderedInsert
/-
  The predicates on response lists the family speaks in (`MergeMem`, `NoBatch`, `SortedSeries`); what the stages of
  `proxySeriesWith` (receivers, `sortWithoutLabels`, batching server) preserve, at the level of membership; and what
  its two loops and the call as a whole do without limit, each as one statement for both strategies of the shape
  "if <the failure condition> then it fails else <an equation>" (`fanOut_eq`, `respLoop_eq`, `proxy_eq`; `proxy_warn`
  is the warn strategy).  What is sent on success is `openWarnings stores` and then `respsOf merge rq stores`: the
  merge `mergedOf` of the response sets of the stores that opened, through the deduplicator when asked for; a response
  is in `mergedOf` iff such a store delivers it (`mem_mergedOf`).  Go's insertion sort behind `sortWithoutLabels` is
  the insertion sort of `Lemmas/OrderedInsert.lean` on the reversed input (`goInsertionSort_eq`).
-/
namespace Thanos.Merge

/-- the merge neither loses nor invents a response: all that the theorems which do not speak of order need of it -/
def MergeMem (merge : List (List Frame) → List Frame) : Prop :=
  ∀ sets x, x ∈ merge sets ↔ ∃ s ∈ sets, x ∈ s

/-- holds of what the merge hands to `srv.Send`: the receivers unpack batches -/
def NoBatch (fs : List Frame) : Prop := ∀ f ∈ fs, ∀ ss, f ≠ .batch ss

/-- the series of `fs`, in the order they occur, weakly increase by labels: what every `respSet` hands to the merge,
    what the merge keeps and what the deduplicator reads (weakly: a series may be split over frames and delivered by
    several stores) -/
def SortedSeries (fs : List Frame) : Prop := (seriesOf fs).Pairwise (fun a b => lblLe a.lbls b.lbls)

def NoSeries (fs : List Frame) : Prop := ∀ x ∈ fs, x.isSeries = false

theorem seriesOf_append (a b : List Frame) : seriesOf (a ++ b) = seriesOf a ++ seriesOf b := by
  simp [seriesOf]

theorem seriesOf_cons_series (t : Series) (rest : List Frame) :
    seriesOf (.series t :: rest) = t :: seriesOf rest := rfl

theorem seriesOf_cons_nonSeries {x : Frame} (h : x.isSeries = false) (rest : List Frame) :
    seriesOf (x :: rest) = seriesOf rest := by
  cases x with
  | series s => cases h
  | _ => rfl

theorem seriesOf_nonSeries : ∀ (a : List Frame), (∀ x ∈ a, x.isSeries = false) → seriesOf a = []
  | [], _ => rfl
  | x :: r, h =>
    (seriesOf_cons_nonSeries (h x List.mem_cons_self) r).trans
      (seriesOf_nonSeries r (fun y hy => h y (List.mem_cons_of_mem _ hy)))

theorem seriesOf_map_series (ss : List Series) : seriesOf (ss.map Frame.series) = ss := by
  induction ss with
  | nil => rfl
  | cons a r ih => rw [List.map_cons, seriesOf_cons_series, ih]

theorem mem_seriesOf {fs : List Frame} {s : Series} : s ∈ seriesOf fs ↔ Frame.series s ∈ fs := by
  simp only [seriesOf, List.mem_filterMap]
  constructor
  · rintro ⟨f, hf, h⟩
    cases f <;> simp at h
    subst h; exact hf
  · intro h
    exact ⟨_, h, rfl⟩

theorem failAt_warning {st : Store} {i : Nat} {w : Frame} (h : failAt st i = some w) : ∃ m, w = .warning m := by
  unfold failAt at h
  split at h
  · exact ⟨_, (Option.some.inj h).symm⟩
  · split at h
    · exact ⟨_, (Option.some.inj h).symm⟩
    · cases h

theorem recvLoop_cons (ap : Bool) (st : Store) (i : Nat) (f : Frame) (keep : Bool) (rest : List (Frame × Bool)) :
    recvLoop ap st i ((f, keep) :: rest) =
      match failAt st i with
      | some w => [w]
      | none =>
        match f with
        | .series _ => if ap && !keep then recvLoop ap st (i + 1) rest else f :: recvLoop ap st (i + 1) rest
        | .batch ss => ss.map Frame.series ++ recvLoop ap st (i + 1) rest
        | _ => f :: recvLoop ap st (i + 1) rest := rfl

theorem recvLoop_noBatch (ap : Bool) (st : Store) (fs : List (Frame × Bool)) (i : Nat) :
    NoBatch (recvLoop ap st i fs) := by
  -- arms: end of the script; `Recv` fails here; a series dropped by proxy-side sharding; a series kept; a batch;
  -- any other frame
  fun_induction recvLoop ap st i fs with
  | case1 i =>
    intro f hf
    obtain ⟨m, rfl⟩ := failAt_warning (Option.mem_toList.mp hf)
    exact fun _ => Frame.noConfusion
  | case2 i g keep rest w hfa =>
    obtain ⟨m, rfl⟩ := failAt_warning hfa
    exact List.forall_mem_singleton.mpr fun _ => Frame.noConfusion
  | case3 i keep rest hfa tail s hap ih => exact ih
  | case4 i keep rest hfa tail s hap ih => exact List.forall_mem_cons.mpr ⟨fun _ => Frame.noConfusion, ih⟩
  | case5 i keep rest hfa tail bs ih =>
    refine List.forall_mem_append.mpr ⟨fun f hf => ?_, ih⟩
    obtain ⟨s, _, rfl⟩ := List.mem_map.mp hf
    exact fun _ => Frame.noConfusion
  | case6 i g keep rest hfa tail hs hb ih => exact List.forall_mem_cons.mpr ⟨hb, ih⟩

theorem failAt_recvErr {st : Store} {k : Nat} (hf : st.failure = .recvErr k) (j : Nat) :
    failAt st j = if k = j then some (.warning st.recvMsg) else none := by
  simp [failAt, hf]

theorem failAt_hang {st : Store} {k : Nat} (hf : st.failure = .hang k) (j : Nat) :
    failAt st j = if k = j then some (.warning st.timeoutMsg) else none := by
  simp [failAt, hf]

theorem recvLoop_fail (ap : Bool) (st : Store) {k : Nat} {w : Frame}
    (hfa : ∀ j, failAt st j = if k = j then some w else none) (fs : List (Frame × Bool)) (i : Nat)
    (h1 : i ≤ k) (h2 : k ≤ i + fs.length) : w ∈ recvLoop ap st i fs := by
  induction fs generalizing i with
  | nil =>
    rw [recvLoop, hfa, if_pos (show k = i from Nat.le_antisymm h2 h1)]
    exact List.mem_singleton.mpr rfl
  | cons p rest ih =>
    rw [recvLoop_cons, hfa]
    by_cases hki : k = i
    · rw [if_pos hki]; exact List.mem_singleton.mpr rfl
    · have ih := ih (i + 1) (Nat.lt_of_le_of_ne h1 (Ne.symm hki)) (by rw [Nat.add_right_comm]; exact h2)
      rw [if_neg hki]
      cases p.1 with
      | series s => simp only; split; exact ih; exact List.mem_cons_of_mem _ ih
      | batch bs => exact List.mem_append_right _ ih
      | _ => exact List.mem_cons_of_mem _ ih

/-- `x` travels left through the reversed sorted prefix while it is `sortLess`: it is inserted, from the
    front, into the reversed prefix before the first element it is not less than -/
theorem insLoop_eq_ins (x : Frame) (rp passed : List Frame) :
    insLoop x rp passed = (OrderedInsert.ins (fun x p => ¬ sortLess x p = true) x rp).reverse ++ passed := by
  induction rp generalizing passed with
  | nil => rfl
  | cons p ps ih =>
    unfold insLoop OrderedInsert.ins
    cases sortLess x p with
    | true =>
      rw [if_pos rfl, if_neg (fun h => h rfl), ih, List.reverse_cons, List.append_assoc]
      rfl
    | false =>
      rw [if_neg Bool.false_ne_true, if_pos Bool.false_ne_true, List.reverse_cons (a := x), List.append_assoc]
      rfl

theorem goInsertionSort_eq (fs : List Frame) :
    goInsertionSort fs = (fs.reverse.foldr (OrderedInsert.ins (fun x p => ¬ sortLess x p = true)) []).reverse := by
  rw [List.foldr_reverse]
  -- `reverse` carries one `foldl` into the other: the prefix is kept reversed on the right
  exact List.foldl_hom List.reverse (init := []) fun acc x => by
    rw [insLoop_eq_ins, List.reverse_reverse, List.append_nil]

theorem goInsertionSort_perm (fs : List Frame) : (goInsertionSort fs).Perm fs := by
  rw [goInsertionSort_eq]
  exact (List.reverse_perm _).trans ((OrderedInsert.sort_perm (fun _ _ => rfl) _).trans (List.reverse_perm fs))

theorem mem_sortWithoutLabels_nonSeries (fs : List Frame) (names : List Bytes) {x : Frame}
    (hn : x.isSeries = false) : x ∈ sortWithoutLabels fs names ↔ x ∈ fs := by
  unfold sortWithoutLabels
  rw [(goInsertionSort_perm _).mem_iff, List.mem_map]
  constructor
  · rintro ⟨g, hg, rfl⟩
    cases g with
    | series s => revert hn; simp only; split <;> exact Bool.noConfusion
    | _ => exact hg
  · intro hx
    refine ⟨x, hx, ?_⟩
    cases x with
    | series s => cases hn
    | _ => rfl

theorem mem_sortWithoutLabels_nil (fs : List Frame) (x : Frame) : x ∈ sortWithoutLabels fs [] ↔ x ∈ fs := by
  unfold sortWithoutLabels
  rw [(goInsertionSort_perm _).mem_iff, List.map_congr_left (g := id) (fun f _ => by cases f <;> rfl), List.map_id]

theorem mem_respSet_nonSeries (lazy sharded : Bool) (without : List Bytes) (st : Store) {x : Frame}
    (hn : x.isSeries = false) :
    x ∈ respSet lazy sharded without st ↔ x ∈ recvLoop (sharded && !st.supportsSharding) st 0 st.frames := by
  unfold respSet
  simp only
  split
  · rfl
  · exact mem_sortWithoutLabels_nonSeries _ _ hn

theorem respSet_noBatch (lazy sharded : Bool) (without : List Bytes) (st : Store) :
    NoBatch (respSet lazy sharded without st) := by
  intro f hf ss he
  subst he
  exact recvLoop_noBatch _ st st.frames 0 _ ((mem_respSet_nonSeries _ _ _ st rfl).mp hf) ss rfl

theorem mem_respSet_lazy (lazy sharded : Bool) (without : List Bytes) (st : Store) (x : Frame) :
    x ∈ respSet lazy sharded without st ↔ x ∈ respSet false sharded without st := by
  cases lazy with
  | false => rfl
  | true =>
    unfold respSet
    cases h : (!st.supportsWithout && !without.isEmpty) with
    | true => rfl
    | false => exact (mem_sortWithoutLabels_nil _ x).symm

/-- a warning with a text (`resp.GetWarning() != ""`): what ends the response loop under the abort strategy -/
def Frame.isTextWarning : Frame → Bool
  | .warning m => !m.isEmpty
  | _ => false

theorem isTextWarning_warning {m : Bytes} (h : m ≠ []) : (Frame.warning m).isTextWarning = true := by
  cases m with
  | nil => exact absurd rfl h
  | cons _ _ => rfl

theorem respLoop_cons (abort : Bool) (i : Nat) (f : Frame) (rest : List Frame) :
    respLoop 0 abort i (f :: rest) =
      if abort && f.isTextWarning then ([], .aborted)
      else (f :: (respLoop 0 abort (i + 1) rest).1, (respLoop 0 abort (i + 1) rest).2) := by
  cases f with
  | warning m => rfl
  | _ => simp only [Frame.isTextWarning, Bool.and_false]; rfl

/-- without limit: `aborted` iff the abort strategy meets a warning with a text; otherwise everything is sent -/
theorem respLoop_eq (abort : Bool) (fs : List Frame) (i : Nat) :
    if abort && fs.any (·.isTextWarning) then (respLoop 0 abort i fs).2 = .aborted
    else respLoop 0 abort i fs = (fs, .ok) := by
  induction fs generalizing i with
  | nil => rw [List.any_nil, Bool.and_false]; exact rfl
  | cons f rest ih =>
    have ih := ih (i + 1)
    rw [respLoop_cons, List.any_cons, Bool.and_or_distrib_left]
    cases abort && f.isTextWarning with
    | true => exact rfl
    | false =>
      rw [Bool.false_or]
      by_cases hc : (abort && rest.any (·.isTextWarning)) = true
      · rw [if_pos hc] at ih ⊢; exact ih
      · rw [if_neg hc] at ih ⊢; rw [ih]; rfl

theorem respLoop_warn (fs : List Frame) (i : Nat) : respLoop 0 false i fs = (fs, .ok) :=
  respLoop_eq false fs i

theorem respLoop_abort_clean : ∀ (fs : List Frame) (i : Nat),
    (∀ m, Frame.warning m ∈ fs → m = []) → respLoop 0 true i fs = (fs, .ok) := by
  intro fs i h
  have hr := respLoop_eq true fs i
  rwa [if_neg] at hr
  rw [Bool.true_and, List.any_eq_true]
  rintro ⟨f, hf, hw⟩
  cases f with
  | warning m => rw [h m hf] at hw; cases hw
  | _ => cases hw

theorem rebatch_cons_nonSeries (n : Nat) (flush : Bool) (pend : List Series) {x : Frame}
    (h : x.isSeries = false) (rest : List Frame) :
    rebatch n flush pend (x :: rest) =
      (if pend.isEmpty then [] else [.batch pend]) ++ x :: rebatch n flush [] rest := by
  cases x with
  | series s => cases h
  | _ => rfl

theorem mem_rebatch_nonSeries (n : Nat) (flush : Bool) (fs : List Frame) (pend : List Series) (x : Frame)
    (h : x ∈ fs) (hn : x.isSeries = false) : x ∈ rebatch n flush pend fs := by
  induction fs generalizing pend with
  | nil => cases h
  | cons y rest ih =>
    cases y with
    | series s =>
      have hxr : x ∈ rest := (List.mem_cons.mp h).resolve_left (fun e => by rw [e] at hn; cases hn)
      unfold rebatch
      simp only
      split
      · exact List.mem_cons_of_mem _ (ih [] hxr)
      · exact ih _ hxr
    | _ =>
      rw [rebatch_cons_nonSeries n flush pend rfl]
      exact List.mem_append_right _ (List.mem_cons.mpr ((List.mem_cons.mp h).imp_right (ih [])))

theorem mem_serverOut_nonSeries {b : Nat} {flush : Bool} {fs : List Frame} {x : Frame}
    (hn : x.isSeries = false) (h : x ∈ fs) : x ∈ serverOut b flush fs := by
  unfold serverOut
  split
  · exact h
  · exact mem_rebatch_nonSeries b flush fs [] x h hn

def openWarnings (stores : List Store) : List Frame :=
  (stores.filter (·.openErr)).map (fun st => .warning st.openMsg)

def mergedOf (merge : List (List Frame) → List Frame) (rq : Request) (stores : List Store) : List Frame :=
  merge ((stores.filter (fun st => !st.openErr)).map (respSet rq.lazy rq.sharded rq.without))

/-- gives up iff the abort strategy meets a store that does not open; otherwise it leaves the open warnings and the
    response sets of the stores that opened -/
theorem fanOut_eq (rq : Request) (stores : List Store) :
    if rq.abort && stores.any (·.openErr) then (fanOut rq stores).2.2 = true
    else fanOut rq stores = (openWarnings stores,
      (stores.filter (fun st => !st.openErr)).map (respSet rq.lazy rq.sharded rq.without), false) := by
  unfold openWarnings
  induction stores with
  | nil => rw [List.any_nil, Bool.and_false]; exact rfl
  | cons st rest ih =>
    unfold fanOut
    rw [List.any_cons, List.filter_cons, List.filter_cons]
    cases st.openErr with
    | false =>
      rw [Bool.false_or]
      by_cases hc : (rq.abort && rest.any (·.openErr)) = true
      · rw [if_pos hc] at ih ⊢; exact ih
      · rw [if_neg hc] at ih ⊢; rw [ih]; rfl
    | true =>
      cases hab : rq.abort with
      | true => exact rfl
      | false => rw [hab] at ih; rw [show fanOut rq rest = _ from ih]; rfl

theorem mem_mergedOf {merge : List (List Frame) → List Frame} (hm : MergeMem merge) {rq : Request}
    {stores : List Store} {x : Frame} :
    x ∈ mergedOf merge rq stores ↔
      ∃ st ∈ stores, st.openErr = false ∧ x ∈ respSet rq.lazy rq.sharded rq.without st := by
  simp only [mergedOf, hm _ x, List.mem_map, List.mem_filter, Bool.not_eq_true', and_assoc]
  exact ⟨fun ⟨_, ⟨st, h1, h2, e⟩, hx⟩ => ⟨st, h1, h2, e ▸ hx⟩, fun ⟨st, h1, h2, hx⟩ => ⟨_, ⟨st, h1, h2, rfl⟩, hx⟩⟩

/-- what the response loop reads: the merged stream, through the deduplicator when the request asks for it -/
def respsOf (merge : List (List Frame) → List Frame) (rq : Request) (stores : List Store) : List Frame :=
  if rq.dedup then dedup rq.fixedDedup (mergedOf merge rq stores) else mergedOf merge rq stores

/-- without limit: under the abort strategy the call fails when there is no store, when a store does not open, or
    when a warning with a text is among the responses read; otherwise it succeeds, and the client is sent the open
    warnings and then every response -/
theorem proxy_eq (merge : List (List Frame) → List Frame) (rq : Request) (stores : List Store)
    (hlim : rq.limit = 0) :
    if stores.isEmpty && rq.abort || rq.abort && stores.any (·.openErr) ||
        rq.abort && (respsOf merge rq stores).any (·.isTextWarning) then
      (proxySeriesWith merge rq stores).2 ≠ .ok
    else proxySeriesWith merge rq stores =
      (serverOut rq.batchSize true (openWarnings stores ++ respsOf merge rq stores), .ok) := by
  have hfo := fanOut_eq rq stores
  have hr := respLoop_eq rq.abort (respsOf merge rq stores) 0
  unfold proxySeriesWith
  unfold respsOf mergedOf at hr ⊢
  cases h1 : stores.isEmpty && rq.abort with
  | true => exact nofun
  | false =>
    cases h2 : rq.abort && stores.any (·.openErr) with
    | true =>
      rw [h2] at hfo
      generalize fanOut rq stores = fo at hfo ⊢
      obtain ⟨ow, sets, failed⟩ := fo
      rw [show failed = true from hfo]
      exact nofun
    | false =>
      rw [h2] at hfo
      rw [show fanOut rq stores = _ from hfo, hlim]
      simp only [Bool.false_eq_true, if_false, Bool.false_or]
      generalize respLoop 0 rq.abort 0 _ = rl at hr ⊢
      generalize (if rq.dedup = true then _ else _ : List Frame) = resps at hr ⊢
      cases h3 : rq.abort && resps.any (·.isTextWarning) with
      | true => rw [h3] at hr; rw [hr]; exact nofun
      | false => rw [h3] at hr; rw [hr]; rfl

theorem proxy_warn (merge : List (List Frame) → List Frame) (rq : Request) (stores : List Store)
    (hab : rq.abort = false) (hlim : rq.limit = 0) :
    proxySeriesWith merge rq stores =
      (serverOut rq.batchSize true (openWarnings stores ++ respsOf merge rq stores), .ok) := by
  have h := proxy_eq merge rq stores hlim
  rw [hab, Bool.and_false] at h
  exact h

end Thanos.Merge
