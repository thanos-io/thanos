import Thanos.Model.Ring
/-
  The ring buffer is a bounded FIFO queue: simulation against a list.
-/
namespace Thanos.Ring

variable {α : Type}

/-- the ring `r` (with `m` slots) represents the queue `q` -/
structure Rep (r : Ring α) (m : Nat) (q : List α) : Prop where
  size : r.buf.length = m
  head : r.head < m
  tail : r.tail = (r.head + q.length) % m
  len : q.length < m
  slots : ∀ k, (hk : k < q.length) → r.buf[(r.head + k) % m]? = some (some q[k])

theorem mod_ne {h k l m : Nat} (hk : k < l) (hl : l < m) : (h + k) % m ≠ (h + l) % m := by
  intro he
  have h1 := Nat.sub_mod_eq_zero_of_mod_eq he.symm
  rw [Nat.add_sub_add_left, Nat.mod_eq_of_lt (Nat.lt_of_le_of_lt (Nat.sub_le l k) hl)] at h1
  exact Nat.sub_ne_zero_of_lt hk h1

theorem add_mod_eq_self {h k m : Nat} (hh : h < m) (hk : k ≤ m) : (h + k) % m = h ↔ k = 0 ∨ k = m := by
  constructor
  · intro he
    by_cases h0 : k = 0
    · exact .inl h0
    · refine .inr (Nat.le_antisymm hk (Nat.le_of_not_lt fun hlt => ?_))
      exact mod_ne (h := h) (Nat.pos_of_ne_zero h0) hlt (by rw [Nat.add_zero, Nat.mod_eq_of_lt hh, he])
  · rintro (rfl | rfl)
    · exact Nat.mod_eq_of_lt hh
    · rw [Nat.add_mod_right, Nat.mod_eq_of_lt hh]

theorem rep_new (n : Nat) : Rep (Ring.new n : Ring α) (n + 1) [] := by
  refine ⟨by simp [Ring.new], by simp [Ring.new], by simp [Ring.new], by simp, ?_⟩
  intro k hk; simp at hk

theorem rep_isEmpty {r : Ring α} {m : Nat} {q : List α} (h : Rep r m q) : r.isEmpty = true ↔ q = [] := by
  rw [Ring.isEmpty, decide_eq_true_eq, h.tail, eq_comm, add_mod_eq_self h.head (Nat.le_of_lt h.len),
    List.length_eq_zero_iff]
  exact or_iff_left (Nat.ne_of_lt h.len)

theorem rep_isFull {r : Ring α} {m : Nat} {q : List α} (h : Rep r m q) : r.isFull = true ↔ q.length + 1 = m := by
  rw [Ring.isFull, Ring.size, h.size, decide_eq_true_eq, h.tail, Nat.mod_add_mod, Nat.add_assoc,
    add_mod_eq_self h.head h.len]
  exact or_iff_right (Nat.succ_ne_zero _)

theorem rep_append {r : Ring α} {m : Nat} {q : List α} (h : Rep r m q) (x : α) (hq : q.length + 1 < m) :
    ∃ r', r.append x = some r' ∧ Rep r' m (q ++ [x]) := by
  have hnf : r.isFull = false := Bool.eq_false_iff.mpr fun hf => Nat.ne_of_lt hq ((rep_isFull h).mp hf)
  refine ⟨{ r with buf := r.buf.set r.tail (some x), tail := (r.tail + 1) % r.size }, by simp [Ring.append, hnf], ?_⟩
  have htl : r.tail < m := by rw [h.tail]; exact Nat.mod_lt _ (Nat.zero_lt_of_lt h.head)
  refine ⟨by simp [h.size], h.head, ?_, by rw [List.length_append]; exact hq, ?_⟩
  · simp only [Ring.size, h.size, List.length_append, List.length_singleton]
    rw [h.tail, Nat.mod_add_mod, Nat.add_assoc]
  · intro k hk
    simp only [List.length_append, List.length_singleton] at hk
    by_cases hkl : k < q.length
    · have hne : r.tail ≠ (r.head + k) % m := by rw [h.tail]; exact (mod_ne hkl h.len).symm
      rw [List.getElem?_set_ne hne, h.slots k hkl]
      simp [List.getElem_append_left hkl]
    · have hkq : k = q.length := Nat.le_antisymm (Nat.le_of_lt_succ hk) (Nat.le_of_not_lt hkl)
      subst hkq
      rw [← h.tail, List.getElem?_set_self (by rw [h.size]; exact htl)]
      simp

theorem rep_pop {r : Ring α} {m : Nat} {x : α} {q : List α} (h : Rep r m (x :: q)) :
    r.pop.1 = some x ∧ Rep r.pop.2 m q := by
  have h0 := h.slots 0 (Nat.succ_pos _)
  simp only [Nat.add_zero, Nat.mod_eq_of_lt h.head, List.getElem_cons_zero] at h0
  refine ⟨by simp [Ring.pop, h0], ?_⟩
  refine ⟨h.size, ?_, ?_, Nat.lt_of_succ_lt h.len, ?_⟩
  · simp only [Ring.pop, Ring.size, h.size]; exact Nat.mod_lt _ (Nat.zero_lt_of_lt h.head)
  · simp only [Ring.pop, Ring.size, h.size]
    rw [h.tail, Nat.mod_add_mod, Nat.add_assoc, Nat.add_comm 1]
    rfl
  · intro k hk
    simp only [Ring.pop, Ring.size, h.size]
    rw [Nat.mod_add_mod, Nat.add_assoc, Nat.add_comm 1]
    exact h.slots (k + 1) (Nat.succ_lt_succ hk)

/-- the specification: a FIFO queue of capacity `cap` under the same scripts -/
def runQueue (cap : Nat) : List α → List (Op α) → List (Option α) × List α
  | q, [] => ([], q)
  | q, .app x :: ops => if q.length < cap then runQueue cap (q ++ [x]) ops else runQueue cap q ops
  | [], .pop :: ops => runQueue cap [] ops
  | x :: q, .pop :: ops =>
    let (vs, qf) := runQueue cap q ops
    (some x :: vs, qf)

theorem run_refines (cap : Nat) (ops : List (Op α)) (r : Ring α) (q : List α) (h : Rep r (cap + 1) q) :
    (run r ops).1 = (runQueue cap q ops).1 ∧ Rep (run r ops).2 (cap + 1) (runQueue cap q ops).2 := by
  induction ops generalizing r q with
  | nil => exact ⟨rfl, h⟩
  | cons op ops ih =>
    cases op with
    | app x =>
      unfold run runQueue
      by_cases hq : q.length < cap
      · obtain ⟨r', hr', hrep⟩ := rep_append h x (Nat.succ_lt_succ hq)
        rw [hr', if_pos hq]
        exact ih r' _ hrep
      · have hfull : r.isFull = true :=
          (rep_isFull h).mpr (congrArg (· + 1) (Nat.le_antisymm (Nat.le_of_lt_succ h.len) (Nat.le_of_not_lt hq)))
        simp only [Ring.append, hfull, if_true, if_neg hq]
        exact ih r q h
    | pop =>
      cases q with
      | nil =>
        have : r.isEmpty = true := (rep_isEmpty h).mpr rfl
        simp only [run, this, if_true, runQueue]
        exact ih r [] h
      | cons x q =>
        have hne : r.isEmpty = false := Bool.eq_false_iff.mpr fun he => nomatch (rep_isEmpty h).mp he
        obtain ⟨hv, hrep⟩ := rep_pop h
        have ih := ih r.pop.2 q hrep
        simp only [run, hne, Bool.false_eq_true, if_false, runQueue]
        exact ⟨by rw [hv, ih.1], ih.2⟩

end Thanos.Ring
