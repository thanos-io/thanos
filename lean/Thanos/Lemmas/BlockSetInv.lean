import Thanos.Lemmas.BlockSet
/-
  The invariant `WF` of a `bucketBlockSet` (C15): levels in descending resolution, each holding blocks of its resolution
  sorted by min time.  Replacing one level by a sorted list of its resolution keeps it (`WF.set`, hence `add_wf` and
  `remove_wf`), and over any `WF` set the answer of `getFor` stays within the maximum resolution and covers what an
  allowed block covers (`resolution_wf`, `cover_wf`); that it repeats no block needs no invariant, only distinct blocks
  (`getFor_nodup`).  Props/C15.lean instantiates these with the sets built by `add` alone and with those reachable by
  `add` and `remove`.
-/
namespace Thanos.BlockSet

structure WF (s : BSet) : Prop where
  desc : s.ress.Pairwise (fun a b => a > b)
  len : s.blocks.length = s.ress.length
  typed : ∀ (i : Nat) (l : List Block) (r : Int), s.blocks[i]? = some l → s.ress[i]? = some r → ∀ b ∈ l, b.res = r
  sorted : ∀ l ∈ s.blocks, SortedByMin l

theorem empty_levels : ∀ l ∈ empty.blocks, l = [] := by decide

theorem empty_flatten : empty.blocks.flatten = [] := rfl

theorem empty_wf : WF empty :=
  ⟨by decide, rfl, fun _ l _ hl _ _ hb => (nomatch empty_levels l (List.mem_of_getElem? hl) ▸ hb),
    fun l hl => empty_levels l hl ▸ List.Pairwise.nil⟩

theorem WF.level_res {s : BSet} (h : WF s) {j : Nat} {l : List Block} (hl : s.blocks[j]? = some l) :
    ∃ r, s.ress[j]? = some r ∧ ∀ b ∈ l, b.res = r :=
  have hj : j < s.ress.length := h.len ▸ (List.getElem?_eq_some_iff.mp hl).1
  ⟨s.ress[j], List.getElem?_eq_getElem hj, h.typed j l _ hl (List.getElem?_eq_getElem hj)⟩

/-- `add` and `remove` both replace one level: by a list of the level's resolution that is sorted -/
theorem WF.set {s : BSet} (h : WF s) {i : Nat} {l l' : List Block} {r : Int} (hl : s.blocks[i]? = some l)
    (hr : s.ress[i]? = some r) (ht : ∀ b ∈ l', b.res = r) (hs : SortedByMin l') :
    WF { s with blocks := s.blocks.set i l' } := by
  refine ⟨h.desc, List.length_set.trans h.len, fun j k r' hk hr' x hx => ?_, fun k hk => ?_⟩
  · by_cases hij : i = j
    · subst hij
      obtain rfl := Option.some.inj ((List.getElem?_set_self (List.getElem?_eq_some_iff.mp hl).1).symm.trans hk)
      exact Option.some.inj (hr.symm.trans hr') ▸ ht x hx
    · exact h.typed j k r' ((List.getElem?_set_ne hij).symm.trans hk) hr' x hx
  · rcases List.mem_or_eq_of_mem_set hk with hk | rfl
    · exact h.sorted k hk
    · exact hs

theorem add_wf {s s' : BSet} {b : Block} (h : WF s) (ha : add s b = some s') : WF s' := by
  obtain ⟨bl, hbl, rfl⟩ := add_eq_some ha
  obtain ⟨i, l, hl, hr, rfl⟩ := addAt_eq_set hbl
  exact h.set hl hr (fun x hx => ((mem_insert b l x).mp hx).elim (· ▸ rfl) (h.typed i l _ hl hr x))
    (insert_sorted b l (h.sorted l (List.mem_of_getElem? hl)))

theorem addAll_wf (bs : List Block) (s : BSet) (h : WF s) : WF (addAll s bs).1 := by
  fun_induction addAll s bs with
  | case1 => exact h
  | case2 s b bs s' ha ih => exact ih (add_wf h ha)
  | case3 s b bs ha s'' n e ih => exact (congrArg Prod.fst e) ▸ ih h

theorem resolution_wf {dd guard : Bool} {s : BSet} (h : WF s) {mint maxt maxRes : Int} {r : List Block} {b : Block}
    (hg : getFor dd guard s mint maxt maxRes = some r) (hb : b ∈ r) : b.res ≤ maxRes := by
  obtain ⟨⟨l, hl, hbl⟩, _⟩ := getFor_sound hg hb
  obtain ⟨k, hk⟩ := List.mem_iff_getElem?.mp hl
  rw [List.getElem?_drop] at hk
  obtain ⟨rk, hrk, hres⟩ := h.level_res hk
  exact hres b hbl ▸ le_of_firstIdx_le s.ress maxRes _ rk h.desc (Nat.le_add_right _ _) hrk

theorem cover_wf {dd guard : Bool} {s : BSet} (h : WF s) {mint maxt maxRes t : Int} {r : List Block}
    (hkeep : ∀ l ∈ s.blocks, ∀ b ∈ l, b.keep = true)
    (hg : getFor dd guard s mint maxt maxRes = some r) (h1 : mint ≤ t) (h2 : t ≤ maxt)
    (hex : ∃ l ∈ s.blocks, ∃ b ∈ l, b.res ≤ maxRes ∧ covers b t) : ∃ b' ∈ r, covers b' t := by
  obtain ⟨l, hl, b, hb, hres, hc⟩ := hex
  obtain ⟨j, hj⟩ := List.mem_iff_getElem?.mp hl
  obtain ⟨rj, hrj, hbres⟩ := h.level_res hj
  have hge : firstIdx s.ress maxRes ≤ j := firstIdx_le_of_le hrj (hbres b hb ▸ hres)
  obtain rfl := getFor_eq_some hg
  refine getForL_cover dd _ mint maxt t (fun l' hl' => h.sorted l' (List.mem_of_mem_drop hl')) h1 h2
    ⟨l, ?_, b, hb, hc⟩ (fun l' hl' => hkeep l' (List.mem_of_mem_drop hl'))
  refine List.mem_of_getElem? (i := j - firstIdx s.ress maxRes) ?_
  rw [List.getElem?_drop, Nat.add_sub_cancel' hge]
  exact hj

theorem getFor_nodup {guard : Bool} {s : BSet} (hd : s.blocks.flatten.Nodup) {mint maxt maxRes : Int} {r : List Block}
    (hg : getFor true guard s mint maxt maxRes = some r) : r.Nodup := by
  obtain rfl := getFor_eq_some hg
  refine getForL_nodup _ mint maxt ?_
  rw [← List.take_append_drop (firstIdx s.ress maxRes) s.blocks, List.flatten_append, List.nodup_append] at hd
  exact hd.2.1

theorem remove_wf {s : BSet} (h : WF s) (id : Nat) : WF (remove s id) := by
  unfold remove
  rcases removeLevels_eq_set id s.blocks with e | ⟨i, l, l', hl, hsub, e⟩
  · rw [e]
    exact h
  · obtain ⟨r, hr, ht⟩ := h.level_res hl
    rw [e]
    exact h.set hl hr (fun b hb => ht b (hsub.subset hb)) ((h.sorted l (List.mem_of_getElem? hl)).sublist hsub)

end Thanos.BlockSet
