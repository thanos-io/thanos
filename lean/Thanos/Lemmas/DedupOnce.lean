import Thanos.Model.Merge
import Thanos.Lemmas.Order
import Thanos.Lemmas.Chain
import Thanos.Lemmas.Proxy
/-
  The response deduplicator.  `dedupGo` emits its pending non-series responses in front of whatever
  follows (`dedupGo_pending`), so they pass through in order and the series it emits are a function
  of the series of its input: the chains of the runs of consecutive label-equal series (`runs`;
  both in `dedupGo_parts`).  What C03 / C06 say about the deduplicator are facts about
  `runs`: concatenated they are the input, a run is label-equal, and over a label-sorted input the
  runs have strictly increasing labels.
-/
namespace Thanos.Merge

theorem dedupGo_cons_nonSeries (fixed : Bool) (same : Option (Series × List Series)) (pending : List Frame)
    {x : Frame} (h : x.isSeries = false) (rest : List Frame) :
    dedupGo fixed same pending (x :: rest) = dedupGo fixed same (pending ++ [x]) rest := by
  cases x with
  | series s => cases h
  | _ => rfl

theorem dedupGo_cons_series (fixed : Bool) (f : Series) (r : List Series) (pending : List Frame) (t : Series)
    (rest : List Frame) :
    dedupGo fixed (some (f, r)) pending (.series t :: rest) =
      if cmpLabels f.lbls t.lbls = .eq then dedupGo fixed (some (f, r ++ [t])) pending rest
      else pending ++ .series (chain fixed f r) :: dedupGo fixed (some (t, [])) [] rest := rfl

theorem dedupGo_pending (fixed : Bool) (fs : List Frame) (same : Option (Series × List Series))
    (pending : List Frame) : dedupGo fixed same pending fs = pending ++ dedupGo fixed same [] fs := by
  induction fs generalizing same pending with
  | nil => rfl
  | cons x rest ih =>
    cases x with
    | series s =>
      cases same with
      | none => exact ih _ pending
      | some p =>
        rw [dedupGo_cons_series, dedupGo_cons_series]
        split
        · exact ih _ pending
        · rfl
    | _ =>
      rw [dedupGo_cons_nonSeries _ _ _ rfl, dedupGo_cons_nonSeries _ _ _ rfl, ih same (pending ++ _), ih same ([] ++ _)]
      exact List.append_assoc ..

/-- the runs of consecutive label-equal series that `responseDeduplicator` chains; `same` is the run
    under collection -/
def runs : Option (Series × List Series) → List Series → List (Series × List Series)
  | same, [] => same.toList
  | none, s :: rest => runs (some (s, [])) rest
  | some (f, r), s :: rest =>
    if cmpLabels f.lbls s.lbls = .eq then runs (some (f, r ++ [s])) rest
    else (f, r) :: runs (some (s, [])) rest

theorem runs_join (ss : List Series) (same : Option (Series × List Series)) :
    (runs same ss).flatMap (fun p => p.1 :: p.2) = same.toList.flatMap (fun p => p.1 :: p.2) ++ ss := by
  -- arms: end of input; the first series opens a run; `s` joins the run of `f`; `s` closes it and opens the next
  fun_induction runs same ss with
  | case1 same => simp
  | case2 s rest ih => simpa using ih
  | case3 f r s rest he ih => simpa using ih
  | case4 f r s rest he ih => simpa using ih

theorem mem_runs_join {ss : List Series} {x : Series} : x ∈ ss ↔ ∃ p ∈ runs none ss, x ∈ p.1 :: p.2 := by
  rw [← List.mem_flatMap, runs_join]; rfl

theorem runs_labelEq (ss : List Series) (same : Option (Series × List Series))
    (h : ∀ p ∈ same, ∀ x ∈ p.2, cmpLabels p.1.lbls x.lbls = .eq) :
    ∀ p ∈ runs same ss, ∀ x ∈ p.2, cmpLabels p.1.lbls x.lbls = .eq := by
  fun_induction runs same ss with
  | case1 same => exact fun p hp => h p (Option.mem_toList.mp hp)
  | case2 s rest ih => exact ih (fun p hp => by cases hp; exact fun _ hx => nomatch hx)
  | case3 f r s rest he ih =>
    refine ih (fun p hp => ?_)
    cases hp
    exact List.forall_mem_append.mpr ⟨h _ rfl, List.forall_mem_singleton.mpr he⟩
  | case4 f r s rest he ih => exact List.forall_mem_cons.mpr ⟨h _ rfl, ih (fun p hp => by cases hp; exact fun _ hx => nomatch hx)⟩

theorem runs_fst (ss : List Series) (same : Option (Series × List Series)) :
    ∀ p ∈ runs same ss, p.1 ∈ same.toList.map (·.1) ++ ss := by
  fun_induction runs same ss with
  | case1 same => exact fun p hp => List.mem_append_left _ (List.mem_map_of_mem hp)
  | case2 s rest ih => exact ih
  | case3 f r s rest he ih => exact fun p hp => ((List.sublist_cons_self s rest).cons_cons f).subset (ih p hp)
  | case4 f r s rest he ih =>
    exact List.forall_mem_cons.mpr ⟨List.mem_cons_self, fun p hp => List.mem_cons_of_mem _ (ih p hp)⟩

theorem runs_sorted (ss : List Series) (same : Option (Series × List Series))
    (hs : ss.Pairwise (fun a b => lblLe a.lbls b.lbls)) (hlow : ∀ p ∈ same, ∀ s ∈ ss, lblLe p.1.lbls s.lbls) :
    (runs same ss).Pairwise (fun p q => cmpLabels p.1.lbls q.1.lbls = .lt) := by
  fun_induction runs same ss with
  | case1 same => cases same <;> simp
  | case2 s rest ih =>
    have hc := List.pairwise_cons.mp hs
    exact ih hc.2 (fun p hp => by cases hp; exact hc.1)
  | case3 f r s rest he ih =>
    exact ih (List.pairwise_cons.mp hs).2 (fun p hp x hx => by cases hp; exact hlow _ rfl x (List.mem_cons_of_mem _ hx))
  | case4 f r s rest hne ih =>
    have hc := List.pairwise_cons.mp hs
    refine List.pairwise_cons.mpr ⟨fun q hq => ?_, ih hc.2 (fun p hp => by cases hp; exact hc.1)⟩
    have hlt : cmpLabels f.lbls s.lbls = .lt := by
      have hle := hlow _ rfl s List.mem_cons_self
      cases hfs : cmpLabels f.lbls s.lbls with
      | lt => rfl
      | eq => exact absurd hfs hne
      | gt => exact absurd hfs hle
    rcases List.mem_cons.mp (runs_fst rest _ q hq) with h | h
    · rw [h]; exact hlt
    · exact lawful_labels.lt_of_lt_of_le hlt (hc.1 _ h)

theorem dedupGo_parts (fixed : Bool) (fs : List Frame) (same : Option (Series × List Series)) :
    (dedupGo fixed same [] fs).filter (fun x => !x.isSeries) = fs.filter (fun x => !x.isSeries) ∧
    seriesOf (dedupGo fixed same [] fs) = (runs same (seriesOf fs)).map (fun p => chain fixed p.1 p.2) := by
  induction fs generalizing same with
  | nil => cases same <;> exact ⟨rfl, rfl⟩
  | cons x rest ih =>
    cases x with
    | series t =>
      cases same with
      | none => exact ih _
      | some p =>
        rw [dedupGo_cons_series, seriesOf_cons_series, runs]
        split
        · exact ih _
        · exact ⟨(ih _).1, congrArg (_ :: ·) (ih _).2⟩
    | _ =>
      rw [dedupGo_cons_nonSeries _ _ _ rfl, dedupGo_pending, seriesOf_cons_nonSeries rfl]
      exact ⟨congrArg (_ :: ·) (ih same).1, (ih same).2⟩

theorem mem_dedup_nonSeries (fixed : Bool) (fs : List Frame) {x : Frame} (hx : x.isSeries = false) :
    x ∈ dedup fixed fs ↔ x ∈ fs := by
  have := congrArg (x ∈ ·) (dedupGo_parts fixed fs none).1
  simpa [List.mem_filter, hx, dedup] using this

theorem seriesOf_dedup (fixed : Bool) (fs : List Frame) :
    seriesOf (dedup fixed fs) = (runs none (seriesOf fs)).map (fun p => chain fixed p.1 p.2) :=
  (dedupGo_parts fixed fs none).2

/-- for any run under collection and any pending responses; the second conjunct says where an output label comes
    from.  `dedup_sorted` reads the first conjunct at `none`, `[]`; to build on: `seriesOf_dedup` with `runs_sorted` -/
theorem dedupGo_sorted (fixed : Bool) : ∀ (fs : List Frame) (same : Option (Series × List Series))
    (pending : List Frame), NoSeries pending → SortedSeries fs →
    (∀ f r, same = some (f, r) → ∀ s ∈ seriesOf fs, lblLe f.lbls s.lbls) →
    (seriesOf (dedupGo fixed same pending fs)).Pairwise (fun a b => cmpLabels a.lbls b.lbls = .lt) ∧
    (∀ o ∈ seriesOf (dedupGo fixed same pending fs),
      (∃ s ∈ seriesOf fs, o.lbls = s.lbls) ∨ (∃ f r, same = some (f, r) ∧ o.lbls = f.lbls)) := by
  intro fs same pending hp hs hlow
  rw [dedupGo_pending, seriesOf_append, seriesOf_nonSeries pending hp, List.nil_append, (dedupGo_parts fixed fs same).2]
  constructor
  · rw [List.pairwise_map]
    simp only [chain_lbls]
    exact runs_sorted _ same hs (fun p hp => hlow p.1 p.2 hp)
  · intro o ho
    obtain ⟨p, hp, rfl⟩ := List.mem_map.mp ho
    rw [chain_lbls]
    rcases List.mem_append.mp (runs_fst _ same p hp) with h | h
    · obtain ⟨q, hq, h⟩ := List.mem_map.mp h
      exact .inr ⟨q.1, q.2, Option.mem_toList.mp hq, congrArg Series.lbls h.symm⟩
    · exact .inl ⟨_, h, rfl⟩

theorem dedup_sorted (fixed : Bool) {fs : List Frame} (h : SortedSeries fs) :
    (seriesOf (dedup fixed fs)).Pairwise (fun a b => cmpLabels a.lbls b.lbls = .lt) :=
  (dedupGo_sorted fixed fs none [] (fun _ h => nomatch h) h (fun _ _ h => nomatch h)).1

end Thanos.Merge
