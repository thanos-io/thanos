import Thanos.Model.Iter
import Thanos.Lemmas.IterBasic
import Thanos.Lemmas.PenaltyMerge
/-
  "Behaves like a list iterator": an abstraction function `abs` from iterator states to the list
  of remaining samples (head = current sample), under which `Next` is `tail` and `Seek t` is
  `dropLt t`.  The list iterator satisfies it, and `dedupSeriesIterator` over two iterators that
  satisfy it satisfies it again, with `abs = current :: pm2 …` (`node_listLike`).  This is what makes
  the N-replica fold compositional (`GoodL`, `node_goodL`: good for `pmFold` of the replicas).  Whoever reads a good
  iterator sees the list: with `Next` (`drain_good`), after a first `Seek` (`seekDrain_good`), by any script of
  calls (`run_specF`).
-/
namespace Thanos.Dedup

/-- laws of a started (positioned or exhausted) iterator state -/
structure ListLike {σ : Type} (o : Ops σ) (V : σ → Prop) (abs : σ → List Sample) : Prop where
  lower : ∀ s, V s → ∀ x ∈ abs s, minT < x.t
  atS : ∀ s, V s → abs s ≠ [] → o.atS s = (abs s).head?
  atT : ∀ s, V s → abs s ≠ [] → o.atT s = (abs s).head?.map (·.t)
  seekV : ∀ s t, V s → abs s ≠ [] → V (o.seek t s).1
  seekAbs : ∀ s t, V s → abs s ≠ [] → abs (o.seek t s).1 = dropLt t (abs s)
  seekOk : ∀ s t, V s → abs s ≠ [] → (o.seek t s).2 = !(dropLt t (abs s)).isEmpty
  nextV : ∀ s, V s → abs s ≠ [] → V (o.next s).1
  nextAbs : ∀ s, V s → abs s ≠ [] → abs (o.next s).1 = (abs s).tail
  nextOk : ∀ s, V s → abs s ≠ [] → (o.next s).2 = !(abs s).tail.isEmpty
  adjustV : ∀ s v, V s → abs s ≠ [] → V (o.adjust v s)
  adjustAbs : ∀ s v, V s → abs s ≠ [] → abs (o.adjust v s) = abs s
  bad : ∀ s, V s → o.bad s = false
  fuel : ∀ s, V s → (abs s).length ≤ o.fuel s

/-- laws of a state on which no method has been called yet; `L` = the samples it will yield -/
structure InitLike {σ : Type} (o : Ops σ) (V : σ → Prop) (abs : σ → List Sample) (s0 : σ)
    (L : List Sample) : Prop where
  lower : ∀ x ∈ L, minT < x.t
  nextV : V (o.next s0).1
  nextAbs : abs (o.next s0).1 = L
  nextOk : (o.next s0).2 = !L.isEmpty
  seekV : ∀ t, V (o.seek t s0).1
  seekAbs : ∀ t, abs (o.seek t s0).1 = dropLt t L
  seekOk : ∀ t, (o.seek t s0).2 = !(dropLt t L).isEmpty
  fuel : L.length ≤ o.fuel s0 + 1

/-- the part of `InitLike` that concerns `Next` only (enough for reading with `Next`, and for
    being a side of a `dedupSeriesIterator`, whose constructor calls `Next`) -/
structure InitNext {σ : Type} (o : Ops σ) (V : σ → Prop) (abs : σ → List Sample) (s0 : σ)
    (L : List Sample) : Prop where
  lower : ∀ x ∈ L, minT < x.t
  nextV : V (o.next s0).1
  nextAbs : abs (o.next s0).1 = L
  nextOk : (o.next s0).2 = !L.isEmpty
  fuel : L.length ≤ o.fuel s0 + 1

/-- the result `r` of a call (new state, "a sample is there") on an iterator that has the samples
    `L` left: the form of every `Next`/`Seek` law -/
structure Leaves {σ : Type} (V : σ → Prop) (abs : σ → List Sample) (r : σ × Bool) (L : List Sample) :
    Prop where
  v : V r.1
  eq : abs r.1 = L
  ok : r.2 = !L.isEmpty

section
variable {σ : Type} {o : Ops σ} {V : σ → Prop} {abs : σ → List Sample} {s0 : σ} {L : List Sample}

theorem InitNext.next_leaves (h : InitNext o V abs s0 L) : Leaves V abs (o.next s0) L :=
  ⟨h.nextV, h.nextAbs, h.nextOk⟩

theorem InitLike.seek_leaves (h : InitLike o V abs s0 L) (t : Int) :
    Leaves V abs (o.seek t s0) (dropLt t L) :=
  ⟨h.seekV t, h.seekAbs t, h.seekOk t⟩

theorem InitLike.toNext (h : InitLike o V abs s0 L) : InitNext o V abs s0 L :=
  ⟨h.lower, h.nextV, h.nextAbs, h.nextOk, h.fuel⟩
end

theorem ne_nil_of_flag {l : List Sample} (h : true = !l.isEmpty) : l ≠ [] :=
  fun e => by rw [e] at h; cases h

theorem eq_nil_of_flag {l : List Sample} (h : false = !l.isEmpty) : l = [] := by
  cases l with
  | nil => rfl
  | cons _ _ => cases h

theorem ne_nil_of_cons {l : List Sample} {x : Sample} {t : List Sample} (e : l = x :: t) : l ≠ [] :=
  e ▸ List.cons_ne_nil x t

theorem isEmpty_false_of_cons {x : Sample} {l : List Sample} : (!(x :: l).isEmpty) = true := rfl

namespace ListLike
variable {σ : Type} {o : Ops σ} {V : σ → Prop} {abs : σ → List Sample}

/-- `ListLike` from its laws in the form in which the instances prove them -/
theorem of_leaves (lower : ∀ s, V s → ∀ x ∈ abs s, minT < x.t)
    (shows : ∀ s, V s → abs s ≠ [] → o.atS s = (abs s).head? ∧ o.atT s = (abs s).head?.map (·.t))
    (seek : ∀ s t, V s → abs s ≠ [] → Leaves V abs (o.seek t s) (dropLt t (abs s)))
    (next : ∀ s, V s → abs s ≠ [] → Leaves V abs (o.next s) (abs s).tail)
    (adjust : ∀ s v, V s → abs s ≠ [] → V (o.adjust v s) ∧ abs (o.adjust v s) = abs s)
    (bad : ∀ s, V s → o.bad s = false) (fuel : ∀ s, V s → (abs s).length ≤ o.fuel s) : ListLike o V abs where
  lower := lower
  atS := fun s h n => (shows s h n).1
  atT := fun s h n => (shows s h n).2
  seekV := fun s t h n => (seek s t h n).v
  seekAbs := fun s t h n => (seek s t h n).eq
  seekOk := fun s t h n => (seek s t h n).ok
  nextV := fun s h n => (next s h n).v
  nextAbs := fun s h n => (next s h n).eq
  nextOk := fun s h n => (next s h n).ok
  adjustV := fun s v h n => (adjust s v h n).1
  adjustAbs := fun s v h n => (adjust s v h n).2
  bad := bad
  fuel := fuel

theorem seek_leaves (h : ListLike o V abs) {s : σ} (hV : V s) (hne : abs s ≠ []) (t : Int) :
    Leaves V abs (o.seek t s) (dropLt t (abs s)) :=
  ⟨h.seekV s t hV hne, h.seekAbs s t hV hne, h.seekOk s t hV hne⟩

theorem next_leaves (h : ListLike o V abs) {s : σ} (hV : V s) (hne : abs s ≠ []) :
    Leaves V abs (o.next s) (abs s).tail :=
  ⟨h.nextV s hV hne, h.nextAbs s hV hne, h.nextOk s hV hne⟩

theorem next_cons (h : ListLike o V abs) {s : σ} {x : Sample} {l : List Sample}
    (hV : V s) (e : abs s = x :: l) : Leaves V abs (o.next s) l := by
  have := h.next_leaves hV (ne_nil_of_cons e)
  rwa [e] at this

theorem atS_cons (h : ListLike o V abs) {s : σ} {x : Sample} {l : List Sample} (hV : V s)
    (e : abs s = x :: l) : o.atS s = some x := by
  rw [h.atS s hV (ne_nil_of_cons e), e]; rfl

theorem atT_cons (h : ListLike o V abs) {s : σ} {x : Sample} {l : List Sample} (hV : V s)
    (e : abs s = x :: l) : o.atT s = some x.t := by
  rw [h.atT s hV (ne_nil_of_cons e), e]; rfl

/-- `if val != ValNone { val = it.Seek(t) }` on a state whose flag `av` tells whether samples
    remain: `dropLt t` in either case -/
theorem seekIf (h : ListLike o V abs) {s : σ} (hV : V s) {av : Bool} (hav : av = !(abs s).isEmpty)
    (t : Int) : Leaves V abs (seekIf o t s av) (dropLt t (abs s)) := by
  cases av with
  | true => exact h.seek_leaves hV (ne_nil_of_flag hav) t
  | false =>
    have he := eq_nil_of_flag hav
    exact ⟨hV, by rw [he]; exact he, by rw [he]; rfl⟩

/-- `if val != ValNone { it.adjustAtValue(v) }`: nothing changes that a reader of samples sees -/
theorem adjustIf (h : ListLike o V abs) {s : σ} (hV : V s) {av : Bool} (hav : av = !(abs s).isEmpty)
    (v : Int) :
    V (if av then o.adjust v s else s) ∧ abs (if av then o.adjust v s else s) = abs s := by
  cases av with
  | true => exact ⟨h.adjustV s v hV (ne_nil_of_flag hav), h.adjustAbs s v hV (ne_nil_of_flag hav)⟩
  | false => exact ⟨hV, rfl⟩

theorem seek_le_head (h : ListLike o V abs) {s : σ} {x : Sample} (hV : V s)
    (hx : (abs s).head? = some x) {t : Int} (ht : t ≤ x.t) :
    V (o.seek t s).1 ∧ abs (o.seek t s).1 = abs s ∧ (o.seek t s).2 = true := by
  obtain ⟨l, e⟩ := List.head?_eq_some_iff.mp hx
  have := h.seek_leaves hV (ne_nil_of_cons e) t
  rw [e, dropLt_cons_ge ht] at this
  exact ⟨this.v, this.eq.trans e.symm, this.ok⟩

theorem drainN_tail (h : ListLike o V abs) : ∀ (n : Nat) (s : σ), V s → abs s ≠ [] →
    drainN o n s = (abs s).tail.take n := by
  intro n
  induction n with
  | zero => intro s _ _; rfl
  | succ n ih =>
    intro s hV hne
    unfold drainN
    simp only [h.nextOk s hV hne]
    cases htl : (abs s).tail with
    | nil => rfl
    | cons x tl =>
      have e : abs (o.next s).1 = x :: tl := (h.nextAbs s hV hne).trans htl
      have hV' := h.nextV s hV hne
      simp only [List.isEmpty_cons, Bool.not_false, if_true, h.atS_cons hV' e, List.take_succ_cons]
      rw [ih _ hV' (ne_nil_of_cons e), e]
      rfl

/-- reading `At()` after a call `r` and going on with `Next` -/
theorem read_after (h : ListLike o V abs) {r : σ × Bool} {L' : List Sample} (hr : Leaves V abs r L')
    {n : Nat} (hn : L'.length ≤ n + 1) :
    (if r.2 then
      match o.atS r.1 with
      | some x => x :: drainN o n r.1
      | none => []
    else []) = L' := by
  obtain ⟨hV, e, hok⟩ := hr
  cases L' with
  | nil => rw [hok]; rfl
  | cons x tl =>
    rw [hok, h.atS_cons hV e, h.drainN_tail n _ hV (ne_nil_of_cons e), e]
    exact congrArg (x :: ·) (List.take_of_length_le (Nat.le_of_succ_le_succ hn))

end ListLike

/-- a fresh state is described by the list-like state its first `Next` leaves -/
theorem InitNext.of_next {σ : Type} {o : Ops σ} {V : σ → Prop} {abs : σ → List Sample} (h : ListLike o V abs)
    {s0 : σ} (hV : V (o.next s0).1) (hok : (o.next s0).2 = !(abs (o.next s0).1).isEmpty)
    (hf : o.fuel (o.next s0).1 ≤ o.fuel s0 + 1) : InitNext o V abs s0 (abs (o.next s0).1) :=
  ⟨h.lower _ hV, hV, rfl, hok, Nat.le_trans (h.fuel _ hV) hf⟩

def leafV (l : Leaf) : Prop := l.started = true ∧ ∀ x ∈ l.rest, minT < x.t

theorem leaf_listLike : ListLike leafOps leafV Leaf.rest where
  lower := fun s h => h.2
  atS := by intro s h _; simp [Leaf.cur, h.1]
  atT := by intro s h _; simp [Leaf.cur, h.1]
  seekV := by
    intro s t h _
    exact ⟨rfl, fun x hx => h.2 x (mem_of_mem_dropLt hx)⟩
  seekAbs := by intro s t _ _; rfl
  seekOk := by intro s t _ _; rfl
  nextV := by
    intro s h _
    refine ⟨rfl, fun x hx => ?_⟩
    simp only [leafOps_next, leafNext, h.1, if_true] at hx
    exact h.2 x (List.mem_of_mem_tail hx)
  nextAbs := by intro s h _; simp [leafNext, h.1]
  nextOk := by intro s h _; simp [leafNext, h.1]
  adjustV := by intro s v h _; exact h
  adjustAbs := by intro s v _ _; rfl
  bad := by intro s _; rfl
  fuel := by intro s _; exact Nat.le_refl _

theorem leaf_initLike (r : List Sample) (h : ∀ x ∈ r, minT < x.t) :
    InitLike leafOps leafV Leaf.rest (Leaf.init r) r where
  lower := h
  nextV := ⟨rfl, by simpa [leafNext, Leaf.init] using h⟩
  nextAbs := by simp [leafNext, Leaf.init]
  nextOk := by simp [leafNext, Leaf.init]
  seekV := fun t => ⟨rfl, fun x hx => h x (mem_of_mem_dropLt hx)⟩
  seekAbs := fun t => rfl
  seekOk := fun t => rfl
  fuel := by simp [Leaf.init]

section node
variable {α β : Type} {oa : Ops α} {ob : Ops β} {Va : α → Prop} {Vb : β → Prop}
  {absA : α → List Sample} {absB : β → List Sample}

/-- invariant of a node, fresh or started -/
structure NodeW (Va : α → Prop) (Vb : β → Prop) (absA : α → List Sample) (absB : β → List Sample)
    (s : Node α β) : Prop where
  va : Va s.a
  vb : Vb s.b
  aval : s.aval = !(absA s.a).isEmpty
  bval : s.bval = !(absB s.b).isEmpty
  same : s.lastIsA = s.useA ∨ (absA s.a = [] ∧ absB s.b = [])
  penA : 0 ≤ s.penA
  penB : 0 ≤ s.penB
  nbad : s.bad = false

/-- the remaining samples of the two sides after the `Seek` calls of the next `Next` -/
def seekA (absA : α → List Sample) (s : Node α β) : List Sample :=
  dropLt (s.lastT + 1 + s.penA) (absA s.a)
def seekB (absB : β → List Sample) (s : Node α β) : List Sample :=
  dropLt (s.lastT + 1 + s.penB) (absB s.b)

/-- what further `Next` calls will emit -/
def nodeFuture (absA : α → List Sample) (absB : β → List Sample) (s : Node α β) : List Sample :=
  pm2 s.lastT (seekA absA s) (seekB absB s)

/-- remaining samples of a started node: the current one (on the side `lastIter`) and the future -/
def nodeAbs (absA : α → List Sample) (absB : β → List Sample) (s : Node α β) : List Sample :=
  match (if s.lastIsA then absA s.a else absB s.b).head? with
  | some cur => cur :: nodeFuture absA absB s
  | none => []

/-- a started node: if nothing has been emitted, nothing will be -/
def nodeV (Va : α → Prop) (Vb : β → Prop) (absA : α → List Sample) (absB : β → List Sample)
    (s : Node α β) : Prop :=
  NodeW Va Vb absA absB s ∧ (s.lastT = minT → absA s.a = [] ∧ absB s.b = [])

/-- the first half of `nodeV` by name; no proof uses it -/
theorem nodeW_of_V {s : Node α β} (h : nodeV Va Vb absA absB s) : NodeW Va Vb absA absB s := h.1

theorem nodeAbs_nil {s : Node α β} (hA : absA s.a = []) (hB : absB s.b = []) :
    nodeAbs absA absB s = [] := by
  unfold nodeAbs
  rw [hA, hB, ite_self]
  rfl

theorem nodeAbs_of_head {s : Node α β} {cur : Sample}
    (h : (if s.lastIsA then absA s.a else absB s.b).head? = some cur) :
    nodeAbs absA absB s = cur :: nodeFuture absA absB s := by
  unfold nodeAbs
  rw [h]

theorem nodeAbs_cons {s : Node α β} (h : nodeAbs absA absB s ≠ []) :
    ∃ cur, (if s.lastIsA then absA s.a else absB s.b).head? = some cur ∧
      nodeAbs absA absB s = cur :: nodeFuture absA absB s := by
  cases hh : (if s.lastIsA then absA s.a else absB s.b).head? with
  | none => exact absurd (by unfold nodeAbs; rw [hh]) h
  | some cur => exact ⟨cur, rfl, nodeAbs_of_head hh⟩

theorem nodeV_same {s : Node α β} (hV : nodeV Va Vb absA absB s) (h : nodeAbs absA absB s ≠ []) :
    s.lastIsA = s.useA :=
  hV.1.same.resolve_right fun ⟨hA, hB⟩ => h (nodeAbs_nil hA hB)

theorem nodeV_congr {s : Node α β} (hV : nodeV Va Vb absA absB s) {a' : α} {b' : β}
    (hva : Va a') (hvb : Vb b') (ea : absA a' = absA s.a) (eb : absB b' = absB s.b) :
    nodeV Va Vb absA absB { s with a := a', b := b' } ∧
      nodeAbs absA absB { s with a := a', b := b' } = nodeAbs absA absB s := by
  obtain ⟨⟨_, _, hav, hbv, hsame, hpa, hpb, hnb⟩, h0⟩ := hV
  refine ⟨⟨⟨hva, hvb, ea ▸ hav, eb ▸ hbv, ea ▸ eb ▸ hsame, hpa, hpb, hnb⟩, ea ▸ eb ▸ h0⟩, ?_⟩
  simp only [nodeAbs, nodeFuture, seekA, seekB, ea, eb]

/-- the three situations of `nodeChoose` are those of `pm2` on what the two sides have left (`LA`, `LB`) -/
theorem nodeChoose_spec (ha : ListLike oa Va absA) (hb : ListLike ob Vb absB) (s : Node α β)
    {LA LB : List Sample} (hA : Leaves Va absA (s.a, s.aval) LA) (hB : Leaves Vb absB (s.b, s.bval) LB)
    (hpa : 0 ≤ s.penA) (hpb : 0 ≤ s.penB) (hnb : s.bad = false)
    (hla : ∀ x, LA.head? = some x → s.lastT + 1 ≤ x.t)
    (hlb : ∀ x, LB.head? = some x → s.lastT + 1 ≤ x.t) :
    Leaves (nodeV Va Vb absA absB) (nodeAbs absA absB) (nodeChoose oa ob s) (pm2 s.lastT LA LB) := by
  obtain ⟨hva, eA, hav⟩ := hA
  obtain ⟨hvb, eB, hbv⟩ := hB
  have hav' : s.aval = !(absA s.a).isEmpty := eA ▸ hav
  have hbv' : s.bval = !(absB s.b).isEmpty := eB ▸ hbv
  rcases pm2_cases LA LB with ⟨rfl, rfl⟩ | ⟨x, ta, rfl, hle⟩ | ⟨y, tb, rfl, hlt⟩
  · rw [nodeChoose_none hav hbv, pm2]
    exact ⟨⟨⟨hva, hvb, hav', hbv', Or.inr ⟨eA, eB⟩, hpa, hpb, hnb⟩, fun _ => ⟨eA, eB⟩⟩,
      nodeAbs_nil eA eB, rfl⟩
  · have hxlow : minT < x.t := ha.lower _ hva x (eA ▸ List.mem_cons_self)
    have hx1 : s.lastT + 1 ≤ x.t := hla x rfl
    have hb' : s.bval = true → ∃ tb, ob.atT s.b = some tb ∧ x.t ≤ tb := by
      intro hbt
      obtain ⟨y, tb, rfl⟩ := List.exists_cons_of_ne_nil (ne_nil_of_flag (hbt.symm.trans hbv))
      exact ⟨y.t, hb.atT_cons hvb eB, hle y rfl⟩
    rw [nodeChoose_a hav (ha.atT_cons hva eA) hb', pm2_pickA hle]
    refine ⟨⟨⟨hva, hvb, hav', hbv', Or.inl rfl, Int.le_refl 0, ?_, hnb⟩, fun h => ?_⟩, ?_, rfl⟩
    · show 0 ≤ if s.bval = true then pen s.lastT x.t else s.penB
      split
      · exact pen_nonneg (Int.le_of_lt hx1)
      · exact hpb
    · exact absurd h (Int.ne_of_gt hxlow)
    · rw [nodeAbs_of_head (cur := x) (by show (absA s.a).head? = some x; rw [eA]; rfl)]
      simp only [nodeFuture, seekA, seekB, Int.add_zero, eA, eB, dropLt_cons_lt (Int.lt_succ x.t)]
      -- the penalty of an exhausted side does not matter
      cases LB with
      | nil => rfl
      | cons y tb =>
        rw [if_pos (show s.bval = true from hbv)]
        rfl
  · have hylow : minT < y.t := hb.lower _ hvb y (eB ▸ List.mem_cons_self)
    have hy1 : s.lastT + 1 ≤ y.t := hlb y rfl
    have ha' : s.aval = true → ∃ ta, oa.atT s.a = some ta ∧ y.t < ta := by
      intro hat
      obtain ⟨x, ta, rfl⟩ := List.exists_cons_of_ne_nil (ne_nil_of_flag (hat.symm.trans hav))
      exact ⟨x.t, ha.atT_cons hva eA, hlt x rfl⟩
    rw [nodeChoose_b hbv (hb.atT_cons hvb eB) ha', pm2_pickB hlt]
    refine ⟨⟨⟨hva, hvb, hav', hbv', Or.inl rfl, ?_, Int.le_refl 0, hnb⟩, fun h => ?_⟩, ?_, rfl⟩
    · show 0 ≤ if s.aval = true then pen s.lastT y.t else s.penA
      split
      · exact pen_nonneg (Int.le_of_lt hy1)
      · exact hpa
    · exact absurd h (Int.ne_of_gt hylow)
    · rw [nodeAbs_of_head (cur := y) (by show (absB s.b).head? = some y; rw [eB]; rfl)]
      simp only [nodeFuture, seekA, seekB, Int.add_zero, eA, eB, dropLt_cons_lt (Int.lt_succ y.t)]
      cases LA with
      | nil => rfl
      | cons x ta =>
        rw [if_pos (show s.aval = true from hav)]
        rfl

theorem head_dropLt_pen {l p : Int} {L : List Sample} (hp : 0 ≤ p) :
    ∀ x, (dropLt (l + 1 + p) L).head? = some x → l + 1 ≤ x.t :=
  fun _ hx => Int.le_trans (Int.le_add_of_nonneg_right hp) (head_dropLt_ge hx)

theorem nodeStep_spec (ha : ListLike oa Va absA) (hb : ListLike ob Vb absB) {s : Node α β}
    (hW : NodeW Va Vb absA absB s) :
    Leaves (nodeV Va Vb absA absB) (nodeAbs absA absB) (nodeStep oa ob s) (nodeFuture absA absB s) := by
  unfold nodeStep
  rw [stepA_eq, stepB_eq]
  exact nodeChoose_spec ha hb _ (ha.seekIf hW.va hW.aval _) (hb.seekIf hW.vb hW.bval _) hW.penA hW.penB hW.nbad
    (head_dropLt_pen hW.penA) (head_dropLt_pen hW.penB)

theorem nodeAdjust_spec (ha : ListLike oa Va absA) (hb : ListLike ob Vb absB) (v : Int) {s : Node α β}
    (hV : nodeV Va Vb absA absB s) :
    nodeV Va Vb absA absB (nodeAdjust oa ob v s) ∧
    nodeAbs absA absB (nodeAdjust oa ob v s) = nodeAbs absA absB s := by
  obtain ⟨a1, a2⟩ := ha.adjustIf hV.1.va hV.1.aval v
  obtain ⟨b1, b2⟩ := hb.adjustIf hV.1.vb hV.1.bval v
  rw [nodeAdjust_eq]
  exact nodeV_congr hV a1 b1 a2 b2

theorem nodeAt_cur (ha : ListLike oa Va absA) (hb : ListLike ob Vb absB) {s : Node α β}
    (hW : NodeW Va Vb absA absB s) {cur : Sample}
    (hcur : (if s.lastIsA then absA s.a else absB s.b).head? = some cur) :
    nodeAt oa ob s = some cur ∧ (if s.lastIsA then oa.atT s.a else ob.atT s.b) = some cur.t := by
  unfold nodeAt
  cases hl : s.lastIsA with
  | true =>
    rw [hl] at hcur
    obtain ⟨l, e⟩ := List.head?_eq_some_iff.mp hcur
    exact ⟨ha.atS_cons hW.va e, ha.atT_cons hW.va e⟩
  | false =>
    rw [hl] at hcur
    obtain ⟨l, e⟩ := List.head?_eq_some_iff.mp hcur
    exact ⟨hb.atS_cons hW.vb e, hb.atT_cons hW.vb e⟩

/-- `lastFloatVal()` in `Next` reads a positioned side -/
theorem nodeLastAt_some (ha : ListLike oa Va absA) (hb : ListLike ob Vb absB) {s : Node α β}
    (hW : NodeW Va Vb absA absB s) (hc : ((s.useA && s.aval) || (!s.useA && s.bval)) = true) :
    ∃ x, nodeAt oa ob s = some x := by
  -- the side in use has samples, so the two sides are not both exhausted and `lastIter` is it
  have hside : (if s.useA then absA s.a else absB s.b) ≠ [] := by
    cases hu : s.useA with
    | true =>
      rw [hu] at hc
      exact ne_nil_of_flag (Eq.trans (by simpa using hc.symm) hW.aval)
    | false =>
      rw [hu] at hc
      exact ne_nil_of_flag (Eq.trans (by simpa using hc.symm) hW.bval)
  have hsame : s.lastIsA = s.useA := hW.same.resolve_right fun ⟨hA, hB⟩ => by
    rw [hA, hB, ite_self] at hside; exact hside rfl
  rw [← hsame] at hside
  obtain ⟨x, l, e⟩ := List.exists_cons_of_ne_nil hside
  exact ⟨x, (nodeAt_cur ha hb hW (by rw [e]; rfl)).1⟩

theorem nodeNext_spec (ha : ListLike oa Va absA) (hb : ListLike ob Vb absB) {s : Node α β}
    (hW : NodeW Va Vb absA absB s) :
    Leaves (nodeV Va Vb absA absB) (nodeAbs absA absB) (nodeNext oa ob s) (nodeFuture absA absB s) :=
  -- the deferred `adjustAtValue` after a switch of sides changes nothing a reader of samples sees
  nodeNext_of_step (P := (Leaves _ _ · _)) (nodeLastAt_some ha hb hW) (nodeStep_spec ha hb hW) fun v _ h =>
    have ⟨f1, f2⟩ := nodeAdjust_spec ha hb v h.v
    ⟨f1, f2.trans h.eq, h.ok⟩

/-- the loop of `Seek`, entered if the call before it left a sample (`r.2`): `dropLt t` -/
theorem nodeSeekLoop_spec (ha : ListLike oa Va absA) (hb : ListLike ob Vb absB) (t : Int) :
    ∀ (n : Nat) (s : Node α β) (ok : Bool), nodeV Va Vb absA absB s →
      ok = !(nodeAbs absA absB s).isEmpty → (nodeAbs absA absB s).length ≤ n →
      Leaves (nodeV Va Vb absA absB) (nodeAbs absA absB)
        (if ok then nodeSeekLoop oa ob t n s else (s, false)) (dropLt t (nodeAbs absA absB s)) := by
  intro n
  induction n with
  | zero =>
    intro s ok hV hok hlen
    have e := List.length_eq_zero_iff.mp (Nat.le_zero.mp hlen)
    rw [hok, e]
    exact ⟨hV, e, rfl⟩
  | succ n ih =>
    intro s ok hV hok hlen
    subst hok
    by_cases hne : nodeAbs absA absB s = []
    · rw [hne]
      exact ⟨hV, hne, rfl⟩
    obtain ⟨cur, hcur, habs⟩ := nodeAbs_cons hne
    have hsame := nodeV_same hV hne
    have hW := hV.1
    have hatT : nodeAtT oa ob s = some cur.t := by
      unfold nodeAtT
      rw [← hsame]
      exact (nodeAt_cur ha hb hW hcur).2
    rw [habs] at hlen ⊢
    rw [if_pos isEmpty_false_of_cons]
    unfold nodeSeekLoop
    simp only [hatT]
    by_cases hge : cur.t ≥ t
    · -- at or past the target: the side in use is sought to its own current timestamp and stays
      rw [if_pos hge, dropLt_cons_ge hge]
      split
      · rename_i hu
        rw [hsame, hu] at hcur
        obtain ⟨v, hk, hok⟩ := ha.seek_le_head hW.va hcur (Int.le_refl cur.t)
        obtain ⟨c1, c2⟩ := nodeV_congr hV v hW.vb hk rfl
        exact ⟨c1, c2.trans habs, hok⟩
      · rename_i hu
        rw [hsame, (Bool.not_eq_true _).mp hu] at hcur
        obtain ⟨v, hk, hok⟩ := hb.seek_le_head hW.vb hcur (Int.le_refl cur.t)
        obtain ⟨c1, c2⟩ := nodeV_congr hV hW.va v rfl hk
        exact ⟨c1, c2.trans habs, hok⟩
    · rw [if_neg hge, dropLt_cons_lt (Int.not_le.mp hge)]
      obtain ⟨n1, n2, n3⟩ := nodeNext_spec ha hb hW
      have := ih _ _ n1 (n3.trans (by rw [n2]))
        (by rw [n2]; exact Nat.le_of_succ_le_succ hlen)
      rw [n2] at this
      exact this

theorem nodeAbs_length_le (ha : ListLike oa Va absA) (hb : ListLike ob Vb absB) {s : Node α β}
    (hV : nodeV Va Vb absA absB s) : (nodeAbs absA absB s).length ≤ nodeFuel oa ob s := by
  unfold nodeAbs
  split
  · exact Nat.succ_le_succ (Nat.le_trans (pm2_length_le _ _ _) (Nat.add_le_add
      (Nat.le_trans (dropLt_length_le _ _) (ha.fuel _ hV.1.va))
      (Nat.le_trans (dropLt_length_le _ _) (hb.fuel _ hV.1.vb))))
  · exact Nat.zero_le _

/-- `Seek` on a positioned node, either version: the special case of the repaired one does not
    apply once something has been emitted -/
theorem nodeSeek_spec (ha : ListLike oa Va absA) (hb : ListLike ob Vb absB) (fixed : Bool)
    {s : Node α β} (hV : nodeV Va Vb absA absB s) (hne : nodeAbs absA absB s ≠ []) (t : Int) :
    Leaves (nodeV Va Vb absA absB) (nodeAbs absA absB) ((nodeOps oa ob fixed).seek t s)
      (dropLt t (nodeAbs absA absB s)) := by
  have hloop := nodeSeekLoop_spec ha hb t (nodeFuel oa ob s + 1) s true hV
    (by obtain ⟨_, _, e⟩ := nodeAbs_cons hne; rw [e]; rfl) (Nat.le_succ_of_le (nodeAbs_length_le ha hb hV))
  cases fixed with
  | false => exact hloop
  | true =>
    rw [nodeOps_seek_fixed]
    unfold nodeSeekFixed
    rw [if_neg fun hl => hne (nodeAbs_nil (hV.2 hl).1 (hV.2 hl).2)]
    exact hloop

/-- DESIGN's `node_refines_list`: `dedupSeriesIterator` over two list-like iterators is list-like -/
theorem node_listLike (ha : ListLike oa Va absA) (hb : ListLike ob Vb absB) (fixed : Bool) :
    ListLike (nodeOps oa ob fixed) (nodeV Va Vb absA absB) (nodeAbs absA absB) := by
  refine .of_leaves ?_ ?_ (fun s t hV hne => nodeSeek_spec ha hb fixed hV hne t) ?_
    (fun s v hV _ => nodeAdjust_spec ha hb v hV) ?_ fun s hV => nodeAbs_length_le ha hb hV
  · intro s hV x hx
    obtain ⟨cur, hcur, habs⟩ := nodeAbs_cons (List.ne_nil_of_mem hx)
    rw [habs] at hx
    rcases List.mem_cons.mp hx with rfl | hx
    · have hm := List.mem_of_mem_head? hcur
      cases hl : s.lastIsA with
      | true => rw [hl] at hm; exact ha.lower _ hV.1.va _ hm
      | false => rw [hl] at hm; exact hb.lower _ hV.1.vb _ hm
    · rcases pm2_mem hx with h | h
      · exact ha.lower _ hV.1.va _ (mem_of_mem_dropLt h)
      · exact hb.lower _ hV.1.vb _ (mem_of_mem_dropLt h)
  · intro s hV hne
    obtain ⟨cur, hcur, habs⟩ := nodeAbs_cons hne
    rw [habs, nodeOps_atT]
    unfold nodeAtT
    rw [← nodeV_same hV hne]
    exact nodeAt_cur ha hb hV.1 hcur
  · intro s hV hne
    obtain ⟨cur, _, habs⟩ := nodeAbs_cons hne
    rw [habs]
    exact nodeNext_spec ha hb hV.1
  · intro s hV
    rw [nodeOps_bad, hV.1.nbad, ha.bad _ hV.1.va, hb.bad _ hV.1.vb]
    rfl

/-- `newDedupSeriesIterator(a, b)` over two fresh list-like iterators, with the repaired `Seek` -/
theorem node_initLike (ha : ListLike oa Va absA) (hb : ListLike ob Vb absB) {a : α} {b : β}
    {La Lb : List Sample} (ia : InitNext oa Va absA a La) (ib : InitNext ob Vb absB b Lb) :
    InitLike (nodeOps oa ob true) (nodeV Va Vb absA absB) (nodeAbs absA absB) (nodeNew oa ob a b)
      (pm2 minT La Lb) := by
  have hW : NodeW Va Vb absA absB (nodeNew oa ob a b) :=
    ⟨ia.nextV, ib.nextV, ia.nextAbs ▸ ia.nextOk, ib.nextAbs ▸ ib.nextOk, Or.inl rfl, Int.le_refl 0,
      Int.le_refl 0, rfl⟩
  -- the first seeks (to `minT + 1`) drop nothing
  have hfut : nodeFuture absA absB (nodeNew oa ob a b) = pm2 minT La Lb := by
    simp only [nodeFuture, seekA, seekB, nodeNew, Int.add_zero, ia.nextAbs, ib.nextAbs]
    rw [dropLt_eq_self (fun x hx => ia.lower x (List.mem_of_mem_head? hx)),
      dropLt_eq_self (fun x hx => ib.lower x (List.mem_of_mem_head? hx))]
  obtain ⟨n1, n2, n3⟩ := nodeNext_spec ha hb hW
  rw [hfut] at n2 n3
  have hseek : ∀ t, Leaves (nodeV Va Vb absA absB) (nodeAbs absA absB)
      (nodeSeekFixed oa ob t (nodeNew oa ob a b)) (dropLt t (pm2 minT La Lb)) := by
    intro t
    unfold nodeSeekFixed
    rw [if_pos (show (nodeNew oa ob a b).lastT = minT from rfl)]
    have := nodeSeekLoop_spec ha hb t _ _ _ n1 (n3.trans (by rw [n2]))
      (Nat.le_succ_of_le (nodeAbs_length_le ha hb n1))
    rw [n2] at this
    exact this
  exact {
    lower := fun x hx => (pm2_mem hx).elim (ia.lower x) (ib.lower x)
    nextV := n1
    nextAbs := n2
    nextOk := n3
    seekV := fun t => (hseek t).v
    seekAbs := fun t => (hseek t).eq
    seekOk := fun t => (hseek t).ok
    fuel := Nat.le_succ_of_le (Nat.le_succ_of_le (Nat.le_trans (pm2_length_le _ _ _)
      (Nat.add_le_add (ia.nextAbs ▸ ha.fuel _ ia.nextV) (ib.nextAbs ▸ hb.fuel _ ib.nextV)))) }

end node

/-- what `dedupSeries.Iterator` yields: the replicas folded from the left with `pm2` -/
def pmFold (r : List Sample) (rs : List (List Sample)) : List Sample := rs.foldl (pm2 minT) r

/-- the iterator is list-like and, being fresh (`InitLike`), will yield `L` -/
def GoodL (i : AnyIt) (L : List Sample) : Prop :=
  ∃ (V : i.σ → Prop) (abs : i.σ → List Sample), ListLike i.ops V abs ∧ InitLike i.ops V abs i.st L

/-- the same with the `Next`-only laws (`InitNext`) -/
def GoodN (i : AnyIt) (L : List Sample) : Prop :=
  ∃ (V : i.σ → Prop) (abs : i.σ → List Sample), ListLike i.ops V abs ∧ InitNext i.ops V abs i.st L

theorem GoodL.toN {i : AnyIt} {L : List Sample} (h : GoodL i L) : GoodN i L := by
  obtain ⟨V, abs, hl, hi⟩ := h
  exact ⟨V, abs, hl, hi.toNext⟩

theorem leaf_goodL (r : List Sample) (h : ∀ x ∈ r, minT < x.t) :
    GoodL { σ := Leaf, ops := leafOps, st := Leaf.init r } r :=
  ⟨leafV, Leaf.rest, leaf_listLike, leaf_initLike r h⟩

/-- the fold step of `dedupSeries.Iterator`, `samplesMergeFunc` and the querier: the dedup node (with the repaired `Seek`)
    over two good iterators is good for the penalty merge of what they yield -/
theorem node_goodL {p q : AnyIt} {La Lb : List Sample} (hp : GoodN p La) (hq : GoodN q Lb) :
    GoodL { σ := Node p.σ q.σ, ops := nodeOps p.ops q.ops true, st := nodeNew p.ops q.ops p.st q.st }
      (pm2 minT La Lb) := by
  obtain ⟨Va, absA, ha, ia⟩ := hp
  obtain ⟨Vb, absB, hb, ib⟩ := hq
  exact ⟨nodeV Va Vb absA absB, nodeAbs absA absB, node_listLike ha hb true, node_initLike ha hb ia ib⟩

theorem drain_goodN {i : AnyIt} {L : List Sample} (h : GoodN i L) : drain i = L := by
  obtain ⟨V, abs, hl, hi⟩ := h
  exact hl.read_after hi.next_leaves hi.fuel

theorem drain_good {i : AnyIt} {L : List Sample} (h : GoodL i L) : drain i = L :=
  drain_goodN h.toN

/-- what a reader sees that first seeks to `t` and then iterates -/
def seekDrain (t : Int) (i : AnyIt) : List Sample :=
  let r := i.seek t
  if r.2 then
    match r.1.atS with
    | some x => x :: drain r.1
    | none => []
  else []

/-- of every good iterator; `C01_seek_first_fixed` is the case of `mk` -/
theorem seekDrain_good {i : AnyIt} {L : List Sample} (h : GoodL i L) (t : Int) :
    seekDrain t i = dropLt t L := by
  obtain ⟨V, abs, hl, hi⟩ := h
  exact hl.read_after (hi.seek_leaves t)
    (Nat.le_succ_of_le (Nat.le_succ_of_le ((hi.seekAbs t) ▸ hl.fuel _ (hi.seekV t))))

theorem pmFold_mem {L : List Sample} {rs : List (List Sample)} {z : Sample} :
    z ∈ pmFold L rs → z ∈ L ∨ ∃ q ∈ rs, z ∈ q :=
  List.foldlRecOn rs _ (motive := fun acc => z ∈ acc → z ∈ L ∨ ∃ q ∈ rs, z ∈ q) Or.inl
    fun _ ih q hq h => (pm2_mem h).elim ih fun h => Or.inr ⟨q, hq, h⟩

theorem pmFold_cons (L q : List Sample) (rs : List (List Sample)) : pmFold L (q :: rs) = pmFold (pm2 minT L q) rs :=
  rfl

theorem pmFold_ne {L : List Sample} {rs : List (List Sample)} (h : L ≠ []) : pmFold L rs ≠ [] :=
  List.foldlRecOn rs _ (motive := (· ≠ [])) h fun _ h _ _ he => h (pm2_eq_nil.mp he).1

theorem pmFold_length_le (L : List Sample) (rs : List (List Sample)) :
    (pmFold L rs).length ≤ L.length + (rs.map List.length).sum := by
  induction rs generalizing L with
  | nil => exact Nat.le_add_right _ _
  | cons b rs ih =>
    have h1 := ih (pm2 minT L b)
    have h2 := pm2_length_le minT L b
    rw [pmFold_cons, List.map_cons, List.sum_cons]
    omega

/-- one merge turns observational equality into equality of timestamps (`pm2_obsEq`), and that is what the
    fold then preserves -/
theorem pmFold_ts {γ : Type} (f g : γ → List Sample) {c : γ} {cs : List γ} {L L' : List Sample}
    (hL : ObsEq L L') (hfg : ∀ d ∈ c :: cs, ObsEq (f d) (g d)) :
    tsOf (pmFold L ((c :: cs).map f)) = tsOf (pmFold L' ((c :: cs).map g)) := by
  obtain ⟨hc, hcs⟩ := List.forall_mem_cons.mp hfg
  simp only [pmFold, List.map_cons, List.foldl_cons, List.foldl_map]
  exact List.foldl_rel (r := fun A B => tsOf A = tsOf B) (pm2_obsEq hL hc) fun d hd _ _ hAB =>
    pm2_obsEq (obsEq_of_tsOf hAB) (hcs d hd)

theorem pmFold_sorted {L : List Sample} {rs : List (List Sample)} (hs : SSorted L)
    (hL : ∀ x ∈ L, minT < x.t) (h : ∀ q ∈ rs, ∀ x ∈ q, minT < x.t) : SSorted (pmFold L rs) :=
  (List.foldlRecOn rs _ (motive := fun acc => SSorted acc ∧ ∀ x ∈ acc, minT < x.t) ⟨hs, hL⟩
    fun _ ih q hq => pm2_sorted (fun x hx => ih.2 x (List.mem_of_mem_head? hx))
      (fun x hx => h q hq x (List.mem_of_mem_head? hx))).1

theorem pmFold_sublists {r : List Sample} (hs : SSorted r) (hl : ∀ x ∈ r, minT < x.t)
    (rs : List (List Sample)) (hsub : ∀ q ∈ rs, q.Sublist r) : pmFold r rs = r :=
  List.foldlRecOn rs _ (motive := (· = r)) rfl fun _ ih q hq => by
    rw [ih]
    exact pm2_sublist hs (hsub q hq) fun x hx => Int.le_of_lt (hl x (List.mem_of_mem_head? hx))

/-- the pure function `foldIts` computes: the left fold of `pm2` -/
def pmFoldL : List (List Sample) → List Sample
  | [] => []
  | L :: Ls => Ls.foldl (pm2 minT) L

theorem pmFoldL_cons (L : List Sample) (Ls : List (List Sample)) : pmFoldL (L :: Ls) = pmFold L Ls := rfl

theorem mem_pmFoldL {Ls : List (List Sample)} {z : Sample} (h : z ∈ pmFoldL Ls) : ∃ L ∈ Ls, z ∈ L := by
  cases Ls with
  | nil => cases h
  | cons L Ls =>
    exact (pmFold_mem (pmFoldL_cons L Ls ▸ h)).elim (fun h => ⟨L, List.mem_cons_self, h⟩)
      fun ⟨q, hq, hz⟩ => ⟨q, List.mem_cons_of_mem _ hq, hz⟩

/-- a trace up to and including the first `ValNone` / panic (calls made after the iterator is
    exhausted are outside the `chunkenc.Iterator` contract) -/
def trunc : List Obs → List Obs
  | .sample x :: r => .sample x :: trunc r
  | o :: _ => [o]
  | [] => []

/-- what a script observes on a list iterator positioned on the head of `L` -/
def specP : List Sample → List Call → List Obs
  | _, [] => []
  | L, .next :: cs =>
    match L.tail with
    | [] => [.none]
    | y :: r => .sample y :: specP (y :: r) cs
  | L, .seek t :: cs =>
    match dropLt t L with
    | [] => [.none]
    | y :: r => .sample y :: specP (y :: r) cs

/-- … and on a fresh list iterator over `L` -/
def specF (L : List Sample) : List Call → List Obs
  | [] => []
  | .next :: cs =>
    match L with
    | [] => [.none]
    | y :: r => .sample y :: specP (y :: r) cs
  | .seek t :: cs =>
    match dropLt t L with
    | [] => [.none]
    | y :: r => .sample y :: specP (y :: r) cs

/-- one call of a script on a list-like iterator: if the call leaves the remaining samples `L'`,
    the trace goes on like that of a fresh list iterator over `L'` after its first `Next` -/
theorem trunc_step {σ : Type} {o : Ops σ} {V : σ → Prop} {abs : σ → List Sample}
    (h : ListLike o V abs) {cs : List Call}
    (hcs : ∀ s, V s → abs s ≠ [] → trunc (runCalls o cs s) = specP (abs s) cs)
    {r : σ × Bool} {L' : List Sample} (hr : Leaves V abs r L') :
    trunc (if o.bad r.1 then [Obs.panic] else if r.2 then
      (match o.atS r.1 with
        | some x => Obs.sample x :: runCalls o cs r.1
        | none => [Obs.panic]) else Obs.none :: runCalls o cs r.1) =
    specF L' (Call.next :: cs) := by
  obtain ⟨hV, e, hok⟩ := hr
  rw [h.bad _ hV, if_neg Bool.false_ne_true, hok]
  cases L' with
  | nil => rfl
  | cons y q =>
    rw [if_pos (show (!(y :: q).isEmpty) = true from rfl), h.atS_cons hV e]
    show Obs.sample y :: trunc (runCalls o cs r.1) = _
    rw [hcs _ hV (ne_nil_of_cons e), e]
    rfl

theorem runCalls_specP {σ : Type} {o : Ops σ} {V : σ → Prop} {abs : σ → List Sample}
    (h : ListLike o V abs) : ∀ (cs : List Call) (s : σ), V s → abs s ≠ [] →
      trunc (runCalls o cs s) = specP (abs s) cs := by
  intro cs
  induction cs with
  | nil => intro s _ _; rfl
  | cons c cs ih =>
    intro s hV hne
    cases c with
    | next => exact trunc_step h ih (h.next_leaves hV hne)
    | seek t => exact trunc_step h ih (h.seek_leaves hV hne t)

/-- Every script on a good iterator sees, up to exhaustion, the plain list iterator over `L`: `C01_script` is the case of
    `mk`, and the XOR merges of C40 (`mergeFold_good`) are good as well. -/
theorem run_specF {i : AnyIt} {L : List Sample} (hg : GoodL i L) (cs : List Call) :
    trunc (i.run cs) = specF L cs := by
  obtain ⟨V, abs, h, hi⟩ := hg
  cases cs with
  | nil => rfl
  | cons c cs =>
    cases c with
    | next => exact trunc_step h (runCalls_specP h cs) hi.toNext.next_leaves
    | seek t => exact trunc_step h (runCalls_specP h cs) (hi.seek_leaves t)

end Thanos.Dedup
