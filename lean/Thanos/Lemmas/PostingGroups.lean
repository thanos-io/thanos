import Thanos.Model.Postings
import Thanos.Lemmas.Postings
/-
  What one posting group selects (C10), and the two shapes a group has.  `groupSelects` evaluates a group on a series;
  a well-formed group (`WFGroup`) is `Group.ofKeys n all keys`: all postings of label `n` minus those of `keys`, or those
  of `keys` alone, and either way a series stays or goes by its value under `n` alone (`keeps`).  `toPostingGroup` builds
  such a group, whose keys are the label values on which the matcher answers otherwise than on the empty value
  (`toPostingGroup_keys`; `Consistent`, over `InUniverse`, is what the code takes for granted of a Prometheus matcher),
  and `mergeKeys` of two of them is a third that keeps what both keep (`mergeKeys_ofKeys`).  Read off these two:
  `toPostingGroup_sound`, `mergeKeys_sound`, and the loops of `matchersToPostingGroups` in the order of the code — the
  matchers of one label in any order (`mergeAll_sound`, stated through `MergeSpec`), the set algebra of
  `ExpandedPostings` (`selects_eq_all`), the label names (`go_sound`) — which Props/C10Postings.lean puts together.
-/
namespace Thanos.Postings

/-- does the series (stored labels `get`) survive this group alone -/
def groupSelects (g : Group) (get : Nat → Nat) : Bool :=
  if g.addAll then !(g.removeKeys.any (inPostings get g.name)) else g.addKeys.any (inPostings get g.name)

structure WFGroup (g : Group) : Prop where
  add_sorted : SortedKeys g.addKeys
  rem_sorted : SortedKeys g.removeKeys
  addAll_no_adds : g.addAll = true → g.addKeys = []
  add_no_rems : g.addAll = false → g.removeKeys = []

/-- the values a series can have under a label whose values in the block are `vals` -/
def InUniverse (vals : List Nat) (v : Nat) : Prop := v = 0 ∨ v ∈ vals

structure Consistent (vals : List Nat) (m : PMatcher) : Prop where
  dotStar2 : m.typ = 2 → m.dotStar = true → ∀ v, InUniverse vals v → m.accepts v = true
  dotStar3 : m.typ = 3 → m.dotStar = true → ∀ v, InUniverse vals v → m.accepts v = false
  set3 : m.typ = 3 → m.setMatches.isEmpty = false → ∀ v, InUniverse vals v → m.accepts v = !(m.setMatches.contains v)
  set2 : m.typ = 2 → m.setMatches.isEmpty = false → ∀ v, InUniverse vals v → m.accepts v = m.setMatches.contains v
  eq : m.typ = 0 → ∀ v, InUniverse vals v → m.accepts v = (v == m.value)
  neq : m.typ = 1 → ∀ v, InUniverse vals v → m.accepts v = (v != m.value)
  emptyPos : m.emptyPat = true → (m.typ = 0 ∨ m.typ = 2) → ∀ v, InUniverse vals v → m.accepts v = (v == 0)
  emptyNeg : m.emptyPat = true → (m.typ = 1 ∨ m.typ = 3) → ∀ v, InUniverse vals v → m.accepts v = (v != 0)
  plus2 : m.typ = 2 → m.dotPlus = true → ∀ v, InUniverse vals v → m.accepts v = (v != 0)
  plus3 : m.typ = 3 → m.dotPlus = true → ∀ v, InUniverse vals v → m.accepts v = (v == 0)
  set_nodup : m.setMatches.Nodup

/-- sorted strictly ascending label values without the empty value: what `LabelValues` of a block returns -/
def ValsOK (vals : List Nat) : Prop := SortedKeys vals ∧ 0 ∉ vals

/-- all postings minus those of `keys` (`all`), or the postings of `keys` alone -/
def Group.ofKeys (n : Nat) (all : Bool) (keys : List Nat) : Group :=
  ⟨n, all, bif all then [] else keys, bif all then keys else []⟩

/-- whether such a group keeps a series whose value under the group's label is `k` -/
def keeps (all : Bool) (keys : List Nat) (k : Nat) : Bool := all != (k != 0 && keys.contains k)

theorem any_inPostings (get : Nat → Nat) (n : Nat) (keys : List Nat) :
    keys.any (inPostings get n) = (get n != 0 && keys.contains (get n)) := by
  rw [Bool.eq_iff_iff]
  simp only [List.any_eq_true, inPostings, Bool.and_eq_true, bne_iff_ne, beq_iff_eq, List.contains_iff_mem]
  constructor
  · rintro ⟨k, hk, h0, rfl⟩
    exact ⟨h0, hk⟩
  · rintro ⟨h0, hk⟩
    exact ⟨_, hk, h0, rfl⟩

theorem groupSelects_ofKeys (n : Nat) (all : Bool) (keys : List Nat) (get : Nat → Nat) :
    groupSelects (.ofKeys n all keys) get = keeps all keys (get n) := by
  cases all
  · exact (any_inPostings get n keys).trans (Bool.false_bne _).symm
  · exact congrArg (!·) (any_inPostings get n keys) |>.trans (Bool.true_bne _).symm

theorem wf_ofKeys (n : Nat) (all : Bool) {keys : List Nat} (h : SortedKeys keys) : WFGroup (.ofKeys n all keys) := by
  cases all
  · exact ⟨h, .nil, nofun, fun _ => rfl⟩
  · exact ⟨.nil, h, fun _ => rfl, nofun⟩

theorem WFGroup.eq_ofKeys {g : Group} (h : WFGroup g) : ∃ n all keys, SortedKeys keys ∧ g = .ofKeys n all keys := by
  obtain ⟨n, all, add, rem⟩ := g
  cases all
  · exact ⟨n, false, add, h.add_sorted, by rw [show rem = [] from h.add_no_rems rfl]; rfl⟩
  · exact ⟨n, true, rem, h.rem_sorted, by rw [show add = [] from h.addAll_no_adds rfl]; rfl⟩

/-- the keys are compared with the answer on the empty value because that is the value no posting list records.  Every
    branch of `toPostingGroup` is a shortcut for the last one and rests on one field of `Consistent`. -/
theorem toPostingGroup_keys (vals : List Nat) (m : PMatcher) (hc : Consistent vals m) (h0 : 0 ∉ vals) :
    ∃ keys, (SortedKeys vals → SortedKeys keys) ∧ (∀ v ∈ vals, v ∈ keys ↔ m.accepts v ≠ m.accepts 0) ∧
      toPostingGroup vals m = .ofKeys m.name (m.accepts 0) keys := by
  have u0 : InUniverse vals 0 := Or.inl rfl
  have u : ∀ v ∈ vals, InUniverse vals v := fun v h => Or.inr h
  have ne0 : ∀ v ∈ vals, v ≠ 0 := fun v h e => h0 (e ▸ h)
  -- arms in the order of the definition's branches: 1, 2 the `.*` shortcuts; 3–7 the matcher accepts the empty value
  -- (all-minus groups); 8–12 it does not (add groups); in each half: set matcher, `!=` / `=`, empty pattern, `.+`, filter
  fun_cases toPostingGroup vals m with
  | case1 h =>
    have a := hc.dotStar2 h.1 h.2
    rw [a 0 u0]
    exact ⟨[], fun _ => .nil, fun v hv => by simp [a v (u v hv)], rfl⟩
  | case2 _ h =>
    have a := hc.dotStar3 h.1 h.2
    rw [a 0 u0]
    exact ⟨[], fun _ => .nil, fun v hv => by simp [a v (u v hv)], rfl⟩
  | case3 _ _ a0 h =>
    have a := hc.set3 h.1 (by simpa using h.2)
    rw [a0]
    exact ⟨sortKeys m.setMatches, fun _ => sortKeys_sorted _ hc.set_nodup,
      fun v hv => by simp [a v (u v hv), mem_sortKeys], rfl⟩
  | case4 _ _ a0 _ h =>
    have a := hc.neq h
    rw [a0]
    exact ⟨[m.value], fun _ => List.pairwise_singleton _ _, fun v hv => by simp [a v (u v hv)], rfl⟩
  | case5 _ _ a0 _ _ h =>
    have a := hc.emptyPos h.1 h.2
    rw [a0]
    exact ⟨vals, id, fun v hv => by simp [a v (u v hv), hv, ne0 v hv], rfl⟩
  | case6 _ _ a0 _ _ _ h =>
    have a := hc.plus3 h.1 h.2
    rw [a0]
    exact ⟨vals, id, fun v hv => by simp [a v (u v hv), hv, ne0 v hv], rfl⟩
  | case7 _ _ a0 =>
    rw [a0]
    exact ⟨_, List.Pairwise.filter _, fun v hv => by simp [hv], rfl⟩
  | case8 _ _ a0 h =>
    have a := hc.set2 h.1 (by simpa using h.2)
    rw [Bool.eq_false_iff.mpr a0]
    exact ⟨sortKeys m.setMatches, fun _ => sortKeys_sorted _ hc.set_nodup,
      fun v hv => by simp [a v (u v hv), mem_sortKeys], rfl⟩
  | case9 _ _ a0 _ h =>
    have a := hc.eq h
    rw [Bool.eq_false_iff.mpr a0]
    exact ⟨[m.value], fun _ => List.pairwise_singleton _ _, fun v hv => by simp [a v (u v hv)], rfl⟩
  | case10 _ _ a0 _ _ h =>
    have a := hc.emptyNeg h.1 h.2
    rw [Bool.eq_false_iff.mpr a0]
    exact ⟨vals, id, fun v hv => by simp [a v (u v hv), hv, ne0 v hv], rfl⟩
  | case11 _ _ a0 _ _ _ h =>
    have a := hc.plus2 h.1 h.2
    rw [Bool.eq_false_iff.mpr a0]
    exact ⟨vals, id, fun v hv => by simp [a v (u v hv), hv, ne0 v hv], rfl⟩
  | case12 _ _ a0 =>
    rw [Bool.eq_false_iff.mpr a0]
    exact ⟨_, List.Pairwise.filter _, fun v hv => by simp [hv], rfl⟩

theorem keeps_of_mem_iff {p : Nat → Bool} {vals keys : List Nat} (h0 : 0 ∉ vals)
    (hk : ∀ v ∈ vals, v ∈ keys ↔ p v ≠ p 0) {k : Nat} (hu : InUniverse vals k) : keeps (p 0) keys k = p k := by
  unfold keeps
  rcases hu with rfl | h
  · exact Bool.bne_false _
  · have hne : (k != 0) = true := bne_iff_ne.mpr fun e => h0 (e ▸ h)
    simp only [hne, Bool.true_and, List.contains_eq_mem, hk k h]
    cases p 0 <;> cases p k <;> rfl

/-- `mergeKeys` on the two shapes: removals add up, removals are taken off additions, additions are intersected -/
theorem mergeKeys_ofKeys (n n' : Nat) (all all' : Bool) {keys keys' : List Nat}
    (hs : SortedKeys keys) (hs' : SortedKeys keys') :
    ∃ merged, SortedKeys merged ∧
      mergeKeys (.ofKeys n all keys) (.ofKeys n' all' keys') = .ofKeys n (all && all') merged ∧
      ∀ k, keeps (all && all') merged k = (keeps all keys k && keeps all' keys' k) := by
  cases all <;> cases all'
  · refine ⟨intersectKeys keys keys',
      sorted_of_subset_sorted (intersectKeys_eq_filter _ _ hs hs' ▸ List.filter_sublist) hs, rfl, fun k => ?_⟩
    simp only [keeps, intersectKeys_eq_filter _ _ hs hs', contains_filter]
    cases k != 0 <;> cases keys.contains k <;> cases keys'.contains k <;> rfl
  · refine ⟨subtractKeys keys keys',
      sorted_of_subset_sorted (subtractKeys_eq_filter _ _ hs hs' ▸ List.filter_sublist) hs, rfl, fun k => ?_⟩
    simp only [keeps, subtractKeys_eq_filter _ _ hs hs', contains_filter]
    cases k != 0 <;> cases keys.contains k <;> cases keys'.contains k <;> rfl
  · refine ⟨subtractKeys keys' keys,
      sorted_of_subset_sorted (subtractKeys_eq_filter _ _ hs' hs ▸ List.filter_sublist) hs', rfl, fun k => ?_⟩
    simp only [keeps, subtractKeys_eq_filter _ _ hs' hs, contains_filter]
    cases k != 0 <;> cases keys.contains k <;> cases keys'.contains k <;> rfl
  · refine ⟨unionKeys keys keys', unionKeys_sorted _ _ hs hs', ?_, fun k => ?_⟩
    · cases keys with
      | nil => rfl
      | cons x xs => cases keys' <;> rfl
    · simp only [keeps, contains_unionKeys]
      cases k != 0 <;> cases keys.contains k <;> cases keys'.contains k <;> rfl

theorem empty_selects_none (g : Group) (h : g.empty = true) (get : Nat → Nat) : groupSelects g get = false := by
  unfold Group.empty at h
  simp only [Bool.and_eq_true, Bool.not_eq_true', List.isEmpty_iff] at h
  simp [groupSelects, h.1, h.2]

/-! ### read off the two shapes: one matcher, two groups, then the loops of `matchersToPostingGroups` -/

theorem toPostingGroup_sound (vals : List Nat) (m : PMatcher) (hc : Consistent vals m) (get : Nat → Nat)
    (hu : InUniverse vals (get m.name)) (h0 : 0 ∉ vals) :
    groupSelects (toPostingGroup vals m) get = m.accepts (get m.name) := by
  obtain ⟨keys, _, hk, e⟩ := toPostingGroup_keys vals m hc h0
  rw [e, groupSelects_ofKeys]
  exact keeps_of_mem_iff h0 hk hu

theorem toPostingGroup_wf (vals : List Nat) (m : PMatcher) (hv : ValsOK vals) (hc : Consistent vals m) :
    WFGroup (toPostingGroup vals m) ∧ (toPostingGroup vals m).name = m.name := by
  obtain ⟨keys, hs, _, e⟩ := toPostingGroup_keys vals m hc hv.2
  rw [e]
  exact ⟨wf_ofKeys _ _ (hs hv.1), rfl⟩

theorem mergeKeys_sound (a b : Group) (ha : WFGroup a) (hb : WFGroup b) (hn : a.name = b.name) (get : Nat → Nat) :
    groupSelects (mergeKeys a b) get = (groupSelects a get && groupSelects b get) ∧
      WFGroup (mergeKeys a b) ∧ (mergeKeys a b).name = a.name := by
  obtain ⟨n, all, keys, hs, rfl⟩ := ha.eq_ofKeys
  obtain ⟨n', all', keys', hs', rfl⟩ := hb.eq_ofKeys
  obtain ⟨merged, hm, e, hk⟩ := mergeKeys_ofKeys n n' all all' hs hs'
  have hn : n = n' := hn
  rw [e, groupSelects_ofKeys, groupSelects_ofKeys, groupSelects_ofKeys, ← hn]
  exact ⟨hk _, wf_ofKeys _ _ hm, rfl⟩

/-- what the accumulated group of `mergeAll` keeps; `none`: nothing merged yet -/
def accSelects (acc : Option Group) (get : Nat → Nat) : Bool :=
  match acc with
  | none => true
  | some a => groupSelects a get

theorem mergeStep_sound (acc : Option Group) (pg : Group) (hpg : WFGroup pg)
    (hacc : ∀ a, acc = some a → WFGroup a ∧ a.name = pg.name) (get : Nat → Nat) :
    groupSelects (mergeStep acc pg) get = (accSelects acc get && groupSelects pg get) ∧
      WFGroup (mergeStep acc pg) ∧ (mergeStep acc pg).name = pg.name := by
  cases acc with
  | none => exact ⟨(Bool.true_and _).symm, hpg, rfl⟩
  | some a =>
    obtain ⟨h1, h2⟩ := hacc a rfl
    obtain ⟨k1, k2, k3⟩ := mergeKeys_sound a pg h1 hpg h2 get
    exact ⟨k1, k2, k3.trans h2⟩

/-- what `mergeAll` must return for the accumulated group `acc` and the remaining matchers `ms` of label `n` -/
def MergeSpec (acc : Option Group) (ms : List PMatcher) (n : Nat) (get : Nat → Nat) : Option (Option Group) → Prop
  | some (some g) =>
      groupSelects g get = (accSelects acc get && ms.all (fun m => m.accepts (get n))) ∧
        WFGroup g ∧ g.name = n ∧ g.empty = false
  | some none => acc = none ∧ ms = []
  | none => (accSelects acc get && ms.all (fun m => m.accepts (get n))) = false

/-- one matcher moves from the list into the accumulated group -/
theorem MergeSpec.step {acc : Option Group} {merged : Group} {m : PMatcher} {ms : List PMatcher} {n : Nat}
    {get : Nat → Nat} (h : groupSelects merged get = (accSelects acc get && m.accepts (get n))) :
    ∀ {r}, MergeSpec (some merged) ms n get r → MergeSpec acc (m :: ms) n get r
  | some (some _), ⟨h1, h2⟩ => ⟨by rw [h1, List.all_cons, ← Bool.and_assoc, ← h]; rfl, h2⟩
  | some none, ⟨h1, _⟩ => nomatch h1
  | none, h1 => by
    unfold MergeSpec at h1 ⊢
    rw [List.all_cons, ← Bool.and_assoc, ← h]; exact h1

/-- the matchers of one label name, merged in any order: the merged group keeps exactly the series all of them
    accept; "adds nothing" is only reported when no series can satisfy them all -/
theorem mergeAll_sound (vals : List Nat) (hv : ValsOK vals) (n : Nat) (get : Nat → Nat) (hu : InUniverse vals (get n)) :
    ∀ (ms : List PMatcher) (acc : Option Group),
      (∀ m ∈ ms, m.name = n ∧ Consistent vals m) →
      (∀ a, acc = some a → WFGroup a ∧ a.name = n ∧ a.empty = false) →
      MergeSpec acc ms n get (mergeAll vals acc ms)
  | [], none, _, _ => ⟨rfl, rfl⟩
  | [], some a, _, hacc => ⟨(Bool.and_true _).symm, hacc a rfl⟩
  | m :: ms, acc, hms, hacc => by
    obtain ⟨hmn, hmc⟩ := hms m (List.mem_cons_self ..)
    obtain ⟨hwf, hname⟩ := toPostingGroup_wf vals m hv hmc
    have hsel := toPostingGroup_sound vals m hmc get (hmn ▸ hu) hv.2
    rw [hmn] at hsel
    obtain ⟨s1, s2, s3⟩ := mergeStep_sound acc _ hwf
      (fun a ha => ⟨(hacc a ha).1, (hacc a ha).2.1.trans (hmn.symm.trans hname.symm)⟩) get
    rw [hsel] at s1
    unfold mergeAll
    simp only
    split
    next he =>
      rw [empty_selects_none _ he get] at hsel
      simp [MergeSpec, ← hsel]
    split
    next he =>
      rw [empty_selects_none _ he get] at s1
      simp [MergeSpec, ← Bool.and_assoc, ← s1]
    next he =>
      exact .step s1 (mergeAll_sound vals hv n get hu ms _ (fun m' h' => hms m' (List.mem_cons_of_mem _ h'))
        (fun a ha => by cases ha; exact ⟨s2, s3.trans (hname.trans hmn), by simpa using he⟩))

/-- a well-formed non-empty group either adds keys and removes none, or is all-minus and adds none: the conjunction
    over the groups splits into the add clause and the remove clause of `selects` -/
theorem all_groupSelects (get : Nat → Nat) : ∀ (gs : List Group), (∀ g ∈ gs, WFGroup g ∧ g.empty = false) →
    gs.all (groupSelects · get) =
      (gs.all (fun g => g.addKeys.isEmpty || g.addKeys.any (inPostings get g.name)) &&
        !(gs.any fun g => g.removeKeys.any (inPostings get g.name)))
  | [], _ => rfl
  | g :: gs, hk => by
    have ih := all_groupSelects get gs (fun x hx => hk x (List.mem_cons_of_mem _ hx))
    obtain ⟨w, he⟩ := hk g (List.mem_cons_self ..)
    simp only [List.all_cons, List.any_cons, ih]
    cases ha : g.addAll
    · have : g.addKeys.isEmpty = false := by simpa [Group.empty, ha] using he
      simp only [groupSelects, ha, Bool.false_eq_true, if_false, w.add_no_rems ha, List.any_nil, Bool.false_or, this]
      cases g.addKeys.any (inPostings get g.name) <;> simp
    · simp only [groupSelects, ha, if_true, w.addAll_no_adds ha, List.isEmpty_nil, Bool.true_or, Bool.true_and,
        List.any_nil]
      cases g.removeKeys.any (inPostings get g.name) <;> simp

/-- the set algebra of `ExpandedPostings` / `mergeFetchedPostings` over well-formed, non-empty groups keeps the
    series every group keeps -/
theorem selects_eq_all (groups : List Group) (get : Nat → Nat) (hne : groups ≠ [])
    (hwf : ∀ g ∈ groups, WFGroup g ∧ g.empty = false) :
    selects groups get = groups.all (groupSelects · get) := by
  rw [all_groupSelects get groups hwf]
  unfold selects
  -- the keyed / add filters do not change the two quantifications
  have hA : ∀ g : Group, (!(!(g.addKeys.isEmpty && g.removeKeys.isEmpty)) ||
      (!(!g.addKeys.isEmpty) || g.addKeys.any (inPostings get g.name))) =
      (g.addKeys.isEmpty || g.addKeys.any (inPostings get g.name)) := fun g => by
    cases g.addKeys.isEmpty <;> cases g.removeKeys.isEmpty <;> simp
  have hR : ∀ g : Group, (!(g.addKeys.isEmpty && g.removeKeys.isEmpty) && g.removeKeys.any (inPostings get g.name)) =
      g.removeKeys.any (inPostings get g.name) := fun g => by
    cases g.removeKeys <;> simp
  simp only [List.all_filter, List.any_filter, hA, hR]
  -- without any add group every group is all-minus: the all-postings list is requested, and the add clause is void
  cases hadds : groups.any (fun g => !g.addKeys.isEmpty) with
  | true => simp
  | false =>
    have hnone : ∀ g ∈ groups, g.addKeys.isEmpty = true := fun g hg => by
      simpa using List.any_eq_false.mp hadds g hg
    have hall : groups.all (fun g => g.addKeys.isEmpty || g.addKeys.any (inPostings get g.name)) = true :=
      List.all_eq_true.mpr fun g hg => by rw [hnone g hg, Bool.true_or]
    have hreq : groups.any (·.addAll) = true := by
      cases groups with
      | nil => exact absurd rfl hne
      | cons g gs =>
        have he := (hwf g (List.mem_cons_self ..)).2
        have : g.addAll = true := by simpa [Group.empty, hnone g (List.mem_cons_self ..)] using he
        rw [List.any_cons, this, Bool.true_or]
    simp only [Bool.false_eq_true, if_false, hall, hreq]

/-- the loop of `matchersToPostingGroups` over the label names: one well-formed, non-empty group per name, keeping
    what all matchers of that name accept; `none` only when some name's matchers cannot all be satisfied -/
theorem go_sound (lvals : Nat → List Nat) (hv : ∀ n, ValsOK (lvals n)) (get : Nat → Nat)
    (hu : ∀ n, InUniverse (lvals n) (get n)) (ms : List PMatcher) (hc : ∀ m ∈ ms, Consistent (lvals m.name) m) :
    ∀ (ns : List Nat), (∀ n ∈ ns, ∃ m ∈ ms, m.name = n) →
      match matchersToPostingGroups.go lvals ms ns with
      | some gs => gs.all (groupSelects · get) =
            ns.all (fun n => (ms.filter (·.name == n)).all fun m => m.accepts (get n)) ∧
          (∀ g ∈ gs, WFGroup g ∧ g.empty = false) ∧ (ns ≠ [] → gs ≠ [])
      | none => ns.all (fun n => (ms.filter (·.name == n)).all fun m => m.accepts (get n)) = false
  | [], _ => ⟨rfl, nofun, fun h => absurd rfl h⟩
  | n :: ns, hns => by
    have ih := go_sound lvals hv get hu ms hc ns fun k hk => hns k (List.mem_cons_of_mem _ hk)
    have hspec := mergeAll_sound (lvals n) (hv n) n get (hu n) (ms.filter (·.name == n)) none
      (fun m hm => by
        obtain ⟨hmem, hn⟩ := List.mem_filter.mp hm
        obtain rfl := beq_iff_eq.mp hn
        exact ⟨rfl, hc m hmem⟩)
      nofun
    unfold matchersToPostingGroups.go
    rw [List.all_cons]
    generalize mergeAll (lvals n) none (ms.filter (·.name == n)) = r at hspec
    match r with
    | none => exact (congrArg (· && _) hspec).trans (Bool.false_and _)
    | some none =>
      -- impossible: some matcher has this name
      obtain ⟨m, hm, hn⟩ := hns n (List.mem_cons_self ..)
      have : m ∈ ms.filter (·.name == n) := List.mem_filter.mpr ⟨hm, beq_iff_eq.mpr hn⟩
      rw [hspec.2] at this
      nomatch this
    | some (some g) =>
      obtain ⟨s1, s2, _, s4⟩ := hspec
      generalize matchersToPostingGroups.go lvals ms ns = rest at ih
      match rest with
      | none => exact (congrArg (_ && ·) ih).trans (Bool.and_false _)
      | some gs =>
        obtain ⟨i1, i2, _⟩ := ih
        have hp := insertGroup_perm g gs
        refine ⟨?_, fun x hx => ?_, fun _ e => ?_⟩
        · rw [hp.all_eq, List.all_cons, i1, s1]
          rfl
        · rcases List.mem_cons.mp (hp.mem_iff.mp hx) with rfl | hx
          · exact ⟨s2, s4⟩
          · exact i2 x hx
        · exact List.cons_ne_nil _ _ (List.Perm.eq_nil (e ▸ hp).symm)

end Thanos.Postings
