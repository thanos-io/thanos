import Thanos.Model.Merge
import Thanos.Lemmas.Order
import Thanos.Lemmas.KMerge
import Thanos.Lemmas.LoserTreeMerge
/-
  `merge_isKMergeG` at the comparator of `NewProxyResponseLoserTree` (responses, wrapped in `some`, with `none` =
  `maxVal` for an exhausted stream): the comparator refines the weak order `leO` (`ordSpec_lessResp`), and a k-way
  merge of the wrapped streams is, unwrapped, an `IsKMerge` (`isKMerge_of_G`: `IsKMergeG` and `IsKMerge` are the same
  relation, only the `some` comes off).  Together: the tree meets `MergeSpec` (`losertree_refines`).
-/
namespace Thanos.Merge

open Thanos.LoserTree

/-- the weak order the comparator refines, with `none` (= `maxVal`) on top -/
def leO : Option Frame → Option Frame → Prop
  | _, none => True
  | none, some _ => False
  | some x, some y => frameLe x y

theorem ordSpec_lessResp : OrdSpec leO lessResp := by
  refine ⟨?_, ?_, ?_, ?_⟩
  · intro a
    cases a with
    | none => trivial
    | some x => exact frameLe_refl x
  · intro a b c h1 h2
    cases c with
    | none => cases a <;> trivial
    | some z =>
      cases b with
      | none => exact h2.elim
      | some y =>
        cases a with
        | none => exact h1.elim
        | some x => exact frameLe_trans h1 h2
  · intro a b h
    cases b with
    | none => cases a <;> trivial
    | some y =>
      cases a with
      | none => cases h
      | some x =>
        cases x with
        | series s =>
          cases y with
          | series t => show cmpLabels s.lbls t.lbls ≠ .gt; rw [of_decide_eq_true h]; nofun
          | _ => cases h
        | _ => trivial
  · intro a b h
    cases a with
    | none => cases b <;> trivial
    | some x =>
      cases b with
      | none => cases h
      | some y =>
        cases y with
        | series t =>
          cases x with
          | series s => exact lawful_labels.le_of_not_lt (of_decide_eq_false h)
          | _ => cases h
        | _ => trivial

theorem isKMerge_of_G : ∀ {ss : List (List (Option Frame))} {out : List (Option Frame)},
    IsKMergeG leO ss out → ∀ sets : List (List Frame), ss = sets.map (·.map some) →
      IsKMerge sets (out.filterMap id) := by
  intro ss out h
  induction h with
  | nil hall =>
    intro sets hs
    subst hs
    apply IsKMerge.nil
    intro s hs
    have := hall (s.map some) (List.mem_map.mpr ⟨s, hs, rfl⟩)
    simpa using this
  | @cons ss out i x rest hget hmin _ ih =>
    intro sets hs
    subst hs
    rw [List.getElem?_map] at hget
    obtain ⟨si, hsi, hmap⟩ := Option.map_eq_some_iff.mp hget
    obtain ⟨f, r, rfl, rfl, rfl⟩ := List.map_eq_cons_iff.mp hmap
    refine IsKMerge.cons i f r hsi ?_ ?_
    · intro j y r' hj
      have := hmin j (some y) (r'.map some) (by rw [List.getElem?_map, hj]; rfl)
      simpa [leO] using this
    · apply ih
      rw [List.map_set]

/-- **The loser tree refines the k-way merge.**  pkg/losertree as transliterated in
    `Model/LoserTree.lean` (`New`, `moveNext`, `initialize`/`playGame`, `Next`, `replayGames`), with the
    comparator of `NewProxyResponseLoserTree`, delivers a k-way merge (`IsKMerge`) of the response
    sets — for any number of stores and any stream lengths.  Proof: `Lemmas/LoserTree*.lean`
    (the tournament below a node as a derivation, `Won`; `playGame` builds it, `replayGames` replays
    the games on the old winner's path after its leaf advanced — `Played`, the same for both; the
    comparator refines the total preorder "non-series first, series by labels, exhausted last"
    although it is not a strict weak order on warnings/hints). -/
theorem losertree_refines : MergeSpec treeMerge := by
  intro sets
  unfold treeMerge
  apply isKMerge_of_G (ss := sets.map (·.map some)) _ sets rfl
  -- `none` is `maxVal`: above every response
  apply LoserTree.merge_isKMergeG ordSpec_lessResp none
  intro s hs x hx
  obtain ⟨s0, _, rfl⟩ := List.mem_map.mp hs
  obtain ⟨f, _, rfl⟩ := List.mem_map.mp hx
  exact id

end Thanos.Merge
