import Thanos.Model.Merge
import Thanos.Lemmas.Order
import Thanos.Lemmas.Proxy
import Thanos.Lemmas.KMerge
/-
  `sortWithoutLabels` (Go's insertion sort with the comparator `sortLess`) puts the non-series
  responses in front and sorts the series by labels, whatever the input order (`goInsertionSort_eq`
  and the shared `OrderedInsert.sort_pairwise`, for the weak order `frameLe`); the lazy receiver keeps
  the order of the store (`recvLoop_sublist`).  So every response set is a `StreamSorted` input of the merge
  (`respSet_sorted`).
-/
namespace Thanos.Merge

theorem frameLe_of_sortLess {x p : Frame} (h : sortLess x p = true) : frameLe x p := by
  cases x with
  | series a =>
    cases p with
    | series b => show cmpLabels a.lbls b.lbls ≠ .gt; rw [of_decide_eq_true h]; nofun
    | _ => cases h
  | _ => trivial

theorem frameLe_of_not_sortLess {x p : Frame} (h : sortLess x p = false) : frameLe p x := by
  cases x with
  | series a =>
    cases p with
    | series b => exact lawful_labels.le_of_not_lt (of_decide_eq_false h)
    | _ => trivial
  | _ => cases h

theorem goInsertionSort_sorted (fs : List Frame) : (goInsertionSort fs).Pairwise frameLe := by
  rw [goInsertionSort_eq, List.pairwise_reverse]
  -- the fold sorts descending (`R` is `frameLe` turned round); the final `reverse` turns it
  exact OrderedInsert.sort_pairwise (R := fun a b => frameLe b a) (fun _ _ => rfl) (fun _ _ _ h1 h2 => frameLe_trans h2 h1) _
    (List.pairwise_of_forall fun _ _ => ⟨fun h => frameLe_of_not_sortLess (Bool.eq_false_iff.mpr h),
      fun h => frameLe_of_sortLess (Decidable.not_not.mp h)⟩)

theorem sortedSeries_of_frameLe : ∀ (l : List Frame), l.Pairwise frameLe → SortedSeries l
  | [], _ => List.Pairwise.nil
  | x :: r, h => by
    have hc := List.pairwise_cons.mp h
    have ih := sortedSeries_of_frameLe r hc.2
    cases x with
    | series e => exact List.pairwise_cons.mpr ⟨fun o ho => hc.1 _ (mem_seriesOf.mp ho), ih⟩
    | _ => exact ih

theorem sortWithoutLabels_sorted (fs : List Frame) (names : List Bytes) :
    SortedSeries (sortWithoutLabels fs names) :=
  sortedSeries_of_frameLe _ (goInsertionSort_sorted _)

/-- every series in the store's script, batches unpacked, whether or not sharding or a failure keeps it from the merge -/
def storeSeries (fs : List (Frame × Bool)) : List Series :=
  fs.flatMap (fun p => match p.1 with | .series s => [s] | .batch ss => ss | _ => [])

theorem recvLoop_sublist (ap : Bool) (st : Store) (fs : List (Frame × Bool)) (i : Nat) :
    (seriesOf (recvLoop ap st i fs)).Sublist (storeSeries fs) := by
  fun_induction recvLoop ap st i fs with
  | case1 i =>
    cases hfa : failAt st i with
    | none => exact List.Sublist.refl _
    | some w => obtain ⟨m, rfl⟩ := failAt_warning hfa; exact List.Sublist.refl _
  | case2 i g keep rest w hfa => obtain ⟨m, rfl⟩ := failAt_warning hfa; exact List.nil_sublist _
  | case3 i keep rest hfa tail s hap ih => exact ih.cons _
  | case4 i keep rest hfa tail s hap ih => exact ih.cons_cons _
  | case5 i keep rest hfa tail bs ih =>
    show (seriesOf (bs.map Frame.series ++ _)).Sublist (bs ++ storeSeries rest)
    rw [seriesOf_append, seriesOf_map_series]
    exact (List.Sublist.refl _).append ih
  | case6 i g keep rest hfa tail hs hb ih =>
    cases g with
    | series s => exact (hs s rfl).elim
    | batch bs => exact (hb bs rfl).elim
    | _ => exact ih

/-- a store is read in the order it sends (lazy retrieval, no re-sort needed) -/
def ReadInOrder (rq : Request) (st : Store) : Bool :=
  rq.lazy && !(!st.supportsWithout && !rq.without.isEmpty)

/-- for a store read in order the hypothesis is the StoreAPI contract (a store sends its series sorted); every
    other store is re-sorted by `sortWithoutLabels` -/
theorem respSet_sorted (rq : Request) (st : Store)
    (h : ReadInOrder rq st = true → (storeSeries st.frames).Pairwise (fun a b => lblLe a.lbls b.lbls)) :
    StreamSorted (respSet rq.lazy rq.sharded rq.without st) := by
  unfold respSet
  simp only
  split
  · rename_i hl
    unfold StreamSorted SortedSeries
    exact (h (by simpa [ReadInOrder] using hl)).sublist (recvLoop_sublist _ st st.frames 0)
  · exact sortWithoutLabels_sorted _ _

end Thanos.Merge
