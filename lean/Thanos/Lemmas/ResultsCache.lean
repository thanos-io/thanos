import Thanos.Lemmas.MatrixMerge
import Thanos.Lemmas.Split
/-
  C42 (results cache): the cache.  Every response in play is `Exact`: the downstream's data on the
  multiples of a step inside a range, and exact matrices for the same range are equal (`Exact.unique`).
  `extract`, `mergeResponse` (`merge_exact`, over Lemmas/MatrixMerge.lean), `partition`, `handleHit` and
  `doReq` keep responses exact and the cache good (`GoodCacheOn`), so the chain answers as the downstream
  does (`frontend_exact`, `historyE_exact`).  `partition` is read from a state of its loop on
  (`partitionFrom`): what it still adds covers the request's grid from the moving `start` on
  (`partitionFrom_spec`, one induction whose base case is the two closing appends), so no invariant of
  what it has collected is needed.
-/
namespace Thanos.ResultsCache

section
open Thanos.Split

def InData (D : Down) (step : Int) (id : Nat) (x : Sample) : Prop :=
  id ∈ D.ids ∧ x.t % step = 0 ∧ D.f id x.t = some x.v

/-- `m` is exactly the downstream's data on the multiples of `step` inside `[a, b]` -/
structure Exact (D : Down) (step a b : Int) (m : Matrix) : Prop where
  canon : Canon m
  asc : ∀ s ∈ m, Asc s.2
  mem : ∀ id x, x ∈ look m id ↔ InData D step id x ∧ a ≤ x.t ∧ x.t ≤ b

def Down.Sorted (D : Down) : Prop := D.ids.Pairwise (· < ·)

theorem Exact.unique {D : Down} {step a b : Int} {m1 m2 : Matrix} (h1 : Exact D step a b m1) (h2 : Exact D step a b m2) :
    m1 = m2 := by
  apply canon_ext h1.canon h2.canon
  intro id
  apply eq_of_pairwise_of_mem_iff (fun a b h h' => by omega) (asc_look_of h1.asc id) (asc_look_of h2.asc id)
  intro x
  rw [h1.mem, h2.mem]

def samplesOn (f : Int → Option Int) (T : List Int) : List Sample := T.filterMap fun t => (f t).map (Sample.mk t)

theorem mem_samplesOn {f : Int → Option Int} {T : List Int} {x : Sample} :
    x ∈ samplesOn f T ↔ x.t ∈ T ∧ f x.t = some x.v := by
  unfold samplesOn
  simp only [List.mem_filterMap, Option.map_eq_some_iff]
  constructor
  · rintro ⟨t, ht, v, hv, rfl⟩; exact ⟨ht, hv⟩
  · rintro ⟨ht, hv⟩; exact ⟨x.t, ht, x.v, hv, rfl⟩

theorem asc_samplesOn {f : Int → Option Int} {T : List Int} (hT : T.Pairwise (· < ·)) : Asc (samplesOn f T) := by
  unfold samplesOn Asc
  rw [List.pairwise_filterMap]
  refine hT.imp ?_
  intro a b hab x hx y hy
  simp only [Option.map_eq_some_iff] at hx hy
  obtain ⟨_, _, rfl⟩ := hx
  obtain ⟨_, _, rfl⟩ := hy
  exact hab

/-- how `evalD` and `extract` build their results: empty streams are left out -/
def streamsOf {α : Type} (key : α → Nat) (g : α → List Sample) (l : List α) : Matrix :=
  l.filterMap fun a => match g a with
    | [] => none
    | s => some (key a, s)

theorem streamsOf_eq {α : Type} (key : α → Nat) (g : α → List Sample) (l : List α) :
    streamsOf key g l = (l.map fun a => (key a, g a)).filter fun s => s.2 ≠ [] := by
  induction l with
  | nil => rfl
  | cons a l ih =>
    rw [streamsOf, List.filterMap_cons, ← streamsOf, List.map_cons, List.filter_cons, ← ih]
    cases g a <;> simp

theorem exact_streamsOf {D : Down} {step a b : Int} {α : Type} {key : α → Nat} {g : α → List Sample} {l : List α}
    (hk : (l.map key).Pairwise (· < ·)) (hg : ∀ a ∈ l, Asc (g a))
    (hm : ∀ id x, x ∈ look (l.map fun a => (key a, g a)) id ↔ InData D step id x ∧ a ≤ x.t ∧ x.t ≤ b) :
    Exact D step a b (streamsOf key g l) := by
  rw [streamsOf_eq]
  have hk' : (ids (l.map fun a => (key a, g a))).Pairwise (· < ·) := by rwa [ids, List.map_map]
  refine ⟨⟨List.Pairwise.sublist (List.filter_sublist.map _) hk',
    fun s hs => of_decide_eq_true (List.mem_filter.mp hs).2⟩, fun s hs => ?_, fun id x => ?_⟩
  · obtain ⟨a, ha, rfl⟩ := List.mem_map.mp (List.mem_filter.mp hs).1
    exact hg a ha
  · rw [look_filter_ne_nil (hk'.imp Nat.ne_of_lt)]
    exact hm id x

theorem sub_emod_aligned {a step : Int} (ha : a % step = 0) (t : Int) : (t - a) % step = t % step := by
  rw [Int.sub_emod, ha, Int.sub_zero, Int.emod_emod]

theorem evalD_exact (D : Down) (hD : D.Sorted) (step a b : Int) (hs : 0 < step) (ha : a % step = 0) :
    Exact D step a b (evalD D a b step) := by
  refine exact_streamsOf (key := fun i => i) (g := fun i => samplesOn (D.f i) (grid a b step))
    ((List.map_id' _).symm ▸ hD) (fun _ _ => asc_samplesOn (grid_pairwise hs)) fun id x => ?_
  rw [look_map_ids]
  by_cases hid : id ∈ D.ids
  · simp only [hid, if_true, mem_samplesOn, mem_grid hs, sub_emod_aligned ha, InData, true_and]
    constructor
    · rintro ⟨⟨h1, h2, h3⟩, h4⟩; exact ⟨⟨h3, h4⟩, h1, h2⟩
    · rintro ⟨⟨h3, h4⟩, h1, h2⟩; exact ⟨⟨h1, h2, h3⟩, h4⟩
  · simp [hid, InData]

end

theorem atStep_iff (a' b' st t : Int) :
    atStep a' b' st t = true ↔ a' ≤ t ∧ t ≤ b' ∧ (st ≤ 0 ∨ (t - a').tmod st = 0) := by
  unfold atStep
  split
  · next h => exact ⟨nofun, fun h' => by omega⟩
  · next h =>
    rw [Bool.or_eq_true, decide_eq_true_eq, decide_eq_true_eq]
    exact ⟨fun h' => ⟨by omega, by omega, h'⟩, fun h' => h'.2.2⟩

theorem atStep_pos {a' b' step t : Int} (hs : 0 < step) (ha : a' % step = 0) :
    atStep a' b' step t = true ↔ a' ≤ t ∧ t ≤ b' ∧ t % step = 0 := by
  rw [atStep_iff]
  refine and_congr_right fun h1 => and_congr_right fun _ => ?_
  rw [Int.tmod_eq_emod_of_nonneg (Int.sub_nonneg_of_le h1), sub_emod_aligned ha]
  exact ⟨fun h => h.resolve_left (Int.not_le.mpr hs), Or.inr⟩

theorem emod_zero_of_dvd_step {t step s' : Int} (hdvd : step % s' = 0) (h : t % step = 0) : t % s' = 0 :=
  Int.emod_eq_zero_of_dvd (Int.dvd_trans (Int.dvd_of_emod_eq_zero hdvd) (Int.dvd_of_emod_eq_zero h))

/-- `extract` with a step argument `st` under which `isTimestampAtStep` selects, among the multiples
    of `s'`, those of `step` in `[a', b']`: a response exact for `s'` becomes exact for `step` on the
    intersection -/
theorem extract_exact_of {D : Down} {s' step a b : Int} {m : Matrix} (h : Exact D s' a b m) (a' b' st : Int)
    (hdvd : step % s' = 0)
    (hat : ∀ t, t % s' = 0 → (atStep a' b' st t = true ↔ a' ≤ t ∧ t ≤ b' ∧ t % step = 0)) :
    Exact D step (max a a') (min b b') (extract a' b' st m) := by
  refine exact_streamsOf (l := m) (g := fun s => s.2.filter fun x => atStep a' b' st x.t) h.canon.1
    (fun s hs => ?_) fun id x => ?_
  · exact List.Pairwise.filter _ (h.asc s hs)
  · rw [look_map_snd _ rfl, List.mem_filter, h.mem, Int.max_le, Int.le_min]
    constructor
    · rintro ⟨⟨⟨h1, h2, h3⟩, h4, h5⟩, h6⟩
      obtain ⟨h7, h8, h9⟩ := (hat x.t h2).mp h6
      exact ⟨⟨h1, h9, h3⟩, ⟨h4, h7⟩, h5, h8⟩
    · rintro ⟨⟨h1, h2, h3⟩, ⟨h4, h7⟩, h5, h8⟩
      have h2' := emod_zero_of_dvd_step hdvd h2
      exact ⟨⟨⟨h1, h2', h3⟩, h4, h5⟩, (hat x.t h2').mpr ⟨h7, h8, h2⟩⟩

/-- `Extract(start, end, ·)` -/
theorem extract_exact {D : Down} {step a b : Int} {m : Matrix} (h : Exact D step a b m) (a' b' : Int) :
    Exact D step (max a a') (min b b') (extract a' b' 0 m) :=
  extract_exact_of h a' b' 0 Int.emod_self fun t ht =>
    (atStep_iff a' b' 0 t).trans ⟨fun h => ⟨h.1, h.2.1, ht⟩, fun h => ⟨h.1, h.2.1, Or.inl (Int.le_refl 0)⟩⟩

theorem coherent_of_exact {D : Down} {step : Int} {ps : List Piece}
    (h : ∀ p ∈ ps, 0 ≤ p.a ∧ Exact D step p.a p.b p.m) : Coherent ps := by
  refine ⟨fun p hp => (h p hp).1, fun p hp => canon_nodup (h p hp).2.canon,
    fun p hp s hs => ⟨(h p hp).2.canon.2 s hs, (h p hp).2.asc s hs⟩, ?_, ?_⟩
  · intro p hp s hs x hx
    have hl : look p.m s.1 = s.2 := look_of_mem (canon_nodup (h p hp).2.canon) (show (s.1, s.2) ∈ p.m from hs)
    exact (((h p hp).2.mem s.1 x).mp (hl ▸ hx)).2
  · intro p hp q hq id x hx h1 h2
    exact ((h q hq).2.mem id x).mpr ⟨(((h p hp).2.mem id x).mp hx).1, h1, h2⟩

/-- pieces exact on sub-ranges of `[A, B]` that together cover its grid merge to the exact response on `[A, B]`;
    with `Exact.unique`, how every equality of C42 is shown -/
theorem merge_exact {D : Down} {step A B : Int} {ps : List Piece}
    (h : ∀ p ∈ ps, 0 ≤ p.a ∧ Exact D step p.a p.b p.m)
    (hin : ∀ p ∈ ps, A ≤ p.a ∧ p.b ≤ B)
    (hcover : ∀ t, A ≤ t → t ≤ B → t % step = 0 → ∃ p ∈ ps, p.a ≤ t ∧ t ≤ p.b) :
    Exact D step A B (mergeResponse true (ps.map (·.m))) := by
  obtain ⟨hcanon, hlook⟩ := mergeResponse_spec ps (coherent_of_exact h)
  refine ⟨hcanon, ?_, ?_⟩
  · intro s hs
    have hl : look _ s.1 = s.2 := look_of_mem (canon_nodup hcanon) (show (s.1, s.2) ∈ _ from hs)
    rw [← hl]; exact (hlook s.1).1
  · intro id x
    rw [(hlook id).2 x]
    constructor
    · rintro ⟨p, hp, hx⟩
      have h1 := ((h p hp).2.mem id x).mp hx
      exact ⟨h1.1, Int.le_trans (hin p hp).1 h1.2.1, Int.le_trans h1.2.2 (hin p hp).2⟩
    · rintro ⟨hd, h1, h2⟩
      obtain ⟨p, hp, h3, h4⟩ := hcover x.t h1 h2 hd.2.1
      exact ⟨p, hp, ((h p hp).2.mem id x).mpr ⟨hd, h3, h4⟩⟩

/-- what StepAlign establishes -/
def Aligned (r : Req) : Prop :=
  0 < r.step ∧ 0 ≤ r.start ∧ r.start ≤ r.stop ∧ r.start % r.step = 0 ∧ r.stop % r.step = 0

def GoodExtent (D : Down) (step : Int) (e : Extent) : Prop :=
  0 ≤ e.start ∧ e.start % step = 0 ∧ e.stop % step = 0 ∧ Exact D step e.start e.stop e.resp

def PiecesOK (D : Down) (req : Req) (ps : List Piece) : Prop :=
  ∀ p ∈ ps, 0 ≤ p.a ∧ Exact D req.step p.a p.b p.m ∧ req.start ≤ p.a ∧ p.b ≤ req.stop

def Covered (ps : List Piece) (rs : List Req) (t : Int) : Prop :=
  (∃ p ∈ ps, p.a ≤ t ∧ t ≤ p.b) ∨ (∃ r ∈ rs, r.start ≤ t ∧ t ≤ r.stop)

theorem Covered.mono {ps ps' : List Piece} {rs rs' : List Req} {t : Int} (h : Covered ps rs t)
    (hp : ∀ p ∈ ps, p ∈ ps') (hr : ∀ r ∈ rs, r ∈ rs') : Covered ps' rs' t := by
  rcases h with ⟨p, hp', h⟩ | ⟨r, hr', h⟩
  · exact Or.inl ⟨p, hp p hp', h⟩
  · exact Or.inr ⟨r, hr r hr', h⟩

theorem snoc_if {α : Type} {c : Prop} [Decidable c] (l : List α) (x : α) :
    (if c then l ++ [x] else l) = l ++ if c then [x] else [] := by
  split <;> simp

/-- `partitionLoop` on an extent it skips (outside what is left of the request, or too small) and on one it uses -/
theorem partitionLoop_skip (cfg : Cfg) (req : Req) (matching : Bool) (e : Extent) (es : List Extent) (start : Int)
    (rs : List Req) (cached : List Matrix)
    (h : (e.stop < start ∨ e.start > req.stop) ∨
      (req.start ≠ req.stop ∧ req.stop - req.start > minCacheExtent ∧ e.stop - e.start < minCacheExtent)) :
    partitionLoop cfg req matching (e :: es) start rs cached = partitionLoop cfg req matching es start rs cached := by
  rw [partitionLoop]
  rcases h with h | h
  · rw [if_pos h]
  · rw [if_pos h, ite_self]

theorem partitionLoop_use (cfg : Cfg) (req : Req) (matching : Bool) (e : Extent) (es : List Extent) (start : Int)
    (rs : List Req) (cached : List Matrix) (h1 : ¬ (e.stop < start ∨ e.start > req.stop))
    (h2 : ¬ (req.start ≠ req.stop ∧ req.stop - req.start > minCacheExtent ∧ e.stop - e.start < minCacheExtent)) :
    partitionLoop cfg req matching (e :: es) start rs cached =
      partitionLoop cfg req matching es
        (if matching ∧ cfg.gridFix ∧ req.step > 0 then e.stop - (e.stop - req.start).tmod req.step else e.stop)
        (if start < e.start then rs ++ [⟨start, e.start, req.step⟩] else rs)
        (cached ++ [extract start req.stop (if matching then req.step else 0) e.resp]) := by
  rw [partitionLoop, if_neg h1, if_neg h2]

/-- the repaired continuation point `e.End - (e.End - req.Start) % step` -/
theorem gridFloor {reqStart step estop start : Int} (hs : 0 < step) (hra : reqStart % step = 0) (hlo : reqStart ≤ start)
    (hal : start % step = 0) (hle : start ≤ estop) :
    (estop - (estop - reqStart).tmod step) % step = 0 ∧ estop - (estop - reqStart).tmod step ≤ estop ∧
      start ≤ estop - (estop - reqStart).tmod step := by
  -- with `reqStart` on the grid the point is `estop / step * step`: what StepAlign makes of `estop`
  have e : estop - (estop - reqStart).tmod step = estop / step * step := by
    rw [Int.tmod_eq_emod_of_nonneg (Int.sub_nonneg_of_le (Int.le_trans hlo hle)), sub_emod_aligned hra]
    exact Int.sub_eq_iff_eq_add'.mpr (Int.emod_add_ediv_mul estop step).symm
  rw [e]
  exact ⟨Int.mul_emod_left _ _, Int.ediv_mul_le _ (Int.ne_of_gt hs),
    Int.ediv_mul_cancel_of_emod_eq_zero hal ▸
      Int.mul_le_mul_of_nonneg_right (Int.ediv_le_ediv hs hle) (Int.le_of_lt hs)⟩

/-- `partition` from a state of its loop on: the remaining extents, then the two closing appends -/
def partitionFrom (cfg : Cfg) (req : Req) (matching : Bool) (exts : List Extent) (start : Int) (rs : List Req)
    (cached : List Matrix) : List Req × List Matrix :=
  let (start, reqs, cached) := partitionLoop cfg req matching exts start rs cached
  let reqs := if start < req.stop then reqs ++ [⟨start, req.stop, req.step⟩] else reqs
  let reqs := if req.start = req.stop ∧ cached.isEmpty then reqs ++ [req] else reqs
  (reqs, cached)

theorem partition_eq (cfg : Cfg) (req : Req) (matching : Bool) (exts : List Extent) :
    partition cfg req matching exts = partitionFrom cfg req matching exts req.start [] [] := rfl

/-- **what `partition` still adds from a state of its loop on**, both modes: pieces and sub-requests that
    cover the request's grid from `start` on; `start` itself needs covering only before the first extent.
    The extents are good for a step `s'` dividing the request's: in any-step mode (`matching = false`, the
    request's own key) `s' = req.step`; in matching-step mode (a lower-step key) the continuation point
    must be put back on the request's grid (`gridFix`).  Sub-requests end on the `s'`-grid. -/
theorem partitionFrom_spec (cfg : Cfg) (D : Down) (req : Req) (hreq : Aligned req) (matching : Bool) (s' : Int)
    (hdvd : req.step % s' = 0) (hmode : if matching then cfg.gridFix = true else s' = req.step)
    (exts : List Extent) (hgood : ∀ e ∈ exts, GoodExtent D s' e) (start : Int) (rs : List Req) (cached : List Matrix)
    (hlo : req.start ≤ start) (hal : start % req.step = 0) :
    ∃ rs1 ps1, partitionFrom cfg req matching exts start rs cached = (rs ++ rs1, cached ++ ps1.map (·.m)) ∧
      PiecesOK D req ps1 ∧
      (∀ r ∈ rs1, r.step = req.step ∧ 0 ≤ r.start ∧ r.start % req.step = 0 ∧ req.start ≤ r.start ∧
        r.stop ≤ req.stop ∧ r.start ≤ r.stop ∧ r.stop % s' = 0) ∧
      ∀ t, start ≤ t → t ≤ req.stop → t % req.step = 0 → (t = start → cached = [] ∧ start = req.start) →
        Covered ps1 rs1 t := by
  obtain ⟨hstep, hr0, hrle, hra, hrb⟩ := hreq
  unfold partitionFrom
  -- arms: no extent left (the closing appends); extent outside the request; extent too small to use; extent used
  fun_induction partitionLoop cfg req matching exts start rs cached with
  | case1 start rs cached =>
    have hrbs : req.stop % s' = 0 := emod_zero_of_dvd_step hdvd hrb
    refine ⟨(if start < req.stop then [⟨start, req.stop, req.step⟩] else []) ++
        if req.start = req.stop ∧ cached.isEmpty then [req] else [], [], ?_, nofun, fun r hr => ?_,
      fun t ht1 ht2 _ ht => ?_⟩
    · simp only
      rw [snoc_if, snoc_if, List.append_assoc, List.map_nil, List.append_nil]
    · rcases List.mem_append.mp hr with hr | hr
      · obtain ⟨hlt, hr⟩ := List.mem_ite_nil_right.mp hr
        obtain rfl := List.mem_singleton.mp hr
        exact ⟨rfl, Int.le_trans hr0 hlo, hal, hlo, Int.le_refl _, Int.le_of_lt hlt, hrbs⟩
      · obtain rfl := List.mem_singleton.mp (List.mem_ite_nil_right.mp hr).2
        exact ⟨rfl, hr0, hra, Int.le_refl _, Int.le_refl _, hrle, hrbs⟩
    · by_cases hlt : start < req.stop
      · exact Or.inr ⟨_, List.mem_append_left _ (List.mem_ite_nil_right.mpr ⟨hlt, List.mem_singleton_self _⟩),
          ht1, ht2⟩
      · -- `t = start = req.stop`, so nothing was cached and `start = req.start`: the point request
        have hts : t = start := Int.le_antisymm (Int.le_trans ht2 (Int.not_lt.mp hlt)) ht1
        obtain ⟨hc, hs⟩ := ht hts
        exact Or.inr ⟨req, List.mem_append_right _ (List.mem_ite_nil_right.mpr
          ⟨⟨hs ▸ Int.le_antisymm (Int.le_trans ht1 ht2) (Int.not_lt.mp hlt), hc ▸ rfl⟩, List.mem_singleton_self _⟩),
          Int.le_trans hlo ht1, ht2⟩
  | case2 e es start rs cached _ ih => exact ih (List.forall_mem_cons.mp hgood).2 hlo hal
  | case3 e es start rs cached _ _ ih => exact ih (List.forall_mem_cons.mp hgood).2 hlo hal
  | case4 e es start rs cached h1 h2 rs1 cached1 next ih =>
    obtain ⟨⟨he0, hea, heb, hex⟩, hgood⟩ := List.forall_mem_cons.mp hgood
    have ho1 : start ≤ e.stop := Int.not_lt.mp fun h => h1 (Or.inl h)
    have ho2 : e.start ≤ req.stop := Int.not_lt.mp fun h => h1 (Or.inr h)
    have hext : Exact D req.step (max e.start start) (min e.stop req.stop)
          (extract start req.stop (if matching then req.step else 0) e.resp) ∧
        next % req.step = 0 ∧ next ≤ e.stop ∧ start ≤ next := by
      cases matching with
      | false =>
        have hmode : s' = req.step := hmode
        subst hmode
        exact ⟨extract_exact hex start req.stop, heb, Int.le_refl _, ho1⟩
      | true =>
        refine ⟨extract_exact_of hex start req.stop req.step hdvd fun _ _ => atStep_pos hstep hal, ?_⟩
        rw [show next = _ from if_pos ⟨rfl, hmode, hstep⟩]
        exact gridFloor hstep hra hlo hal ho1
    obtain ⟨hm, hn1, hn2, hn3⟩ := hext
    obtain ⟨rs2, ps2, heq, hps, hrs, hcov⟩ := ih hgood (Int.le_trans hlo hn3) hn1
    refine ⟨(if start < e.start then [⟨start, e.start, req.step⟩] else []) ++ rs2,
      ⟨max e.start start, min e.stop req.stop, extract start req.stop (if matching then req.step else 0) e.resp⟩ :: ps2,
      ?_, List.forall_mem_cons.mpr ⟨?_, hps⟩, List.forall_mem_append.mpr ⟨fun r hr => ?_, hrs⟩,
      fun t ht1 ht2 ht3 _ => ?_⟩
    · rw [heq]
      simp only [rs1, cached1, snoc_if, List.append_assoc, List.map_cons, List.singleton_append]
    · exact ⟨Int.le_trans he0 (Int.le_max_left ..), hm, Int.le_trans hlo (Int.le_max_right ..), Int.min_le_right ..⟩
    · obtain ⟨hlt, hr⟩ := List.mem_ite_nil_right.mp hr
      obtain rfl := List.mem_singleton.mp hr
      exact ⟨rfl, Int.le_trans hr0 hlo, hal, hlo, ho2, Int.le_of_lt hlt, hea⟩
    · -- the gap and the piece cover `[start, next]`, the rest of the loop what lies beyond `next`
      by_cases hgt : next < t
      · exact (hcov t (Int.le_of_lt hgt) ht2 ht3 fun h => absurd h (Int.ne_of_gt hgt)).mono
          (fun p hp => List.mem_cons_of_mem _ hp) fun r hr => List.mem_append_right _ hr
      · by_cases hin : e.start ≤ t
        · exact Or.inl ⟨_, List.mem_cons_self, Int.max_le.mpr ⟨hin, ht1⟩,
            Int.le_min.mpr ⟨Int.le_trans (Int.not_lt.mp hgt) hn2, ht2⟩⟩
        · have hlt := Int.not_le.mp hin
          exact Or.inr ⟨_, List.mem_append_left _ (List.mem_ite_nil_right.mpr
            ⟨Int.lt_of_le_of_lt ht1 hlt, List.mem_singleton_self _⟩), ht1, Int.le_of_lt hlt⟩

def fetchedPieces (D : Down) (rs : List Req) : List Piece :=
  rs.map fun r => ⟨r.start, r.stop, evalD D r.start r.stop r.step⟩

/-- **`partition` covers the request**, both modes (see `partitionFrom_spec`) -/
theorem partition_cover (cfg : Cfg) (D : Down) (hD : D.Sorted) (req : Req) (hreq : Aligned req) (matching : Bool)
    (s' : Int) (hdvd : req.step % s' = 0) (hmode : if matching then cfg.gridFix = true else s' = req.step)
    (exts : List Extent) (hgood : ∀ e ∈ exts, GoodExtent D s' e) :
    ∃ rs ps, partition cfg req matching exts = (rs, ps.map (·.m)) ∧
      (∀ p ∈ ps ++ fetchedPieces D rs, 0 ≤ p.a ∧ Exact D req.step p.a p.b p.m) ∧
      (∀ p ∈ ps ++ fetchedPieces D rs, req.start ≤ p.a ∧ p.b ≤ req.stop) ∧
      (∀ t, req.start ≤ t → t ≤ req.stop → t % req.step = 0 → ∃ p ∈ ps ++ fetchedPieces D rs, p.a ≤ t ∧ t ≤ p.b) ∧
      (∀ r ∈ rs, r.step = req.step ∧ 0 ≤ r.start ∧ r.start % req.step = 0 ∧ req.start ≤ r.start ∧ r.stop ≤ req.stop ∧
        r.start ≤ r.stop ∧ r.stop % s' = 0) := by
  obtain ⟨rs, ps, heq, hps, hrs, hcov⟩ := partitionFrom_spec cfg D req hreq matching s' hdvd hmode exts hgood
    req.start [] [] (Int.le_refl _) hreq.2.2.2.1
  rw [List.nil_append, List.nil_append] at heq
  refine ⟨rs, ps, (partition_eq ..).trans heq,
    List.forall_mem_append.mpr ⟨fun p hp => ⟨(hps p hp).1, (hps p hp).2.1⟩, List.forall_mem_map.mpr fun r hr => ?_⟩,
    List.forall_mem_append.mpr ⟨fun p hp => (hps p hp).2.2,
      List.forall_mem_map.mpr fun r hr => ⟨(hrs r hr).2.2.2.1, (hrs r hr).2.2.2.2.1⟩⟩,
    fun t ht1 ht2 ht3 => ?_, hrs⟩
  · obtain ⟨a1, a2, a3, _⟩ := hrs r hr
    exact ⟨a2, a1 ▸ evalD_exact D hD r.step r.start r.stop (a1 ▸ hreq.1) (a1 ▸ a3)⟩
  · rcases hcov t ht1 ht2 ht3 fun _ => ⟨rfl, rfl⟩ with ⟨p, hp, h⟩ | ⟨r, hr, h⟩
    · exact ⟨p, List.mem_append_left _ hp, h⟩
    · exact ⟨_, List.mem_append_right _ (List.mem_map.mpr ⟨r, hr, rfl⟩), h⟩

theorem sorted_extents (l : List Extent) : (sortLt extentLt l).Pairwise fun a b => a.start ≤ b.start := by
  apply pairwise_sortLt
  case htr => exact fun _ _ _ => Int.le_trans
  all_goals
    intro a b h
    unfold extentLt at h
    split at h
    · omega
    · simp at h; omega

theorem mergeExtentsLoop_good (g : Bool) (D : Down) (step : Int) (es : List Extent) (acc : Extent)
    (hacc : GoodExtent D step acc) (hes : ∀ e ∈ es, GoodExtent D step e) (hle : ∀ e ∈ es, acc.start ≤ e.start)
    (hsorted : es.Pairwise (fun a b => a.start ≤ b.start)) :
    ∀ e ∈ mergeExtentsLoop ⟨true, g⟩ step acc es, GoodExtent D step e := by
  -- arms: no extent left; a gap before `e`; `e` ends inside `acc`; `e` merged into `acc`
  fun_induction mergeExtentsLoop ⟨true, g⟩ step acc es with
  | case1 acc => exact List.forall_mem_singleton.mpr hacc
  | case2 acc e es h1 ih =>
    obtain ⟨he, hes⟩ := List.forall_mem_cons.mp hes
    obtain ⟨hee, hsorted⟩ := List.pairwise_cons.mp hsorted
    exact List.forall_mem_cons.mpr ⟨hacc, ih he hes hee hsorted⟩
  | case3 acc e es h1 h2 ih =>
    exact ih hacc (List.forall_mem_cons.mp hes).2 (List.forall_mem_cons.mp hle).2 hsorted.of_cons
  | case4 acc e es h1 h2 ih =>
    obtain ⟨⟨e0, e2, e3, e4⟩, hes⟩ := List.forall_mem_cons.mp hes
    obtain ⟨hae, hle⟩ := List.forall_mem_cons.mp hle
    obtain ⟨a0, a2, a3, a4⟩ := hacc
    refine ih ⟨a0, a2, e3, ?_⟩ hes hle hsorted.of_cons
    refine merge_exact (ps := [⟨acc.start, acc.stop, acc.resp⟩, ⟨e.start, e.stop, e.resp⟩])
      (List.forall_mem_cons.mpr ⟨⟨a0, a4⟩, List.forall_mem_singleton.mpr ⟨e0, e4⟩⟩)
      (List.forall_mem_cons.mpr ⟨⟨Int.le_refl _, Int.le_of_lt (Int.not_le.mp h2)⟩,
        List.forall_mem_singleton.mpr ⟨hae, Int.le_refl _⟩⟩)
      fun t ht1 ht2 ht3 => ?_
    by_cases hta : t ≤ acc.stop
    · exact ⟨_, List.mem_cons_self, ht1, hta⟩
    · refine ⟨_, List.mem_cons_of_mem _ List.mem_cons_self, ?_, ht2⟩
      -- t and acc.stop are multiples of step, t > acc.stop, so t ≥ acc.stop + step ≥ e.start
      have := Int.le_of_dvd (Int.sub_pos_of_lt (Int.not_le.mp hta))
        (Int.dvd_sub (Int.dvd_of_emod_eq_zero ht3) (Int.dvd_of_emod_eq_zero a3))
      exact Int.le_trans (Int.not_lt.mp h1) (Int.add_le_of_le_sub_left this)

theorem mergeExtents_good_any_step (g : Bool) (D : Down) (step : Int) (all : List Extent)
    (h : ∀ e ∈ all, GoodExtent D step e) : ∀ e ∈ mergeExtents ⟨true, g⟩ step all, GoodExtent D step e := by
  have hgood : ∀ e ∈ sortLt extentLt all, GoodExtent D step e := fun e he =>
    h e ((perm_sortLt extentLt all).subset he)
  have hsorted := sorted_extents all
  rw [mergeExtents]
  generalize sortLt extentLt all = l at hgood hsorted
  cases l with
  | nil => exact fun _ he => nomatch he
  | cons x xs =>
    obtain ⟨hx, hxs⟩ := List.forall_mem_cons.mp hgood
    obtain ⟨h1, h2⟩ := List.pairwise_cons.mp hsorted
    exact mergeExtentsLoop_good g D step xs x hx hxs h1 h2

/-- whether or not anything had to be fetched -/
theorem handleHit_fst (cfg : Cfg) (env : Env) (D : Down) (req : Req) (exts : List Extent) (matching : Bool) :
    (handleHit cfg env D req exts matching).1 =
      mergeResponse cfg.minAll ((partition cfg req matching exts).2 ++
        (partition cfg req matching exts).1.map fun r => evalD D r.start r.stop r.step) := by
  unfold handleHit
  rcases partition cfg req matching exts with ⟨rs, cached⟩
  cases rs with
  | nil => simp
  | cons r rs => simp [Function.comp_def]

/-- **a cache hit answers exactly** (repaired `minTime`), in both modes of `partition_cover`; what
    it hands back for the request's own key (`s' = req.step`) are good extents -/
theorem handleHit_exact (g : Bool) (env : Env) (D : Down) (hD : D.Sorted) (req : Req) (hreq : Aligned req)
    (matching : Bool) (s' : Int) (hdvd : req.step % s' = 0) (hmode : if matching then g = true else s' = req.step)
    (exts : List Extent) (hgood : ∀ e ∈ exts, GoodExtent D s' e) :
    (handleHit ⟨true, g⟩ env D req exts matching).1 = evalD D req.start req.stop req.step ∧
    (s' = req.step → ∀ ex, (handleHit ⟨true, g⟩ env D req exts matching).2 = some ex →
      ∀ e ∈ ex, GoodExtent D req.step e) := by
  obtain ⟨rs, ps, hpart, hex, hin, hcov, hrs⟩ :=
    partition_cover ⟨true, g⟩ D hD req hreq matching s' hdvd hmode exts hgood
  constructor
  · have hmerge := merge_exact hex hin hcov
    rw [handleHit_fst, hpart]
    rw [List.map_append, fetchedPieces, List.map_map] at hmerge
    exact hmerge.unique (evalD_exact D hD req.step req.start req.stop hreq.1 hreq.2.2.2.1)
  · intro hs'
    subst hs'
    rw [handleHit, hpart]
    simp only
    by_cases hemp : rs.isEmpty = true
    · rw [if_pos hemp]
      nofun
    · rw [if_neg hemp]
      rintro _ ⟨rfl⟩
      refine mergeExtents_good_any_step g D req.step _ (List.forall_mem_append.mpr ⟨hgood, ?_⟩)
      refine List.forall_mem_map.mpr fun p hp => ?_
      obtain ⟨r, hr, rfl⟩ := List.mem_map.mp (List.mem_filter.mp hp).1
      obtain ⟨a1, a2, a3, _, _, _, a7⟩ := hrs r hr
      exact ⟨a2, a3, a7, a1 ▸ evalD_exact D hD r.step r.start r.stop (a1 ▸ hreq.1) (a1 ▸ a3)⟩

/-- `filterRecentExtents`: a truncated extent holds exactly the data of the truncated range -/
theorem filterRecent_good_any_step (env : Env) (D : Down) (step : Int) (exts : List Extent)
    (h : ∀ e ∈ exts, GoodExtent D step e) : ∀ e ∈ filterRecent env step exts, GoodExtent D step e := by
  refine List.forall_mem_map.mpr fun e0 he0 => ?_
  obtain ⟨a0, a1, a2, a3⟩ := h e0 he0
  by_cases hgt : e0.stop > env.mct.tdiv step * step
  · rw [if_pos hgt]
    refine ⟨a0, a1, Int.mul_emod_left _ _, ?_⟩
    have := extract_exact a3 e0.start (env.mct.tdiv step * step)
    rwa [Int.max_self, Int.min_eq_right (Int.le_of_lt hgt)] at this
  · rw [if_neg hgt]
    exact ⟨a0, a1, a2, a3⟩

/-- the cache invariant: every key has a step in `P`, and its extents are good for that step -/
def GoodCacheOn (P : Int → Prop) (D : Down) (c : Cache) : Prop :=
  ∀ kv ∈ c, P kv.1.step ∧ ∀ e ∈ kv.2, GoodExtent D kv.1.step e

theorem GoodCacheOn.nil (P : Int → Prop) (D : Down) : GoodCacheOn P D [] :=
  fun _ h => nomatch h

theorem cacheGet_mem {c : Cache} {k : Key} {v : List Extent} (h : cacheGet c k = some v) : (k, v) ∈ c := by
  obtain ⟨kv, hf, rfl⟩ := Option.map_eq_some_iff.mp h
  have hk : kv.1 = k := of_decide_eq_true (List.find?_some (p := fun x : Key × List Extent => decide (x.1 = k)) hf)
  exact hk ▸ List.mem_of_find?_eq_some hf

theorem forall_mem_cachePut {Q : Key × List Extent → Prop} {c : Cache} {k : Key} {v : List Extent}
    (hc : ∀ kv ∈ c, Q kv) (h : Q (k, v)) : ∀ kv ∈ cachePut c k v, Q kv := by
  -- arms: key absent (appended); key at the head (replaced); key further down
  fun_induction cachePut c k v with
  | case1 => exact List.forall_mem_singleton.mpr h
  | case2 => exact List.forall_mem_cons.mpr ⟨h, (List.forall_mem_cons.mp hc).2⟩
  | case3 k' v' rest hk ih =>
    exact List.forall_mem_cons.mpr ⟨(List.forall_mem_cons.mp hc).1, ih (List.forall_mem_cons.mp hc).2⟩

theorem GoodCacheOn.evict {P : Int → Prop} {D : Down} {c : Cache} (hc : GoodCacheOn P D c) (lose : Key → Bool) :
    GoodCacheOn P D (evict lose c) :=
  fun kv hkv => hc kv (List.mem_filter.mp hkv).1

theorem lowerSteps_spec {step s : Int} (h : s ∈ lowerSteps step) : 0 < s ∧ s < step ∧ step % s = 0 := by
  unfold lowerSteps at h
  split at h
  · obtain ⟨hm, hp⟩ := List.mem_filter.mp h
    have hpos := (by decide : ∀ s ∈ commonQuerySteps, 0 < s) s hm
    simp at hp
    exact ⟨hpos, hp.1, Int.tmod_eq_emod_of_nonneg (Int.le_of_lt (Int.lt_trans hpos hp.1)) ▸ hp.2⟩
  · simp at h

/-- **one (sub-)request through the cache**: fresh-zone bypass, primary hit, lower-step reuse, or
    miss; with or without write-back; any freshness cut-off and cacheability of the responses.
    Lower-step reuse needs the grid repair: either it is in (`g = true`) or the cache holds no key
    of a lower-step candidate of the request's step. -/
theorem doReq_exact (g : Bool) (P : Int → Prop) (env : Env) (D : Down) (hD : D.Sorted) (splitMs : Int) (c : Cache)
    (req : Req) (hreq : Aligned req) (hP : P req.step) (hg : g = true ∨ ∀ s, P s → s ∉ lowerSteps req.step)
    (hc : GoodCacheOn P D c) :
    (doReq ⟨true, g⟩ env D splitMs c req).1 = evalD D req.start req.stop req.step ∧
    GoodCacheOn P D (doReq ⟨true, g⟩ env D splitMs c req).2 := by
  have hput : ∀ v, (∀ e ∈ v, GoodExtent D req.step e) →
      GoodCacheOn P D (cachePut c ⟨req.step, splitMs, req.start.tdiv splitMs⟩ (filterRecent env req.step v)) :=
    fun v hv => forall_mem_cachePut hc ⟨hP, filterRecent_good_any_step env D req.step v hv⟩
  -- arms: fresh-zone bypass; primary hit with / without write-back; lower-step hit; miss not stored / stored
  fun_cases doReq ⟨true, g⟩ env D splitMs c req with
  | case1 => exact ⟨rfl, hc⟩
  | case2 _ _ _ exts hget resp ex hh =>
    obtain ⟨h1, h2⟩ := handleHit_exact g env D hD req hreq false req.step Int.emod_self rfl exts
      (hc _ (cacheGet_mem hget)).2
    exact ⟨(congrArg Prod.fst hh).symm.trans h1, hput ex (h2 rfl ex (congrArg Prod.snd hh))⟩
  | case3 _ _ _ exts hget resp hh =>
    exact ⟨(congrArg Prod.fst hh).symm.trans
      (handleHit_exact g env D hD req hreq false req.step Int.emod_self rfl exts (hc _ (cacheGet_mem hget)).2).1, hc⟩
  | case4 _ _ _ _ _ exts halt =>
    obtain ⟨s, hs, hget⟩ := List.exists_of_findSome?_eq_some halt
    have hs3 := (lowerSteps_spec (List.mem_filter.mp hs).1).2.2
    have hkv := cacheGet_mem hget
    have hg' : g = true := hg.resolve_right fun h => h s (hc _ hkv).1 (List.mem_filter.mp hs).1
    exact ⟨(handleHit_exact g env D hD req hreq true s hs3 hg' exts (hc _ hkv).2).1, hc⟩
  | case5 => exact ⟨rfl, hc⟩
  | case6 =>
    refine ⟨rfl, hput _ (List.forall_mem_singleton.mpr ?_)⟩
    exact ⟨hreq.2.1, hreq.2.2.2.1, hreq.2.2.2.2, evalD_exact D hD req.step req.start req.stop hreq.1 hreq.2.2.2.1⟩

section
open Thanos.Split

/-- the fold of `frontend` over the sub-requests of a split, as the model writes it -/
theorem foldl_doReq_exact (g : Bool) (P : Int → Prop) (env : Env) (D : Down) (hD : D.Sorted) (splitMs step : Int)
    (hP : P step) (hg : g = true ∨ ∀ s, P s → s ∉ lowerSteps step)
    (parts : List (Int × Int)) (resps : List Matrix) (c : Cache) (hc : GoodCacheOn P D c)
    (hal : ∀ p ∈ parts, Aligned ⟨p.1, p.2, step⟩) :
    ∃ c', parts.foldl (fun (acc : List Matrix × Cache) p =>
        let (m, c'') := doReq ⟨true, g⟩ env D splitMs acc.2 ⟨p.1, p.2, step⟩
        (acc.1 ++ [m], c'')) (resps, c) = (resps ++ parts.map (fun p => evalD D p.1 p.2 step), c') ∧
      GoodCacheOn P D c' := by
  induction parts generalizing resps c with
  | nil => exact ⟨c, by rw [List.foldl_nil, List.map_nil, List.append_nil], hc⟩
  | cons p parts ih =>
    obtain ⟨h1, h2⟩ := doReq_exact g P env D hD splitMs c ⟨p.1, p.2, step⟩ (hal p List.mem_cons_self) hP hg hc
    -- the hypothesis is taken at the fold's own next state; `h1` then puts the downstream's answer in
    obtain ⟨c', ih1, ih2⟩ := ih (resps ++ [(doReq ⟨true, g⟩ env D splitMs c ⟨p.1, p.2, step⟩).1]) _ h2
      (fun q hq => hal q (List.mem_cons_of_mem _ hq))
    exact ⟨c', by rw [List.foldl_cons, List.map_cons, List.append_cons, ← h1]; exact ih1, ih2⟩

theorem aligned_of_subOK {s e step : Int} (hstep : 0 < step) (hs0 : 0 ≤ s) (hsm : s % step = 0) (hem : e % step = 0)
    {p : Int × Int} (h : SubOK s e step p) : Aligned ⟨p.1, p.2, step⟩ := by
  obtain ⟨a1, a2, a3, _, a5⟩ := h
  have hp1 : step ∣ p.1 := (Int.dvd_iff_dvd_of_dvd_sub a1).mpr (Int.dvd_of_emod_eq_zero hsm)
  have hp2 : step ∣ p.2 := by
    rcases a5 with a5 | a5
    · exact (Int.dvd_iff_dvd_of_dvd_sub a5).mpr hp1
    · exact a5 ▸ Int.dvd_of_emod_eq_zero hem
  exact ⟨hstep, Int.le_trans hs0 a2, a3, Int.emod_eq_zero_of_dvd hp1, Int.emod_eq_zero_of_dvd hp2⟩

/-- **one request through the whole chain** (StepAlign → SplitByInterval → results cache →
    MergeResponse), under the conditions of `doReq_exact` -/
theorem frontend_exact (g : Bool) (P : Int → Prop) (env : Env) (D : Down) (hD : D.Sorted) (splitMs : Int)
    (hsp : 0 < splitMs) (c : Cache) (req : Req) (hstep : 0 < req.step) (h0 : 0 ≤ req.start) (hle : req.start ≤ req.stop)
    (hP : P req.step) (hg : g = true ∨ ∀ s, P s → s ∉ lowerSteps req.step) (hc : GoodCacheOn P D c) :
    ∃ c', frontend ⟨true, g⟩ env D true splitMs c req =
        some (evalD D (req.start / req.step * req.step) (req.stop / req.step * req.step) req.step, c') ∧
      GoodCacheOn P D c' := by
  unfold frontend
  simp only [Int.ne_of_gt hstep, if_false, if_true]
  rw [Int.tdiv_eq_ediv_of_nonneg h0, Int.tdiv_eq_ediv_of_nonneg (Int.le_trans h0 hle)]
  have hs0 : 0 ≤ req.start / req.step * req.step :=
    Int.mul_nonneg (Int.ediv_nonneg h0 (Int.le_of_lt hstep)) (Int.le_of_lt hstep)
  have hsm := Int.mul_emod_left (req.start / req.step) req.step
  have hem := Int.mul_emod_left (req.stop / req.step) req.step
  generalize req.start / req.step * req.step = s at *
  generalize req.stop / req.step * req.step = e at *
  obtain ⟨parts, hsplit, hgrid, hsub⟩ := split_spec s e req.step splitMs hstep hsp
  have hal : ∀ p ∈ parts, Aligned ⟨p.1, p.2, req.step⟩ := fun p hp => aligned_of_subOK hstep hs0 hsm hem (hsub p hp)
  obtain ⟨c', hfold, hcache⟩ := foldl_doReq_exact g P env D hD splitMs req.step hP hg parts [] c hc hal
  rw [hsplit]
  simp only
  rw [hfold, List.nil_append]
  refine ⟨c', ?_, hcache⟩
  congr 2
  have hex : Exact D req.step s e
      (mergeResponse true ((parts.map fun p => (⟨p.1, p.2, evalD D p.1 p.2 req.step⟩ : Piece)).map (·.m))) := by
    refine merge_exact
      (List.forall_mem_map.mpr fun q hq =>
        ⟨(hal q hq).2.1, evalD_exact D hD req.step q.1 q.2 hstep (hal q hq).2.2.2.1⟩)
      (List.forall_mem_map.mpr fun q hq => ⟨(hsub q hq).2.1, (hsub q hq).2.2.2.1⟩) ?_
    · intro t ht1 ht2 ht3
      have hmem : t ∈ grid s e req.step :=
        (mem_grid hstep).mpr ⟨ht1, ht2, (sub_emod_aligned hsm t).trans ht3⟩
      rw [← hgrid] at hmem
      obtain ⟨q, hq, htq⟩ := List.mem_flatMap.mp hmem
      have := (mem_grid hstep).mp htq
      exact ⟨_, List.mem_map.mpr ⟨q, hq, rfl⟩, this.1, this.2.1⟩
  rw [List.map_map] at hex
  exact hex.unique (evalD_exact D hD req.step s e hstep hsm)

/-- **the history invariant**: whatever the environments of the moment (freshness cut-offs,
    uncacheable responses) and whenever the cache loses its entries.  As in `doReq_exact`, either
    the grid repair is in or no step of the history is a lower-step candidate of another. -/
theorem historyE_exact (g : Bool) (P : Int → Prop) (hg : g = true ∨ ∀ a b, P a → P b → a ∉ lowerSteps b) (D : Down)
    (hD : D.Sorted) (splitMs : Int) (hsp : 0 < splitMs) (steps : List Step) (c : Cache) (hc : GoodCacheOn P D c)
    (hr : ∀ s ∈ steps, P s.req.step ∧ 0 < s.req.step ∧ 0 ≤ s.req.start ∧ s.req.start ≤ s.req.stop) :
    historyE ⟨true, g⟩ D true splitMs c steps =
      steps.map fun s => some (evalD D (s.req.start / s.req.step * s.req.step) (s.req.stop / s.req.step * s.req.step) s.req.step) := by
  induction steps generalizing c with
  | nil => rfl
  | cons s rs ih =>
    obtain ⟨h0, h1, h2, h3⟩ := hr s List.mem_cons_self
    obtain ⟨c', hf, hc'⟩ := frontend_exact g P s.env D hD splitMs hsp _ s.req h1 h2 h3 h0
      (hg.imp_right fun h a ha => h a _ ha h0) (hc.evict s.lose)
    rw [historyE, hf]
    simp only [List.map_cons]
    rw [ih c' hc' (fun r' hr' => hr r' (List.mem_cons_of_mem _ hr'))]

theorem history_exact (g : Bool) (P : Int → Prop) (hg : g = true ∨ ∀ a b, P a → P b → a ∉ lowerSteps b) (D : Down)
    (hD : D.Sorted) (splitMs : Int) (hsp : 0 < splitMs) (reqs : List Req)
    (hr : ∀ r ∈ reqs, P r.step ∧ 0 < r.step ∧ 0 ≤ r.start ∧ r.start ≤ r.stop) :
    history ⟨true, g⟩ D true splitMs [] reqs =
      reqs.map fun r => some (evalD D (r.start / r.step * r.step) (r.stop / r.step * r.step) r.step) := by
  rw [history, historyE_exact g P hg D hD splitMs hsp _ [] (GoodCacheOn.nil P D) (List.forall_mem_map.mpr hr),
    List.map_map]
  rfl

end

/-! ### Instances

`GoodCache` and `GoodCacheM` are `GoodCacheOn` at `(· = step)` (`goodCache_iff`) and at `(0 < ·)` (by definition); each
theorem below is the theorem its proof names at one mode (`matching`) or at one of these sets of steps.  Their
positivity hypotheses — `hs'` of `extract_exact_step` and `partition_spec_m`, `hs` of `mergeExtents_good` and
`filterRecent_good` — are not used.  Nothing above reads this section; Props/C42 reads `GoodCache`, `goodCache_iff`. -/

def GoodCache (D : Down) (step : Int) (c : Cache) : Prop :=
  ∀ kv ∈ c, kv.1.step = step ∧ ∀ e ∈ kv.2, GoodExtent D step e

def GoodCacheM (D : Down) (c : Cache) : Prop :=
  ∀ kv ∈ c, 0 < kv.1.step ∧ ∀ e ∈ kv.2, GoodExtent D kv.1.step e

theorem goodCache_iff {D : Down} {step : Int} {c : Cache} : GoodCache D step c ↔ GoodCacheOn (· = step) D c :=
  ⟨fun h kv hkv => ⟨(h kv hkv).1, (h kv hkv).1 ▸ (h kv hkv).2⟩,
   fun h kv hkv => ⟨(h kv hkv).1, (h kv hkv).1 ▸ (h kv hkv).2⟩⟩

/-- `ExtractForStep(start, end, step, ·)` of a response cached under a smaller step `s'` -/
theorem extract_exact_step {D : Down} {s' step a b : Int} {m : Matrix} (h : Exact D s' a b m)
    (hs' : 0 < s') (hs : 0 < step) (hdvd : step % s' = 0) (a' b' : Int) (ha' : a' % step = 0) :
    Exact D step (max a a') (min b b') (extract a' b' step m) :=
  extract_exact_of h a' b' step hdvd fun _ _ => atStep_pos hs ha'

theorem mergeExtents_good (g : Bool) (D : Down) (step : Int) (hs : 0 < step) (all : List Extent)
    (h : ∀ e ∈ all, GoodExtent D step e) : ∀ e ∈ mergeExtents ⟨true, g⟩ step all, GoodExtent D step e :=
  mergeExtents_good_any_step g D step all h

theorem filterRecent_good (env : Env) (D : Down) (step : Int) (hs : 0 < step) (exts : List Extent)
    (h : ∀ e ∈ exts, GoodExtent D step e) : ∀ e ∈ filterRecent env step exts, GoodExtent D step e :=
  filterRecent_good_any_step env D step exts h

theorem partition_spec (cfg : Cfg) (D : Down) (hD : D.Sorted) (req : Req) (hreq : Aligned req)
    (exts : List Extent) (hgood : ∀ e ∈ exts, GoodExtent D req.step e) :
    ∃ rs ps, partition cfg req false exts = (rs, ps.map (·.m)) ∧
      (∀ p ∈ ps ++ fetchedPieces D rs, 0 ≤ p.a ∧ Exact D req.step p.a p.b p.m) ∧
      (∀ p ∈ ps ++ fetchedPieces D rs, req.start ≤ p.a ∧ p.b ≤ req.stop) ∧
      (∀ t, req.start ≤ t → t ≤ req.stop → t % req.step = 0 → ∃ p ∈ ps ++ fetchedPieces D rs, p.a ≤ t ∧ t ≤ p.b) ∧
      (∀ r ∈ rs, r.step = req.step ∧ 0 ≤ r.start ∧ r.start % req.step = 0 ∧ req.start ≤ r.start ∧ r.stop ≤ req.stop ∧
        r.start ≤ r.stop ∧ r.stop % req.step = 0) :=
  partition_cover cfg D hD req hreq false req.step Int.emod_self rfl exts hgood

theorem partition_spec_m (D : Down) (hD : D.Sorted) (req : Req) (hreq : Aligned req) (s' : Int) (hs' : 0 < s')
    (hdvd : req.step % s' = 0) (exts : List Extent) (hgood : ∀ e ∈ exts, GoodExtent D s' e) :
    ∃ rs ps, partition ⟨true, true⟩ req true exts = (rs, ps.map (·.m)) ∧
      (∀ p ∈ ps ++ fetchedPieces D rs, 0 ≤ p.a ∧ Exact D req.step p.a p.b p.m) ∧
      (∀ p ∈ ps ++ fetchedPieces D rs, req.start ≤ p.a ∧ p.b ≤ req.stop) ∧
      (∀ t, req.start ≤ t → t ≤ req.stop → t % req.step = 0 → ∃ p ∈ ps ++ fetchedPieces D rs, p.a ≤ t ∧ t ≤ p.b) := by
  obtain ⟨rs, ps, h1, h2, h3, h4, _⟩ := partition_cover ⟨true, true⟩ D hD req hreq true s' hdvd rfl exts hgood
  exact ⟨rs, ps, h1, h2, h3, h4⟩

theorem handleHit_resp (g : Bool) (env : Env) (D : Down) (hD : D.Sorted) (req : Req) (hreq : Aligned req)
    (exts : List Extent) (hgood : ∀ e ∈ exts, GoodExtent D req.step e) :
    (handleHit ⟨true, g⟩ env D req exts false).1 = evalD D req.start req.stop req.step :=
  (handleHit_exact g env D hD req hreq false req.step Int.emod_self rfl exts hgood).1

theorem doReq_spec_m (env : Env) (D : Down) (hD : D.Sorted) (splitMs : Int) (c : Cache) (req : Req) (hreq : Aligned req)
    (hc : GoodCacheM D c) :
    (doReq ⟨true, true⟩ env D splitMs c req).1 = evalD D req.start req.stop req.step ∧
    GoodCacheM D (doReq ⟨true, true⟩ env D splitMs c req).2 :=
  doReq_exact true (0 < ·) env D hD splitMs c req hreq hreq.1 (Or.inl rfl) hc

/-! Definitions no lemma reads: an invariant of what the `partition` loop has collected so far, in either mode (`PInvM`)
and with sub-requests that end on the request's grid (`PInv`). -/

def ReqsOKm (req : Req) (rs : List Req) : Prop :=
  ∀ r ∈ rs, r.step = req.step ∧ req.start ≤ r.start ∧ r.start % req.step = 0 ∧ r.stop ≤ req.stop

structure PInvM (D : Down) (req : Req) (start : Int) (rs : List Req) (ps : List Piece) : Prop where
  pieces : PiecesOK D req ps
  reqs : ReqsOKm req rs
  lo : req.start ≤ start
  al : start % req.step = 0
  cov : ∀ t, req.start ≤ t → t ≤ req.stop → t % req.step = 0 → (t < start ∨ (t = start ∧ ps ≠ [])) → Covered ps rs t
  fresh : ps = [] → start = req.start ∧ rs = []

def ReqsOK (req : Req) (rs : List Req) : Prop :=
  ∀ r ∈ rs, r.step = req.step ∧ req.start ≤ r.start ∧ r.start % req.step = 0 ∧ r.stop ≤ req.stop ∧
    r.start ≤ r.stop ∧ r.stop % req.step = 0

structure PInv (D : Down) (req : Req) (start : Int) (rs : List Req) (ps : List Piece) : Prop where
  pieces : PiecesOK D req ps
  reqs : ReqsOK req rs
  lo : req.start ≤ start
  al : start % req.step = 0
  cov : ∀ t, req.start ≤ t → t ≤ req.stop → t % req.step = 0 → (t < start ∨ (t = start ∧ ps ≠ [])) → Covered ps rs t
  fresh : ps = [] → start = req.start ∧ rs = []

end Thanos.ResultsCache
