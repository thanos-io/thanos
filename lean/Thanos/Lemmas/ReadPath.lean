import Thanos.Model.ReadPath
import Thanos.Lemmas.Rows
/-
  C04, the querier's iterators below the penalty merge.  `chunkSeriesIterator` over a row yields `unionFrom` of its
  chunks (Lemmas/Rows.lean; `Next` and `Seek` call each other: `csRun_spec`); `boundedSeriesIterator` is transparent when
  the range covers the samples, and read with `Next` it cuts the window out of any time-sorted iterator;
  `drainChecked` and `foldIts` over such iterators are pure functions of the lists.
-/
namespace Thanos.Dedup

/-- the sample lists of the chunks not yet opened -/
def csRem (s : CS) : List (List Sample) := s.rest.map (·.rest)

/-- remaining samples of a started chunk-series iterator -/
def csAbs (s : CS) : List Sample :=
  if s.cur.done then [] else (s.cur.cur :: s.cur.rest) ++ unionFrom (lastOf s.cur.cur s.cur.rest) (csRem s)

def csMeasure (s : CS) : Nat := s.cur.rest.length + (s.rest.map fun c => c.rest.length + 1).sum

-- timestamps are `≥ 1` throughout C04 because a just-opened `XorIt` stands on `t = 0`, so that
-- `chunkSeriesIterator.Seek(T)` advances it only for `T ≥ 1` (`csRun_seek_fresh`)
structure csV (s : CS) : Prop where
  nbad : s.bad = false
  started : s.cur.started = true
  doneRest : s.cur.done = true → s.rest = []
  fresh : ∀ c ∈ s.rest, c = XorIt.init c.rest ∧ c.rest ≠ [] ∧ ∀ x ∈ c.rest, 1 ≤ x.t
  pos : s.cur.done = false → 1 ≤ s.cur.cur.t ∧ ∀ x ∈ s.cur.rest, 1 ≤ x.t
  lv : s.cur.done = false → s.lastVal = true

theorem csAbs_of_not_done {s : CS} (h : s.cur.done = false) :
    csAbs s = (s.cur.cur :: s.cur.rest) ++ unionFrom (lastOf s.cur.cur s.cur.rest) (csRem s) := by
  simp [csAbs, h]

theorem csAbs_of_done {s : CS} (h : s.cur.done = true) : csAbs s = [] := by
  simp [csAbs, h]

theorem cs_not_done {s : CS} (h : csAbs s ≠ []) : s.cur.done = false :=
  Bool.eq_false_iff.mpr fun hd => h (csAbs_of_done hd)

theorem csAbs_done {s : CS} (h : csAbs s = []) : s.cur.done = true :=
  Bool.not_eq_false _ ▸ fun hd => nomatch (csAbs_of_not_done hd) ▸ h

theorem csRun_next (f : Nat) (T : Int) (s : CS) :
    csRun (f + 1) false T s =
      match s.cur.rest, s.rest with
      | x :: r, _ => ({ s with cur := { rest := r, cur := x, started := true, done := false }, lastVal := true }, true)
      | [], [] => ({ s with cur := { s.cur with done := true } }, false)
      | [], c :: cs => csRun f true (s.cur.cur.t + 1) { s with cur := c, rest := cs } := by
  cases h : s.cur.rest with
  | cons x r => simp [csRun, xorNext, h]
  | nil => cases hr : s.rest <;> simp [csRun, xorNext, h, hr]

theorem csRun_seek (f : Nat) (T : Int) (s : CS) :
    csRun (f + 1) true T s =
      if T ≤ s.cur.cur.t then (s, s.lastVal)
      else if (csRun f false 0 s).2 then csRun f true T { (csRun f false 0 s).1 with lastVal := true }
      else ({ (csRun f false 0 s).1 with lastVal := false }, false) := by
  simp [csRun]

/-- `Seek(T)`, `T ≥ 1`, on a chunk that has just been opened (its `t` is still 0): one `Next`,
    then `Seek(T)` on the positioned state -/
theorem csRun_seek_fresh {f : Nat} {T : Int} (hT : 1 ≤ T) {s : CS} {x : Sample} {r : List Sample}
    (h : s.cur = XorIt.init (x :: r)) :
    csRun (f + 2) true T s =
      csRun (f + 1) true T
        { s with cur := { rest := r, cur := x, started := true, done := false }, lastVal := true } := by
  have h0 : s.cur.cur.t < T := by rw [h]; exact hT
  rw [csRun_seek, if_neg (Int.not_le.mpr h0), csRun_next, show s.cur.rest = x :: r by rw [h]; rfl]
  rfl

/-- what a call on `s` that is to leave the samples `L` has done: the state is valid and stands on
    `L`, the answer says whether `L` has a sample, and if it has, `k` unread samples were consumed -/
structure csPost (s : CS) (L : List Sample) (k : Nat) (r : CS × Bool) : Prop where
  v : csV r.1
  abs : csAbs r.1 = L
  ok : r.2 = !L.isEmpty
  le : r.2 = true → csMeasure r.1 + k ≤ csMeasure s

/-- `Next` and `Seek` of `chunkSeriesIterator` call each other.  Neither adds unread samples (`csMeasure`), and a
    successful `Next` consumes one: that is what keeps the fuel sufficient. -/
theorem csRun_spec : ∀ (f : Nat) (s : CS), csV s → s.cur.done = false →
    (2 * csMeasure s + 1 ≤ f → csPost s (csAbs s).tail 1 (csRun f false 0 s)) ∧
    (∀ T, 2 * csMeasure s + 2 ≤ f → csPost s (dropLt T (csAbs s)) 0 (csRun f true T s)) := by
  intro f
  induction f using Nat.strongRecOn with
  | _ f ih =>
  cases f with
  | zero => exact fun s _ _ => ⟨fun h => absurd h (Nat.not_succ_le_zero _), fun T h => absurd h (Nat.not_succ_le_zero _)⟩
  | succ f =>
    intro s hV hd
    have habs := csAbs_of_not_done hd
    have hp := hV.pos hd
    refine ⟨fun hf => ?_, fun T hf => ?_⟩
    · cases hr : s.cur.rest with
      | cons x r =>
        rw [csRun_next, habs, hr]
        refine ⟨⟨hV.nbad, rfl, nofun, hV.fresh, fun _ => List.forall_mem_cons.mp (hr ▸ hp.2), fun _ => rfl⟩,
          ?_, rfl, fun _ => ?_⟩
        · rw [List.cons_append, List.tail_cons, lastOf_cons]
          rfl
        · simp only [csMeasure, hr, List.length_cons]
          omega
      | nil =>
        cases hrest : s.rest with
        | nil =>
          rw [csRun_next, habs, hr, csRem, hrest]
          exact ⟨⟨hV.nbad, hV.started, fun _ => rfl, fun _ h => (nomatch h), nofun, nofun⟩, rfl, rfl, nofun⟩
        | cons c cs' =>
          -- the next chunk is opened and sought to `lastT + 1`
          obtain ⟨⟨hcf, hcne, hcpos⟩, hfr⟩ := List.forall_mem_cons.mp (hrest ▸ hV.fresh)
          obtain ⟨x, r, hxr⟩ := List.exists_cons_of_ne_nil hcne
          let s2 : CS := { cur := { rest := r, cur := x, started := true, done := false }, rest := cs',
                           lastVal := true, bad := s.bad }
          have hV2 : csV s2 :=
            ⟨hV.nbad, rfl, nofun, hfr, fun _ => List.forall_mem_cons.mp (hxr ▸ hcpos), fun _ => rfl⟩
          have hm2 : csMeasure s2 + 2 = csMeasure s := by
            simp only [csMeasure, s2, hr, hrest, hxr, List.map_cons, List.sum_cons, List.length_cons,
              List.length_nil]
            omega
          -- two calls are spent on opening the chunk
          obtain ⟨f1, rfl, hf1⟩ : ∃ f1, f = f1 + 2 ∧ 2 * csMeasure s2 + 2 ≤ f1 + 1 := ⟨f - 2, by omega⟩
          rw [csRun_next, hr, hrest]
          dsimp only
          rw [csRun_seek_fresh (Int.le_add_one hp.1) (x := x) (r := r) (hxr ▸ hcf)]
          obtain ⟨b1, b2, b3, b4⟩ := (ih (f1 + 1) (Nat.lt_succ_of_lt (Nat.lt_succ_self _)) s2 hV2 rfl).2
            (s.cur.cur.t + 1) hf1
          have htail : dropLt (s.cur.cur.t + 1) (csAbs s2) = (csAbs s).tail := by
            rw [habs, hr, csRem, hrest, List.map_cons, hxr]
            exact dropLt_chunk_union _
          rw [htail] at b2 b3
          exact ⟨b1, b2, b3, fun hok => hm2 ▸ Nat.succ_le_succ (Nat.le_succ_of_le (b4 hok))⟩
    · by_cases hge : T ≤ s.cur.cur.t
      · rw [csRun_seek, if_pos hge, habs, List.cons_append, dropLt_cons_ge hge]
        exact ⟨hV, habs, hV.lv hd, fun _ => Nat.le_refl _⟩
      · have hlt : s.cur.cur.t < T := Int.not_le.mp hge
        have hf' := Nat.le_of_succ_le_succ hf
        obtain ⟨a1, a2, a3, a4⟩ := (ih f (Nat.lt_succ_self f) s hV hd).1 hf'
        have hdl : dropLt T (csAbs s) = dropLt T (csAbs s).tail := by
          rw [habs, List.cons_append, dropLt_cons_lt hlt]; rfl
        rw [csRun_seek, if_neg hge, hdl, ← a2]
        generalize csRun f false 0 s = q at a1 a2 a3 a4
        cases hok : q.2 with
        | true =>
          -- `Next` found a sample: `Seek` goes on from there
          have hd' := cs_not_done (a2 ▸ ne_nil_of_flag (hok ▸ a3))
          obtain ⟨b1, b2, b3, b4⟩ := (ih f (Nat.lt_succ_self f) { q.1 with lastVal := true }
            ⟨a1.nbad, a1.started, a1.doneRest, a1.fresh, a1.pos, fun _ => rfl⟩ hd').2 T
            (Nat.le_trans (Nat.le_succ_of_le (Nat.mul_le_mul_left 2 (a4 hok))) hf')
          exact ⟨b1, b2, b3, fun h => Nat.le_trans (b4 h) (Nat.le_of_succ_le (a4 hok))⟩
        | false =>
          have he : csAbs q.1 = [] := a2 ▸ eq_nil_of_flag (hok ▸ a3)
          have hdone := csAbs_done he
          have hnd : ∀ {P : Prop}, q.1.cur.done = false → P := fun h => nomatch hdone ▸ h
          rw [he]
          exact ⟨⟨a1.nbad, a1.started, a1.doneRest, a1.fresh, fun h => hnd h, fun h => hnd h⟩,
            csAbs_of_done hdone, rfl, nofun⟩

@[simp] theorem csOps_next (s : CS) : csOps.next s = csRun (csFuel s) false 0 s := rfl
@[simp] theorem csOps_seek (t : Int) (s : CS) : csOps.seek t s = csRun (csFuel s) true t s := rfl
@[simp] theorem csOps_atS (s : CS) : csOps.atS s = some s.cur.cur := rfl
@[simp] theorem csOps_atT (s : CS) : csOps.atT s = some s.cur.cur.t := rfl
@[simp] theorem csOps_adjust (v : Int) (s : CS) : csOps.adjust v s = s := rfl
@[simp] theorem csOps_bad (s : CS) : csOps.bad s = s.bad := rfl

theorem csFuel_ge (s : CS) : 2 * csMeasure s + 2 ≤ csFuel s := by
  simp only [csFuel, csMeasure]; omega

theorem csOps_next_cons {s : CS} {x : Sample} {r : List Sample} (h : s.cur.rest = x :: r) :
    csOps.next s =
      ({ s with cur := { rest := r, cur := x, started := true, done := false }, lastVal := true }, true) :=
  (csRun_next _ 0 s).trans (by rw [h])

/-- `chunkSeriesIterator` over a row of non-empty XOR chunks is list-like (DESIGN's `chunkIter_union`, with `cs_goodN`) -/
theorem cs_listLike : ListLike csOps csV csAbs := by
  refine .of_leaves ?_ (fun s _ hne => ?_) (fun s t hV hne => ?_) (fun s hV hne => ?_) (fun s v hV _ => ⟨hV, rfl⟩)
    (fun s hV => hV.nbad) fun s _ => ?_
  · intro s hV x hx
    have hd := cs_not_done (List.ne_nil_of_mem hx)
    rw [csAbs_of_not_done hd] at hx
    have : 1 ≤ x.t := by
      rcases List.mem_append.mp hx with hx | hx
      · exact List.forall_mem_cons (p := fun y => 1 ≤ y.t).mpr (hV.pos hd) x hx
      · obtain ⟨c, hc, hxc⟩ := mem_unionFrom hx
        obtain ⟨ci, hci, rfl⟩ := List.mem_map.mp hc
        exact (hV.fresh ci hci).2.2 x hxc
    exact Int.lt_of_lt_of_le (by decide) this
  · rw [csAbs_of_not_done (cs_not_done hne)]
    exact ⟨rfl, rfl⟩
  · have p := (csRun_spec _ s hV (cs_not_done hne)).2 t (csFuel_ge s)
    exact ⟨p.v, p.abs, p.ok⟩
  · have p := (csRun_spec _ s hV (cs_not_done hne)).1 (Nat.le_of_succ_le (csFuel_ge s))
    exact ⟨p.v, p.abs, p.ok⟩
  · unfold csAbs
    split
    · exact Nat.zero_le _
    · have := unionFrom_length_le (lastOf s.cur.cur s.cur.rest) (csRem s)
      simp only [List.length_append, List.length_cons, csOps, csRem, List.map_map, Function.comp_def] at this ⊢
      omega

/-- the iterator `newChunkSeriesIterator` builds for a row of chunks -/
def csIt (c : List Sample) (cs : List (List Sample)) : AnyIt :=
  { σ := CS, ops := csOps,
    st := { cur := XorIt.init c, rest := cs.map XorIt.init, lastVal := false, bad := false } }

theorem cs_goodN (c : List Sample) (cs : List (List Sample)) (hc : ChunkOK c) (hcs : ∀ d ∈ cs, ChunkOK d) :
    GoodN (csIt c cs) (unionFrom 0 (c :: cs)) := by
  obtain ⟨x, r, rfl⟩ := List.exists_cons_of_ne_nil hc.1
  -- the first Next opens the first chunk
  have hnext := csOps_next_cons (s := (csIt (x :: r) cs).st) (x := x) (r := r) rfl
  have hL : csAbs (csOps.next (csIt (x :: r) cs).st).1 = unionFrom 0 ((x :: r) :: cs) := by
    rw [hnext, unionFrom_cons_cons (dropLt_cons_ge (hc.2 x List.mem_cons_self))]
    show (x :: r) ++ unionFrom (lastOf x r) ((cs.map XorIt.init).map (·.rest)) = _
    rw [List.map_map, List.map_id'' (f := (·.rest) ∘ XorIt.init) fun _ => rfl]
  refine ⟨csV, csAbs, cs_listLike, hL ▸ InitNext.of_next cs_listLike ?_ ?_ ?_⟩
  · rw [hnext]
    exact ⟨rfl, rfl, nofun, List.forall_mem_map.mpr fun d hd => ⟨rfl, hcs d hd⟩,
      fun _ => List.forall_mem_cons.mp hc.2, fun _ => rfl⟩
  · rw [hnext]
    rfl
  · rw [hnext]
    exact Nat.le_succ_of_le (Nat.succ_le_succ (Nat.add_le_add_right (Nat.le_succ _) _))

/-! `boundedSeriesIterator` over a list-like iterator whose samples all lie in `[mint, maxt]`: there it is transparent
  (in general it is not list-like: Lemmas/TrackM.lean). -/

section bounded
variable {σ : Type} {o : Ops σ} {V : σ → Prop} {abs : σ → List Sample} (mint maxt : Int)

def bndAbs (abs : σ → List Sample) (s : Bnd σ) : List Sample := if s.stopped then [] else abs s.inner

def bndV (V : σ → Prop) (abs : σ → List Sample) (mint maxt : Int) (s : Bnd σ) : Prop :=
  V s.inner ∧ s.bad = false ∧ ∀ x ∈ abs s.inner, mint ≤ x.t ∧ x.t ≤ maxt

theorem bndAbs_of_not_stopped {s : Bnd σ} (h : s.stopped = false) : bndAbs abs s = abs s.inner := by
  simp [bndAbs, h]

theorem bnd_not_stopped {s : Bnd σ} (h : bndAbs abs s ≠ []) : s.stopped = false ∧ abs s.inner ≠ [] := by
  cases hs : s.stopped with
  | true => exact absurd (by simp [bndAbs, hs]) h
  | false => exact ⟨rfl, by rwa [bndAbs_of_not_stopped hs] at h⟩

theorem bndOps_next_of_some {s : Bnd σ} {r : σ × Bool} (hb : bNext o mint maxt s.inner = some r) :
    (bndOps o mint maxt).next s = ({ s with inner := r.1 }, r.2) := by
  simp [bndOps, hb]

theorem bndOps_bad_eq (mint maxt : Int) (b : Bnd σ) :
    (bndOps o mint maxt).bad b = (b.bad || o.bad b.inner) := rfl

theorem bndOps_atS_eq (mint maxt : Int) (b : Bnd σ) : (bndOps o mint maxt).atS b = o.atS b.inner := rfl

/-- `Seek(max t mint)` on samples that are all `≥ mint` is `Seek(t)` -/
theorem dropLt_clamp {t mint : Int} {l : List Sample} (h : ∀ x ∈ l, mint ≤ x.t) :
    dropLt (if t < mint then mint else t) l = dropLt t l := by
  by_cases ht : t < mint
  · rw [if_pos ht, dropLt_all_ge h, dropLt_all_ge (fun x hx => by have := h x hx; omega)]
  · rw [if_neg ht]

theorem bnd_seek_inner (b : Bnd σ) (t : Int) (ht : ¬ t > maxt) :
    (bndOps o mint maxt).seek t b =
      ({ inner := (o.seek (if t < mint then mint else t) b.inner).1, bad := b.bad,
         stopped := b.stopped || decide (t > maxt) },
       (o.seek (if t < mint then mint else t) b.inner).2) := by
  show ({ b with inner := (bSeek o mint maxt t b.inner).1, stopped := _ }, (bSeek o mint maxt t b.inner).2) = _
  rw [bSeek_le mint maxt (Int.not_lt.mp ht)]

theorem bnd_seek_beyond (b : Bnd σ) (t : Int) (ht : t > maxt) :
    (bndOps o mint maxt).seek t b =
      ({ inner := b.inner, bad := b.bad, stopped := b.stopped || decide (t > maxt) }, false) := by
  show ({ b with inner := (bSeek o mint maxt t b.inner).1, stopped := _ }, (bSeek o mint maxt t b.inner).2) = _
  rw [bSeek_gt mint maxt ht]

theorem bnd_seek_live (h : ListLike o V abs) {s : Bnd σ} (hV : V s.inner) (hne : abs s.inner ≠ [])
    (hm : ∀ x ∈ abs s.inner, mint ≤ x.t) {t : Int} (ht : ¬ t > maxt) :
    ∃ r, (bndOps o mint maxt).seek t s =
        ({ inner := r.1, bad := s.bad, stopped := s.stopped || decide (t > maxt) }, r.2) ∧
      Leaves V abs r (dropLt t (abs s.inner)) :=
  ⟨_, bnd_seek_inner mint maxt s t ht, dropLt_clamp hm ▸ h.seek_leaves hV hne _⟩

/-- what the state `bNext` leaves stands on is known only when it answers `true` -/
theorem bNext_spec (h : ListLike o V abs) {s : σ} {L : List Sample} (hV : V (o.next s).1)
    (habs : abs (o.next s).1 = L) (hok : (o.next s).2 = !L.isEmpty) :
    ∃ s', bNext o mint maxt s = some (s', (dropLt mint L).head?.any fun d => decide (d.t ≤ maxt)) ∧
      V s' ∧ ((dropLt mint L).head?.any (fun d => decide (d.t ≤ maxt)) = true → abs s' = dropLt mint L) := by
  by_cases hge : ∀ y, L.head? = some y → mint ≤ y.t
  · rw [dropLt_eq_self hge]
    exact ⟨_, bNext_of_ge mint maxt h hV habs hok hge, hV, fun _ => habs⟩
  · -- the head `y` of `L` is before `mint`: `Seek(mint)`, unless `mint` is beyond `maxt`
    obtain ⟨y, hy⟩ := Classical.not_forall.mp hge
    obtain ⟨hy, hym⟩ := Classical.not_imp.mp hy
    obtain ⟨r, rfl⟩ := List.head?_eq_some_iff.mp hy
    have hat := h.atT_cons hV habs
    by_cases hmm : mint > maxt
    · have hfl : ((dropLt mint (y :: r)).head?.any fun d => decide (d.t ≤ maxt)) = false := by
        cases hd : (dropLt mint (y :: r)).head? with
        | none => rfl
        | some d => exact decide_eq_false (Int.not_le.mpr (Int.lt_of_lt_of_le hmm (head_dropLt_ge hd)))
      refine ⟨(o.next s).1, ?_, hV, fun hf => nomatch hfl ▸ hf⟩
      simp [bNext, hok, hat, Int.not_le.mp hym, bSeek_gt mint maxt hmm, hfl]
    · have hne := ne_nil_of_cons habs
      have hk := h.seek_leaves hV hne mint
      rw [habs] at hk
      refine ⟨(o.seek mint (o.next s).1).1, ?_, hk.v, fun _ => hk.eq⟩
      have hs : bSeek o mint maxt mint (o.next s).1 = o.seek mint (o.next s).1 := by
        rw [bSeek_le mint maxt (Int.not_lt.mp hmm), if_neg (Int.lt_irrefl _)]
      cases hd : dropLt mint (y :: r) with
      | nil => simp [bNext, hok, hat, Int.not_le.mp hym, hs, hk.ok, hd]
      | cons d q => simp [bNext, hok, hat, Int.not_le.mp hym, hs, hk.ok, hd, h.atT_cons hk.v (hk.eq.trans hd)]

theorem bNext_inrange (h : ListLike o V abs) {s : σ} {L : List Sample} (hn : Leaves V abs (o.next s) L)
    (hin : ∀ x ∈ L, mint ≤ x.t ∧ x.t ≤ maxt) :
    bNext o mint maxt s = some ((o.next s).1, !L.isEmpty) := by
  rw [bNext_of_ge mint maxt h hn.v hn.eq hn.ok fun y hy => (hin y (List.mem_of_mem_head? hy)).1]
  cases L with
  | nil => rfl
  | cons y r => simp [(hin y List.mem_cons_self).2]

theorem bnd_next_spec (h : ListLike o V abs) (s : Bnd σ) (hV : bndV V abs mint maxt s)
    (hne : bndAbs abs s ≠ []) :
    Leaves (bndV V abs mint maxt) (bndAbs abs) ((bndOps o mint maxt).next s) (bndAbs abs s).tail := by
  obtain ⟨hs, hne'⟩ := bnd_not_stopped hne
  have hn := h.next_leaves hV.1 hne'
  have hin : ∀ x ∈ (abs s.inner).tail, mint ≤ x.t ∧ x.t ≤ maxt := fun x hx => hV.2.2 x (List.mem_of_mem_tail hx)
  rw [bndOps_next_of_some mint maxt (bNext_inrange mint maxt h hn hin), bndAbs_of_not_stopped hs]
  exact ⟨⟨hn.v, hV.2.1, hn.eq ▸ hin⟩, by simp [bndAbs, hs, hn.eq], rfl⟩

theorem bnd_seek_spec (h : ListLike o V abs) (s : Bnd σ) (t : Int) (hV : bndV V abs mint maxt s)
    (hne : bndAbs abs s ≠ []) :
    Leaves (bndV V abs mint maxt) (bndAbs abs) ((bndOps o mint maxt).seek t s) (dropLt t (bndAbs abs s)) := by
  obtain ⟨hs, hne'⟩ := bnd_not_stopped hne
  rw [bndAbs_of_not_stopped hs]
  by_cases ht : t > maxt
  · -- beyond `maxt`: the iterator stops; nothing at or after `t` was left anyway
    rw [bnd_seek_beyond mint maxt s t ht, dropLt_eq_nil_iff.mpr fun x hx => by have := (hV.2.2 x hx).2; omega]
    exact ⟨hV, by simp [bndAbs, ht], rfl⟩
  · obtain ⟨r, e, hk⟩ := bnd_seek_live mint maxt h hV.1 hne' (fun x hx => (hV.2.2 x hx).1) ht
    rw [e]
    refine ⟨⟨hk.v, hV.2.1, fun x hx => hV.2.2 x (mem_of_mem_dropLt (hk.eq ▸ hx))⟩, ?_, hk.ok⟩
    rw [← hk.eq]
    simp [bndAbs, hs, ht]

theorem bnd_listLike (h : ListLike o V abs) :
    ListLike (bndOps o mint maxt) (bndV V abs mint maxt) (bndAbs abs) := by
  refine .of_leaves (fun s hV x hx => ?_) (fun s hV hne => ?_) (fun s t hV hne => bnd_seek_spec mint maxt h s t hV hne)
    (fun s hV hne => bnd_next_spec mint maxt h s hV hne) (fun s v hV _ => ⟨hV, rfl⟩) (fun s hV => ?_) fun s hV => ?_
  · unfold bndAbs at hx
    split at hx
    · cases hx
    · exact h.lower _ hV.1 x hx
  · obtain ⟨hs, hne'⟩ := bnd_not_stopped hne
    rw [bndAbs_of_not_stopped hs]
    exact ⟨h.atS _ hV.1 hne', h.atT _ hV.1 hne'⟩
  · rw [bndOps_bad_eq, hV.2.1, h.bad _ hV.1]
    rfl
  · unfold bndAbs
    split
    · exact Nat.zero_le _
    · exact h.fuel _ hV.1

theorem bnd_initNext (h : ListLike o V abs) {s0 : σ} {L : List Sample} (hi : InitNext o V abs s0 L)
    (hin : ∀ x ∈ L, mint ≤ x.t ∧ x.t ≤ maxt) :
    InitNext (bndOps o mint maxt) (bndV V abs mint maxt) (bndAbs abs)
      { inner := s0, bad := false, stopped := false } L := by
  have hn := bndOps_next_of_some mint maxt (s := { inner := s0, bad := false, stopped := false })
    (bNext_inrange mint maxt h hi.next_leaves hin)
  refine ⟨hi.lower, ?_, ?_, ?_, hi.fuel⟩
  · rw [hn]
    exact ⟨hi.nextV, rfl, hi.nextAbs ▸ hin⟩
  · rw [hn]
    exact hi.nextAbs
  · rw [hn]

end bounded

section drainChecked
variable {σ : Type} {o : Ops σ} {V : σ → Prop} {abs : σ → List Sample}

theorem drainChecked_go_stop {n : Nat} {s r : σ} (hn : o.next s = (r, false)) (hb : o.bad r = false) :
    drainChecked.go o (n + 1) s = some [] := by
  simp [drainChecked.go, hn, hb]

theorem drainChecked_go_step {n : Nat} {s r : σ} {x : Sample} (hn : o.next s = (r, true))
    (hb : o.bad r = false) (hat : o.atS r = some x) :
    drainChecked.go o (n + 1) s = (drainChecked.go o n r).map (x :: ·) := by
  simp [drainChecked.go, hn, hb, hat]

theorem drainChecked_go_spec (h : ListLike o V abs) : ∀ (n : Nat) (s : σ) (L : List Sample),
    Leaves V abs (o.next s) L → L.length + 1 ≤ n → drainChecked.go o n s = some L := by
  intro n
  induction n with
  | zero => intro s L _ hn; exact absurd hn (Nat.not_succ_le_zero _)
  | succ n ih =>
    intro s L hl hn
    cases L with
    | nil => exact drainChecked_go_stop (Prod.ext rfl hl.ok) (h.bad _ hl.v)
    | cons x tl =>
      rw [drainChecked_go_step (Prod.ext rfl hl.ok) (h.bad _ hl.v) (h.atS_cons hl.v hl.eq),
        ih _ tl (h.next_cons hl.v hl.eq) (Nat.le_of_succ_le_succ hn)]
      rfl

end drainChecked

theorem drainChecked_goodN {i : AnyIt} {L : List Sample} (hg : GoodN i L) : drainChecked i = some L := by
  obtain ⟨V, abs, h, hi⟩ := hg
  exact drainChecked_go_spec h _ _ L hi.next_leaves (Nat.succ_le_succ hi.fuel)

theorem foldIts_good : ∀ (ps : List (AnyIt × List Sample)), ps ≠ [] → (∀ p ∈ ps, GoodN p.1 p.2) →
    ∃ it, foldIts true (ps.map (·.1)) = some it ∧ GoodN it (pmFoldL (ps.map (·.2))) := by
  intro ps hne hg
  cases ps with
  | nil => exact absurd rfl hne
  | cons p ps =>
    obtain ⟨hp, hps⟩ := List.forall_mem_cons.mp hg
    refine ⟨_, rfl, ?_⟩
    simp only [List.map_cons, pmFoldL, List.foldl_map]
    exact List.foldl_rel (r := GoodN) hp fun q hq _ _ hacc => (node_goodL hacc (hps q hq)).toN

/-- `chunkSeries.Iterator` for a row whose samples all lie in the query range -/
theorem chunkSeriesIt_good (qmint qmaxt : Int) (c : List Sample) (cs : List (List Sample))
    (hc : ChunkOK c) (hcs : ∀ d ∈ cs, ChunkOK d)
    (hin : ∀ d ∈ c :: cs, ∀ x ∈ d, qmint ≤ x.t ∧ x.t ≤ qmaxt) :
    ∃ it, chunkSeriesIt qmint qmaxt (c :: cs) = some it ∧ GoodN it (unionFrom 0 (c :: cs)) := by
  refine ⟨_, rfl, ?_⟩
  obtain ⟨V, abs, h, hi⟩ := cs_goodN c cs hc hcs
  refine ⟨bndV V abs qmint qmaxt, bndAbs abs, bnd_listLike qmint qmaxt h, ?_⟩
  apply bnd_initNext qmint qmaxt h hi
  intro x hx
  obtain ⟨d, hd, hxd⟩ := mem_unionFrom hx
  exact hin d hd x hxd

section bnddrain
variable {σ : Type} {o : Ops σ} {V : σ → Prop} {abs : σ → List Sample}

theorem bnd_go_window (h : ListLike o V abs) (mint maxt : Int) :
    ∀ (n : Nat) (s : σ) (st : Bool) (L : List Sample), Leaves V abs (o.next s) L → SSorted L →
      L.length + 1 ≤ n →
      drainChecked.go (bndOps o mint maxt) n { inner := s, bad := false, stopped := st } =
        some (takeLe maxt (dropLt mint L)) := by
  intro n
  induction n with
  | zero => intro s st L _ _ hn; exact absurd hn (Nat.not_succ_le_zero _)
  | succ n ih =>
    intro s st L hl hs hn
    obtain ⟨s', hb, hV', hA⟩ := bNext_spec mint maxt h hl.v hl.eq hl.ok
    have hnext := bndOps_next_of_some mint maxt (s := { inner := s, bad := false, stopped := st }) hb
    have hbad : (bndOps o mint maxt).bad { inner := s', bad := false, stopped := st } = false := h.bad _ hV'
    cases hD : dropLt mint L with
    | nil =>
      rw [hD] at hnext
      exact drainChecked_go_stop hnext hbad
    | cons d q =>
      rw [hD] at hnext hA
      by_cases hle : d.t ≤ maxt
      · -- `d` is yielded; the later samples are all after `mint`
        have hdt : decide (d.t ≤ maxt) = true := decide_eq_true hle
        have hA' : abs s' = d :: q := hA hdt
        have hsD : SSorted (d :: q) := hD ▸ ssorted_dropLt mint hs
        have hq : dropLt mint q = q := dropLt_all_ge fun y hy =>
          ((mem_dropLt_sorted hs).mp (hD ▸ List.mem_cons_of_mem _ hy)).2
        have hlen : q.length + 1 ≤ n := by
          have := dropLt_length_le mint L
          rw [hD, List.length_cons] at this
          omega
        rw [drainChecked_go_step (hdt ▸ hnext) hbad (h.atS_cons hV' hA'),
          ih s' st q (h.next_cons hV' hA') (List.pairwise_cons.mp hsD).2 hlen, hq]
        simp [takeLe, hle]
      · rw [drainChecked_go_stop ((decide_eq_false hle) ▸ hnext) hbad]
        simp [takeLe, hle]

/-- read with `Next`, for any range: the samples of the wrapped (time-sorted) iterator inside `[mint, maxt]` -/
theorem bnd_drain (h : ListLike o V abs) (mint maxt : Int) {s0 : σ} {L : List Sample}
    (hi : InitNext o V abs s0 L) (hs : SSorted L) :
    drainChecked { σ := Bnd σ, ops := bndOps o mint maxt,
                   st := { inner := s0, bad := false, stopped := false } } =
      some (takeLe maxt (dropLt mint L)) :=
  bnd_go_window h mint maxt _ s0 false L hi.next_leaves hs (Nat.succ_le_succ hi.fuel)

end bnddrain

end Thanos.Dedup
