import Thanos.Model.Partition
/-
  gapBasedPartitioner.Partition (C10), each fact by induction along `go`: the invariant of the loop for coverage
  (`go_cover`), the number of parts, and their order.
-/
namespace Thanos.Partition

/-- range number `n`, which is `(s, e)`, lies inside the part whose index range holds `n`.  (`Part.i`, `Part.j`: Go's
    `ElemRng`, the half-open range of input indices a part serves; `go`'s last argument is the index of the next range.) -/
def Covers (parts : List Part) (n s e : Nat) : Prop :=
  ∃ p ∈ parts, p.i ≤ n ∧ n < p.j ∧ p.start ≤ s ∧ e ≤ p.stop

theorem go_cons (g a b i j s e k : Nat) (rs : List (Nat × Nat)) :
    go g ⟨a, b, i, j⟩ ((s, e) :: rs) k =
      if b + g < s then ⟨a, b, i, j⟩ :: go g ⟨s, e, k, k + 1⟩ rs (k + 1)
      else go g ⟨a, if b ≤ e then e else b, i, k + 1⟩ rs (k + 1) := rfl

/-- the loop's invariant; the part under construction only grows -/
theorem go_cover (g : Nat) (rs : List (Nat × Nat)) (cur : Part) (k : Nat) (hi : cur.i ≤ k) (hj : cur.j ≤ k)
    (hlo : ∀ x ∈ rs, cur.start ≤ x.1) (hsort : rs.Pairwise (fun x y => x.1 ≤ y.1)) {n s e : Nat}
    (h : (cur.i ≤ n ∧ n < cur.j ∧ cur.start ≤ s ∧ e ≤ cur.stop) ∨ ((s, e), n) ∈ rs.zipIdx k) :
    Covers (go g cur rs k) n s e := by
  fun_induction go g cur rs k with
  | case1 cur k => exact ⟨cur, List.mem_singleton_self _, h.resolve_right (nomatch ·)⟩
  | case2 cur s' e' rs k hbrk ih =>
    have hs := List.pairwise_cons.mp hsort
    rcases h with h | h
    · exact ⟨cur, List.mem_cons_self, h⟩
    · refine (ih (Nat.le_succ k) (Nat.le_refl _) hs.1 hs.2 ?_).imp fun _ => And.imp_left (List.mem_cons_of_mem _)
      rcases List.mem_cons.mp h with h | h
      · cases h
        exact .inl ⟨Nat.le_refl _, Nat.lt_succ_self _, Nat.le_refl _, Nat.le_refl _⟩
      · exact .inr h
  | case3 cur s' e' rs k hbrk ih =>
    refine ih (Nat.le_succ_of_le hi) (Nat.le_refl _) (List.forall_mem_cons.mp hlo).2 (List.pairwise_cons.mp hsort).2 ?_
    rcases h with ⟨h1, h2, h3, h4⟩ | h
    · exact .inl ⟨h1, Nat.lt_succ_of_lt (Nat.lt_of_lt_of_le h2 hj), h3, Nat.le_trans h4 (Nat.le_max_left cur.stop e')⟩
    · rcases List.mem_cons.mp h with h | h
      · cases h
        exact .inl ⟨hi, Nat.lt_succ_self _, hlo _ List.mem_cons_self, Nat.le_max_right cur.stop e⟩
      · exact .inr h

theorem go_length (g : Nat) (rs : List (Nat × Nat)) (cur : Part) (k : Nat) : (go g cur rs k).length ≤ rs.length + 1 := by
  fun_induction go g cur rs k with
  | case1 => exact Nat.le_refl _
  | case2 cur s e rs k h ih => exact Nat.succ_le_succ ih
  | case3 cur s e rs k h ih => exact Nat.le_succ_of_le ih

theorem go_parts_chain (g : Nat) (rs : List (Nat × Nat)) (cur : Part) (k : Nat) (hij : cur.i < cur.j) (hj : cur.j ≤ k) :
    (go g cur rs k).Pairwise (fun p q => p.j ≤ q.i) ∧
      ∀ p ∈ go g cur rs k, cur.i ≤ p.i ∧ p.i < p.j ∧ p.j ≤ k + rs.length := by
  have hlen (k n : Nat) : k + 1 + n = k + (n + 1) := Nat.add_right_comm k 1 n
  fun_induction go g cur rs k with
  | case1 cur k =>
    exact ⟨List.pairwise_singleton _ _, fun _ hp => (List.mem_singleton.mp hp).symm ▸ ⟨Nat.le_refl _, hij, hj⟩⟩
  | case2 cur s e rs k hbrk ih =>
    obtain ⟨h1, h2⟩ := ih (Nat.lt_succ_self k) (Nat.le_refl _)
    refine ⟨List.pairwise_cons.mpr ⟨fun q hq => Nat.le_trans hj (h2 q hq).1, h1⟩, fun p hp => ?_⟩
    rcases List.mem_cons.mp hp with rfl | hp
    · exact ⟨Nat.le_refl _, hij, Nat.le_trans hj (Nat.le_add_right _ _)⟩
    · have := h2 p hp
      exact ⟨Nat.le_trans (Nat.le_of_lt (Nat.lt_of_lt_of_le hij hj)) this.1, this.2.1, hlen k rs.length ▸ this.2.2⟩
  | case3 cur s e rs k hbrk ih =>
    obtain ⟨h1, h2⟩ := ih (Nat.lt_succ_of_le (Nat.le_trans (Nat.le_of_lt hij) hj)) (Nat.le_refl _)
    exact ⟨h1, fun p hp => ⟨(h2 p hp).1, (h2 p hp).2.1, hlen k rs.length ▸ (h2 p hp).2.2⟩⟩

end Thanos.Partition
