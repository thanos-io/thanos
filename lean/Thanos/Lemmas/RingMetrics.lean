import Thanos.Model.RingMetrics
/-
  The registrations of `NewMultiHashring` (`load`) in closed form.  A load that answers has put the names of the
  shuffle sharded hashrings in front of the registry, one occurrence per hashring, the last one first (`load_ok_eq`),
  with either constructor; the constructor as it was (`shared = false`) panics as soon as one of these names is
  registered already (`load_panic_of_registered`); `release` subtracts multiplicities (`count_release`).
  Read by Props/C19.
-/
namespace Thanos.RingMetrics

theorem load_cons_plain (shared : Bool) (reg : Registry) (name : String) (rest : List (String × Bool)) :
    load shared reg ((name, false) :: rest) = load shared reg rest := rfl

theorem load_cons_sharded (shared : Bool) (reg : Registry) (name : String) (rest : List (String × Bool)) :
    load shared reg ((name, true) :: rest) =
      if !shared && reg.contains name then .panic else load shared (name :: reg) rest := rfl

theorem mem_shardedNames {cfg : List (String × Bool)} {n : String} : n ∈ shardedNames cfg ↔ (n, true) ∈ cfg := by
  rw [shardedNames, List.mem_map]
  exact ⟨fun ⟨⟨_, _⟩, hp, e⟩ => by cases e; cases (List.mem_filter.mp hp).2; exact (List.mem_filter.mp hp).1,
    fun h => ⟨_, List.mem_filter.mpr ⟨h, rfl⟩, rfl⟩⟩

theorem load_ok_eq {shared : Bool} : ∀ {cfg : List (String × Bool)} {reg reg' : Registry},
    load shared reg cfg = .ok reg' → reg' = (shardedNames cfg).reverse ++ reg
  | [], _, _, h => (Load.ok.inj h).symm
  | (name, false) :: rest, _, _, h => load_ok_eq (cfg := rest) h
  | (name, true) :: rest, reg, reg', h => by
    rw [load_cons_sharded] at h
    split at h
    · cases h
    · rw [load_ok_eq h]
      show _ = (name :: shardedNames rest).reverse ++ reg
      rw [List.reverse_cons, List.append_assoc]
      rfl

theorem load_panic_of_registered : ∀ (cfg : List (String × Bool)) (reg : Registry) (n : String),
    (n, true) ∈ cfg → n ∈ reg → load false reg cfg = .panic
  | (name, false) :: rest, reg, n, h, hr =>
    load_panic_of_registered rest reg n ((List.mem_cons.mp h).resolve_left nofun) hr
  | (name, true) :: rest, reg, n, h, hr => by
    rw [load_cons_sharded]
    split
    · rfl
    · rename_i hc
      rcases List.mem_cons.mp h with e | h
      · cases e; exact absurd (by simpa using hr) hc
      · exact load_panic_of_registered rest (name :: reg) n h (List.mem_cons_of_mem _ hr)

theorem count_release (n : String) : ∀ (names : List String) (reg : Registry),
    (release reg names).count n = reg.count n - names.count n
  | [], _ => rfl
  | a :: names, reg => by
    rw [release, count_release n names (reg.erase a), List.count_erase, List.count_cons, Nat.sub_sub, Nat.add_comm]

end Thanos.RingMetrics
