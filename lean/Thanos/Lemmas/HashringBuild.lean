import Thanos.Model.Hashring
import Thanos.Lemmas.Hashring
import Thanos.Lemmas.HashringBalance
/-
  What `newKetamaHashring` (`build`) puts around the replica loop, and how the result is read.  `mkRing eps` holds
  exactly the sections (hash, position in `eps`, zone) of the endpoints (`mem_mkRing`), so it is zone-consistent,
  covered by `zonesOf eps`, and its zones have the sizes the configuration gives them (`zsize_mkRing`): the
  hypotheses of the balance module hold of every built ring.  `table` runs the loop from every section: it answers
  `.stuck` only if one of the runs does, `.hang` only without the lap check, and otherwise a row of `rf` distinct
  endpoints per section (`table_spec`), and on a whole zone-consistent ring `.stuck` exactly when the zone sizes cannot
  take `rf` balanced replicas (`table_stuck_iff`); `build` is `table` on `mkRing eps` behind the endpoint-count test;
  `getN` answers from the row that `search` finds (`getN_of_row`), which holds `replicasOfSeries v`
  (`table_row_replicasOfSeries`).  Read by Props/C18, C19, C20 and Lemmas/HashringPerm.
-/
namespace Thanos.Hashring

theorem sectionsFrom_succ : ∀ (eps : List Ep) (k : Nat),
    sectionsFrom (k + 1) eps = (sectionsFrom k eps).map fun s => { s with ep := s.ep + 1 }
  | [], _ => rfl
  | e :: es, k => by
    rw [sectionsFrom, sectionsFrom, sectionsFrom_succ es (k + 1), List.map_append, List.map_map]
    rfl

theorem mem_sectionsFrom : ∀ {eps : List Ep} {s : Sec},
    s ∈ sectionsFrom 0 eps ↔ ∃ e, eps[s.ep]? = some e ∧ s.az = e.az ∧ s.hash ∈ e.hashes
  | [], s => by simp [sectionsFrom]
  | e :: es, s => by
    rw [sectionsFrom, sectionsFrom_succ, List.mem_append, List.mem_map, List.mem_map]
    constructor
    · rintro (⟨h, hh, rfl⟩ | ⟨t, ht, rfl⟩)
      · exact ⟨e, rfl, rfl, hh⟩
      · exact (mem_sectionsFrom (eps := es)).mp ht
    · rintro ⟨e', hk, h2, h3⟩
      obtain ⟨h, i, z⟩ := s
      cases i with
      | zero => cases hk; exact Or.inl ⟨h, h3, by rw [show z = e.az from h2]⟩
      | succ i => exact Or.inr ⟨⟨h, i, z⟩, (mem_sectionsFrom (eps := es)).mpr ⟨e', hk, h2, h3⟩, rfl⟩

theorem mkRing_perm (eps : List Ep) : (mkRing eps).Perm (sectionsFrom 0 eps) := List.mergeSort_perm _ _

theorem mem_mkRing {eps : List Ep} {s : Sec} :
    s ∈ mkRing eps ↔ ∃ e, eps[s.ep]? = some e ∧ s.az = e.az ∧ s.hash ∈ e.hashes :=
  (mkRing_perm eps).mem_iff.trans mem_sectionsFrom

theorem mkRing_ep {eps : List Ep} {s : Sec} (h : s ∈ mkRing eps) : s.ep < eps.length := by
  obtain ⟨e, he, _⟩ := mem_mkRing.mp h
  exact (List.getElem?_eq_some_iff.mp he).1

theorem mkRing_ne_nil {eps : List Ep} {e : Ep} (he : e ∈ eps) (hh : e.hashes ≠ []) : mkRing eps ≠ [] := by
  obtain ⟨i, hi⟩ := List.getElem?_of_mem he
  obtain ⟨h, hm⟩ := List.exists_mem_of_ne_nil _ hh
  exact List.ne_nil_of_mem (mem_mkRing.mpr ⟨e, hi, rfl, hm⟩ : (⟨h, i, e.az⟩ : Sec) ∈ _)

theorem azConsistent_mkRing (eps : List Ep) : AzConsistent (mkRing eps) := by
  intro s hs t ht hst
  obtain ⟨e, he, hz, _⟩ := mem_mkRing.mp hs
  obtain ⟨e', he', hz', _⟩ := mem_mkRing.mp ht
  rw [hst, he'] at he
  injection he with he
  rw [hz, hz', he]

theorem mkRing_cover (eps : List Ep) : ∀ s ∈ mkRing eps, s.az ∈ zonesOf eps := by
  intro s hs
  obtain ⟨e, he, hz, _⟩ := mem_mkRing.mp hs
  exact mem_zonesOf.mpr ⟨e, List.mem_of_getElem? he, hz.symm⟩

theorem zsize_mkRing (eps : List Ep) (z : Nat) (hh : ∀ e ∈ eps, e.hashes ≠ []) :
    zsize (mkRing eps) z = (eps.filter (·.az == z)).length := by
  -- the endpoints of zone `z` of the ring are the positions of the endpoints of zone `z` in the list
  have hlen := congrArg List.length (List.filter_map (f := Prod.fst) (p := (·.az == z)) (l := eps.zipIdx))
  rw [List.zipIdx_map_fst, List.length_map] at hlen
  have hnd : ((eps.zipIdx.filter (·.1.az == z)).map (·.2)).Nodup :=
    (List.zipIdx_map_snd 0 eps ▸ List.nodup_range' : (eps.zipIdx.map (·.2)).Nodup).sublist (List.filter_sublist.map _)
  rw [hlen, ← List.length_map (f := (·.2)), zsize]
  refine ((List.perm_ext_iff_of_nodup (nodup_dedup _) hnd).mpr fun k => mem_zoneEps.trans ?_).length_eq
  rw [List.mem_map]
  constructor
  · rintro ⟨s, hs, hz, rfl⟩
    obtain ⟨e, he, hze, _⟩ := mem_mkRing.mp hs
    exact ⟨(e, s.ep), List.mem_filter.mpr ⟨List.mem_zipIdx_iff_getElem?.mpr he, by rw [← hze, hz]; exact beq_self_eq_true z⟩, rfl⟩
  · rintro ⟨⟨e, _⟩, hp, rfl⟩
    obtain ⟨hp, hz⟩ := List.mem_filter.mp hp
    have he := List.mem_zipIdx_iff_getElem?.mp hp
    obtain ⟨h, hm⟩ := List.exists_mem_of_ne_nil _ (hh e (List.mem_of_getElem? he))
    exact ⟨⟨h, _, z⟩, mem_mkRing.mpr ⟨e, he, (beq_iff_eq.mp hz).symm, hm⟩, rfl, rfl⟩

section table
variable {lc : Bool} {ring : List Sec} {zones : List Nat} {rf : Nat} {s : Sec} {rest : List Sec}

theorem table_cons_stuck (h : replicasFor lc ring zones rf (s :: rest) = .stuck) :
    table lc ring zones rf (s :: rest) = .stuck := by rw [table, h]

theorem table_cons_hang (h : replicasFor lc ring zones rf (s :: rest) = .fuelOut) :
    table lc ring zones rf (s :: rest) = .hang := by rw [table, h]

theorem table_cons_eq_ring {t : List (Sec × List Nat)} (h : table lc ring zones rf (s :: rest) = .ring t) :
    ∃ r t', replicasFor lc ring zones rf (s :: rest) = .ok r ∧ table lc ring zones rf rest = .ring t' ∧
      t = (s, r) :: t' := by
  rw [table] at h
  split at h
  · rename_i r hr
    split at h
    · rename_i t' ht
      exact ⟨r, t', hr, ht, (Build.ring.inj h).symm⟩
    · rename_i hne
      exact (hne t h).elim
  all_goals cases h

end table

theorem table_spec (lc : Bool) (ring : List Sec) (zones : List Nat) (rf : Nat) :
    ∀ (suffix : List Sec), (∀ s ∈ suffix, s ∈ ring) →
      ((∃ start, start <:+ suffix ∧ replicasFor lc ring zones rf start = .stuck) ∧
        table lc ring zones rf suffix = .stuck) ∨
      (lc = false ∧ table lc ring zones rf suffix = .hang) ∨
      ∃ t, table lc ring zones rf suffix = .ring t ∧ t.map (·.1) = suffix ∧
        ∀ p ∈ t, p.2.length = rf ∧ p.2.Nodup ∧ ∀ e ∈ p.2, ∃ s ∈ ring, s.ep = e := by
  intro suffix
  induction suffix with
  | nil => intro _; exact Or.inr (Or.inr ⟨[], rfl, rfl, nofun⟩)
  | cons s rest ih =>
    intro hsub
    have hne : ring ≠ [] := List.ne_nil_of_mem (hsub s List.mem_cons_self)
    cases hr : replicasFor lc ring zones rf (s :: rest) with
    | stuck => exact Or.inl ⟨⟨_, List.suffix_refl _, hr⟩, table_cons_stuck hr⟩
    | fuelOut =>
      cases lc with
      | true => exact absurd hr (replicasFor_repaired_ne_fuelOut ring zones rf _)
      | false => exact Or.inr (Or.inl ⟨rfl, table_cons_hang hr⟩)
    | oob => exact absurd hr (loop_ne_oob hne)
    | ok r =>
      obtain ⟨hnd, hlen, hmem⟩ := loop_ok_distinct hsub hr
      rcases ih fun x hx => hsub x (List.mem_cons_of_mem s hx) with ⟨⟨start, hsuf, hst⟩, h⟩ | ⟨hlc, h⟩ | ⟨t, ht, hmap, hall⟩
      · exact Or.inl ⟨⟨start, hsuf.trans (List.suffix_cons s rest), hst⟩, by rw [table, hr, h]⟩
      · exact Or.inr (Or.inl ⟨hlc, by rw [table, hr, h]⟩)
      · exact Or.inr (Or.inr ⟨(s, r) :: t, by rw [table, hr, ht], by rw [List.map_cons, hmap],
          List.forall_mem_cons.mpr ⟨⟨hlen, hnd, hmem⟩, hall⟩⟩)

/-- The table of a whole ring is refused exactly when the zone sizes cannot take `rf` balanced replicas, and built
    exactly when they can: for every zone-consistent ring, of which `mkRing eps` is one. -/
theorem table_stuck_iff {ring : List Sec} {zones : List Nat} {rf : Nat} (hne : ring ≠ []) (hcons : AzConsistent ring)
    (hn : zones.Nodup) (hcover : ∀ s ∈ ring, s.az ∈ zones) (hb : rf < 2 ^ 63 - 1) :
    (table true ring zones rf ring = .stuck ↔ canBalance (zones.map (zsize ring)) rf = false) ∧
    ((∃ t, table true ring zones rf ring = .ring t) ↔ canBalance (zones.map (zsize ring)) rf = true) := by
  refine iff_of_exclusive (fun h1 ⟨_, h2⟩ => by rw [h1] at h2; cases h2) ?_
  rcases table_spec true ring zones rf ring (fun _ h => h) with ⟨⟨start, hsuf, hst⟩, h⟩ | ⟨h, _⟩ | ⟨t, ht, _⟩
  · -- the zone error is the zone error of one of the sections
    exact Or.inl ⟨h, replicasFor_stuck_canBalance (hsuf.imp fun _ => Eq.symm) hcons hn hcover hb hst⟩
  · cases h
  · -- every section was served, the first one among them
    obtain ⟨s, rest, rfl⟩ := List.exists_cons_of_ne_nil hne
    obtain ⟨r, _, hr, _⟩ := table_cons_eq_ring ht
    exact Or.inr ⟨⟨t, ht⟩, loop_ok_canBalance (fun _ h => h) hn hcover hr⟩

theorem build_of_lt {lc : Bool} {eps : List Ep} {rf : Nat} (h : eps.length < rf) : build lc eps rf = .tooFew :=
  if_pos h

theorem build_of_le {lc : Bool} {eps : List Ep} {rf : Nat} (h : rf ≤ eps.length) :
    build lc eps rf = table lc (mkRing eps) (zonesOf eps) rf (mkRing eps) :=
  if_neg (Nat.not_lt.mpr h)

theorem search_eq_find? (v : Nat) : ∀ ring : List (Sec × List Nat),
    search v ring = ring.find? fun x => decide (v ≤ x.1.hash)
  | [] => rfl
  | x :: xs => by
    rw [search, List.find?_cons, search_eq_find? v xs]
    by_cases h : v ≤ x.1.hash <;> simp [h]

theorem search_mem {v : Nat} {ring : List (Sec × List Nat)} {s : Sec × List Nat} (h : search v ring = some s) :
    s ∈ ring :=
  List.mem_of_find?_eq_some (search_eq_find? v ring ▸ h)

theorem getN_of_row {numEps n v : Nat} {ring : List (Sec × List Nat)} {s : Sec × List Nat} (h : n < numEps)
    (hs : (search v ring).or ring.head? = some s) :
    getN numEps ring v n = ((s.2[n]?).map Get.node).getD .panic := by
  rw [getN, if_neg (Nat.not_le.mpr h)]
  cases hv : search v ring with
  | some t =>
    rw [hv] at hs
    cases hs
    dsimp only
    cases s.2[n]? <;> rfl
  | none =>
    rw [hv] at hs
    rw [show ring.head? = some s from hs]
    dsimp only
    cases s.2[n]? <;> rfl

theorem table_search (lc : Bool) (ring : List Sec) (zones : List Nat) (rf v : Nat) :
    ∀ (suffix : List Sec) (t : List (Sec × List Nat)), table lc ring zones rf suffix = .ring t →
      match suffix.dropWhile (fun s => decide (s.hash < v)) with
      | [] => search v t = none
      | s :: l => ∃ r, search v t = some (s, r) ∧ replicasFor lc ring zones rf (s :: l) = .ok r := by
  intro suffix
  induction suffix with
  | nil => intro t h; simp [table] at h; subst h; simp [search]
  | cons a rest ih =>
    intro t h
    obtain ⟨r, t', hr, ht, rfl⟩ := table_cons_eq_ring h
    by_cases hp : a.hash < v
    · simp only [List.dropWhile, hp, decide_true, search, Nat.not_le.mpr hp, if_false]
      exact ih t' ht
    · simp only [List.dropWhile, hp, decide_false]
      exact ⟨r, by rw [search, if_pos (Nat.le_of_not_lt hp)], hr⟩

/-- The row that `GetN` reads for `v` (the one `search` finds, else the first) holds `replicasOfSeries v`: in the
    table of every ring, not only of `mkRing eps`. -/
theorem table_row_replicasOfSeries {lc : Bool} {ring : List Sec} {zones : List Nat} {rf : Nat}
    {t : List (Sec × List Nat)} (v : Nat) (hne : ring ≠ []) (ht : table lc ring zones rf ring = .ring t) :
    ∃ s, (search v t).or t.head? = some s ∧ replicasOfSeries lc ring zones rf v = .ok s.2 := by
  have hts := table_search lc ring zones rf v ring t ht
  rw [replicasOfSeries, searchSuffix]
  cases hd : ring.dropWhile (fun s => decide (s.hash < v)) with
  | cons s l =>
    rw [hd] at hts
    obtain ⟨r, hs, hr⟩ := hts
    exact ⟨(s, r), by rw [hs]; rfl, hr⟩
  | nil =>
    rw [hd] at hts
    -- the search finds nothing: GetN wraps to the first section, whose row is the loop run from the whole ring
    obtain ⟨a, r, rfl⟩ := List.exists_cons_of_ne_nil hne
    obtain ⟨r0, t, hr, _, rfl⟩ := table_cons_eq_ring ht
    exact ⟨(a, r0), by rw [hts]; rfl, hr⟩

/-- `GetN(n)` of a built ring is the n-th element of `replicasOfSeries` — the statement that
    connects the theorems about `replicasOfSeries` with what `ketamaHashring.GetN` answers. -/
theorem getN_replicasOfSeries (lc : Bool) (eps : List Ep) (rf : Nat) (secs : List (Sec × List Nat)) (v n : Nat)
    (hb : build lc eps rf = .ring secs) (hn : n < rf) (hne : mkRing eps ≠ []) :
    ∃ reps, replicasOfSeries lc (mkRing eps) (zonesOf eps) rf v = .ok reps ∧
      getN eps.length secs v n = ((reps[n]?).map Get.node).getD .panic := by
  rcases Nat.lt_or_ge eps.length rf with hlt | hle
  · rw [build_of_lt hlt] at hb
    cases hb
  · rw [build_of_le hle] at hb
    obtain ⟨s, hs, hr⟩ := table_row_replicasOfSeries v hne hb
    exact ⟨s.2, hr, getN_of_row (Nat.lt_of_lt_of_le hn hle) hs⟩

end Thanos.Hashring
