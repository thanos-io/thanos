import Thanos.Model.Hashring
import Thanos.Lemmas.Hashring
import Thanos.Lemmas.ListFacts
/-
  When does the replica loop get stuck?  Exactly when `rf` exceeds the capacity of the zone
  layout: `Σ_z min(size_z, m+1)` with `m` the size of the smallest zone (≥ 2 zones), the number of
  endpoints (≤ 1 zone).  The loop cannot choose more (`length_le_capacity`) and a stuck state has chosen
  that many (`stuck_full`); a `stuck` answer of the repaired loop comes from a reachable state that
  refuses every section of the ring (`Window`, `loop_stuck_reach`).  The section `answers` reads this off the answer
  of a run from the empty state (`loop_ok_canBalance`, `loop_unrepaired_hangs`, `replicasFor_stuck_canBalance`).
-/
namespace Thanos.Hashring

/-- every endpoint lives in one zone: sections of the same endpoint carry the same zone -/
def AzConsistent (ring : List Sec) : Prop :=
  ∀ s ∈ ring, ∀ t ∈ ring, s.ep = t.ep → s.az = t.az

/-- the endpoints with a section in zone `z`, each once; `zsize` counts them -/
def zoneEps (ring : List Sec) (z : Nat) : List Nat :=
  dedup ((ring.filter (fun s => s.az == z)).map (·.ep))

def zsize (ring : List Sec) (z : Nat) : Nat := (zoneEps ring z).length

theorem mem_zoneEps {ring : List Sec} {z e : Nat} : e ∈ zoneEps ring z ↔ ∃ s ∈ ring, s.az = z ∧ s.ep = e := by
  simp only [zoneEps, mem_dedup, List.mem_map, List.mem_filter, beq_iff_eq]
  constructor
  · rintro ⟨s, ⟨hs, hz⟩, he⟩; exact ⟨s, hs, hz, he⟩
  · rintro ⟨s, hs, hz, he⟩; exact ⟨s, ⟨hs, hz⟩, he⟩

theorem cnt_eq_length_filter (z : Nat) (chosen : List Sec) :
    cnt z chosen = (chosen.filter (fun s => s.az == z)).length := by
  simp [cnt, List.countP_eq_length_filter]

theorem cnt_le_zsize {ring chosen : List Sec} (z : Nat) (hsub : ∀ s ∈ chosen, s ∈ ring)
    (hn : (chosen.map (·.ep)).Nodup) : cnt z chosen ≤ zsize ring z := by
  rw [cnt_eq_length_filter, zsize, ← List.length_map (f := (·.ep))]
  refine (hn.sublist (List.filter_sublist.map _)).length_le_of_subset fun e he => ?_
  obtain ⟨s, hs, rfl⟩ := List.mem_map.mp he
  exact mem_zoneEps.mpr ⟨s, hsub s (List.mem_filter.mp hs).1, beq_iff_eq.mp (List.mem_filter.mp hs).2, rfl⟩

theorem exists_free {ring chosen : List Sec} (z : Nat) (hcons : AzConsistent ring)
    (hsub : ∀ s ∈ chosen, s ∈ ring) (hlt : cnt z chosen < zsize ring z) :
    ∃ s ∈ ring, s.az = z ∧ taken chosen s.ep = false := by
  -- otherwise every endpoint of the zone is the endpoint of a chosen section, which lies in the zone too
  refine Classical.byContradiction fun hno => Nat.not_le.mpr hlt ?_
  rw [cnt_eq_length_filter, ← List.length_map (f := (·.ep))]
  refine (nodup_dedup _).length_le_of_subset fun e he => ?_
  obtain ⟨s, hs, hz, rfl⟩ := mem_zoneEps.mp he
  obtain ⟨c, hc, hce⟩ := List.any_eq_true.mp (eq_true_of_ne_false fun h => hno ⟨s, hs, hz, h⟩)
  have hce := beq_iff_eq.mp hce
  exact List.mem_map.mpr ⟨c, List.mem_filter.mpr ⟨hc, beq_iff_eq.mpr ((hcons c (hsub c hc) s hs hce).trans hz)⟩, hce⟩

theorem length_eq_sum_cnt : ∀ (zones : List Nat), zones.Nodup → ∀ (chosen : List Sec),
    (∀ s ∈ chosen, s.az ∈ zones) → chosen.length = (zones.map fun z => cnt z chosen).sum
  | [], _, [], _ => rfl
  | [], _, s :: _, h => nomatch h s List.mem_cons_self
  | z :: zs, hn, chosen, h => by
    rw [List.nodup_cons] at hn
    -- the sections outside zone `z` are counted by the other zones
    have ih := length_eq_sum_cnt zs hn.2 (chosen.filter fun s => !(s.az == z)) fun s hs =>
      (List.mem_cons.mp (h s (List.mem_filter.mp hs).1)).resolve_left
        fun e => by simpa [e] using (List.mem_filter.mp hs).2
    have hcnt : ∀ z' ∈ zs, cnt z' (chosen.filter fun s => !(s.az == z)) = cnt z' chosen := fun z' hz' => by
      rw [cnt, List.countP_filter]
      refine List.countP_congr fun s _ => ?_
      have : z' ≠ z := fun e => hn.1 (e ▸ hz')
      simp only [Bool.and_eq_true, beq_iff_eq, Bool.not_eq_true', beq_eq_false_iff_ne]
      exact ⟨And.left, fun e => ⟨e, e ▸ this⟩⟩
    rw [List.map_cons, List.sum_cons, ← List.map_congr_left hcnt, ← ih, cnt_eq_length_filter, ← List.length_append]
    exact (List.filter_append_perm _ chosen).length_eq.symm

theorem min?_eq_listMin : ∀ {l : List Nat}, l ≠ [] → l.min? = some (listMin l)
  | [_], _ => rfl
  | a :: b :: l, _ => by rw [List.min?_cons, min?_eq_listMin (List.cons_ne_nil b l)]; rfl

theorem listMin_mem {l : List Nat} (h : l ≠ []) : listMin l ∈ l :=
  (List.min?_eq_some_iff.mp (min?_eq_listMin h)).1

theorem listMin_le {l : List Nat} {a : Nat} (h : a ∈ l) : listMin l ≤ a :=
  (List.min?_eq_some_iff.mp (min?_eq_listMin (List.ne_nil_of_mem h))).2 a h

/-- the minimum is attained because every counter is below the MaxInt64 that `least` starts from -/
theorem least_attained (chosen : List Sec) (hb : chosen.length < 2 ^ 63 - 1) : ∀ {zones : List Nat}, zones ≠ [] →
    ∃ z ∈ zones, cnt z chosen = least chosen zones
  | [], h => absurd rfl h
  | [z], _ =>
    ⟨z, List.mem_singleton_self z,
      (Nat.min_eq_left (Nat.le_of_lt (Nat.lt_of_le_of_lt List.countP_le_length hb))).symm⟩
  | z :: y :: zs, _ => by
    obtain ⟨w, hw, he⟩ := least_attained chosen hb (List.cons_ne_nil y zs)
    rw [least]
    rcases Nat.le_total (cnt z chosen) (least chosen (y :: zs)) with hz | hz
    · exact ⟨z, List.mem_cons_self, (Nat.min_eq_left hz).symm⟩
    · exact ⟨w, List.mem_cons_of_mem _ hw, he.trans (Nat.min_eq_right hz).symm⟩

/-- how many replicas zone `z` can take before the loop gets stuck -/
def cap (ring : List Sec) (zones : List Nat) (z : Nat) : Nat :=
  if zones.length ≤ 1 then zsize ring z
  else min (zsize ring z) (listMin (zones.map (zsize ring)) + 1)

def capacity (ring : List Sec) (zones : List Nat) : Nat := (zones.map (cap ring zones)).sum

theorem canBalance_iff (ring : List Sec) (zones : List Nat) (rf : Nat) :
    canBalance (zones.map (zsize ring)) rf = true ↔ rf ≤ capacity ring zones := by
  have hcap : zones.map (cap ring zones) = (zones.map (zsize ring)).map fun s =>
      if zones.length ≤ 1 then s else min s (listMin (zones.map (zsize ring)) + 1) := by
    rw [List.map_map]; rfl
  rw [canBalance, capacity, hcap, List.length_map]
  split
  · simp only [decide_eq_true_eq, List.map_id']
  · simp only [decide_eq_true_eq]

section capacity
variable {ring : List Sec} {zones : List Nat} {rf : Nat} {chosen : List Sec}

theorem least_le_listMin (hr : Reach ring zones rf chosen) (hne : zones ≠ []) :
    least chosen zones ≤ listMin (zones.map (zsize ring)) := by
  obtain ⟨zm, hzm, hzme⟩ := List.mem_map.mp (listMin_mem (l := zones.map (zsize ring)) (by simpa using hne))
  rw [← hzme]
  exact Nat.le_trans (least_le_of_mem chosen hzm) (cnt_le_zsize zm hr.sub hr.nodup)

theorem cnt_le_cap (hr : Reach ring zones rf chosen) (z : Nat) (hz : z ∈ zones) :
    cnt z chosen ≤ cap ring zones z := by
  have h1 := cnt_le_zsize (ring := ring) z hr.sub hr.nodup
  unfold cap
  split
  · exact h1
  · rename_i hl
    have h2 := least_le_listMin hr (List.ne_nil_of_mem hz)
    have h3 := (hr.bal (Nat.lt_of_not_le hl)).bal z hz
    exact Nat.le_min.mpr ⟨h1, by omega⟩

theorem length_le_capacity (hr : Reach ring zones rf chosen) (hn : zones.Nodup)
    (hcover : ∀ s ∈ ring, s.az ∈ zones) : chosen.length ≤ capacity ring zones := by
  rw [length_eq_sum_cnt zones hn chosen (fun s hs => hcover s (hr.sub s hs))]
  exact sum_map_le (cnt_le_cap hr)

theorem Stuck.zone_rule (hst : Stuck ring zones chosen) (hcons : AzConsistent ring)
    (hsub : ∀ s ∈ chosen, s ∈ ring) {z : Nat} (hlt : cnt z chosen < zsize ring z) :
    zones.length > 1 ∧ least chosen zones < cnt z chosen := by
  obtain ⟨s, hs, rfl, ht⟩ := exists_free z hcons hsub hlt
  rcases hst s hs with h | h
  · rw [ht] at h; cases h
  · simp only [skipAZ, Bool.and_eq_true, decide_eq_true_eq] at h
    exact ⟨h.1.1, h.2⟩

/-- in a stuck state the least occupied zone is full, so the least counter is the size of the smallest zone -/
theorem stuck_least (hr : Reach ring zones rf chosen) (hb : rf < 2 ^ 63 - 1) (hcons : AzConsistent ring)
    (hne : zones ≠ []) (hst : Stuck ring zones chosen) : least chosen zones = listMin (zones.map (zsize ring)) := by
  obtain ⟨z0, hz0, hz0e⟩ := least_attained chosen (Nat.lt_of_le_of_lt hr.len hb) hne
  have hfull : zsize ring z0 ≤ cnt z0 chosen := Nat.le_of_not_lt fun hlt =>
    Nat.lt_irrefl _ (hz0e ▸ (hst.zone_rule hcons hr.sub hlt).2)
  exact Nat.le_antisymm (least_le_listMin hr hne)
    (hz0e ▸ Nat.le_trans (listMin_le (List.mem_map.mpr ⟨z0, hz0, rfl⟩)) hfull)

theorem stuck_full (hr : Reach ring zones rf chosen) (hb : rf < 2 ^ 63 - 1) (hn : zones.Nodup)
    (hcover : ∀ s ∈ ring, s.az ∈ zones) (hcons : AzConsistent ring) (hst : Stuck ring zones chosen) :
    chosen.length = capacity ring zones := by
  rw [length_eq_sum_cnt zones hn chosen (fun s hs => hcover s (hr.sub s hs))]
  refine congrArg List.sum (List.map_congr_left fun z hz => ?_)
  have hzs := cnt_le_zsize (ring := ring) z hr.sub hr.nodup
  have hrule := hst.zone_rule hcons hr.sub (z := z)
  unfold cap
  split
  · rename_i hl
    exact Nat.le_antisymm hzs (Nat.le_of_not_lt fun hlt => Nat.not_lt.mpr hl (hrule hlt).1)
  · rename_i hl
    -- a zone with an endpoint left is ahead of the least one (zone rule), by exactly one (balance)
    have hL := stuck_least hr hb hcons (fun e => hl (by rw [e]; exact Nat.zero_le 1)) hst
    have hbal := (hr.bal (Nat.lt_of_not_le hl)).bal z hz
    by_cases hlt : cnt z chosen < zsize ring z
    · have := (hrule hlt).2
      omega
    · omega

end capacity

/-- the `skipped` sections in front of the cursor (cyclically) are all refused in the current state -/
def Window (ring : List Sec) (zones : List Nat) (rest : List Sec) (skipped : Nat) (chosen : List Sec) : Prop :=
  ∃ pre, ring = pre ++ rest ∧
    ∀ s ∈ (pre.reverse ++ rest.reverse).take skipped, taken chosen s.ep = true ∨ skipAZ zones chosen s = true

section window
variable {ring : List Sec} {zones : List Nat} {rest rest' : List Sec} {rep : Sec} {skipped : Nat} {chosen : List Sec}

theorem window_zero (h : ∃ pre, ring = pre ++ rest) : Window ring zones rest 0 chosen :=
  h.imp fun _ hp => ⟨hp, nofun⟩

/-- an exhausted cursor and the cursor at the start of the ring are the same position -/
theorem window_wrap (hw : Window ring zones [] skipped chosen) : Window ring zones ring skipped chosen := by
  obtain ⟨pre, hp, hall⟩ := hw
  rw [List.append_nil] at hp
  subst hp
  exact ⟨[], rfl, by simpa using hall⟩

theorem window_cons (hw : Window ring zones (rep :: rest') skipped chosen) (hlt : skipped < ring.length)
    (hskip : taken chosen rep.ep = true ∨ skipAZ zones chosen rep = true) :
    Window ring zones rest' (skipped + 1) chosen := by
  obtain ⟨pre, hp, hall⟩ := hw
  refine ⟨pre ++ [rep], by simp [hp], fun s hs => ?_⟩
  rw [List.reverse_append, List.reverse_singleton, List.singleton_append, List.cons_append,
    List.take_succ_cons, List.mem_cons] at hs
  rcases hs with rfl | hs
  · exact hskip
  · refine hall s ?_
    -- the sections in front of the old cursor are still in front of the new one
    rw [List.reverse_cons, ← List.append_assoc, List.take_append_of_le_length]
    · exact hs
    · have : ring.length = pre.length + (rest'.length + 1) := by rw [hp]; simp
      simp; omega

theorem window_step (hw : Window ring zones rest skipped chosen) (hc : cursor ring rest = some (rep, rest'))
    (hlt : skipped < ring.length) (hskip : taken chosen rep.ep = true ∨ skipAZ zones chosen rep = true) :
    Window ring zones rest' (skipped + 1) chosen := by
  rcases cursor_eq_some.mp hc with rfl | ⟨rfl, hr⟩
  · exact window_cons hw hlt hskip
  · exact window_cons (hr ▸ window_wrap hw) hlt hskip

theorem window_full (hw : Window ring zones rest ring.length chosen) : Stuck ring zones chosen := by
  obtain ⟨pre, hp, hall⟩ := hw
  intro s hs
  apply hall s
  have hlen : (pre.reverse ++ rest.reverse).length = ring.length := by rw [hp]; simp
  rw [← hlen, List.take_length]
  rw [hp] at hs
  simp only [List.mem_append, List.mem_reverse] at hs ⊢
  exact hs

end window

theorem loop_stuck_reach {ring : List Sec} {zones : List Nat} {rf fuel : Nat} {rest : List Sec} {skipped : Nat}
    {chosen : List Sec} (hsub : ∀ s ∈ rest, s ∈ ring) (hr : Reach ring zones rf chosen)
    (hw : Window ring zones rest skipped chosen) (hsk : skipped ≤ ring.length)
    (h : loop true ring ring.length zones rf fuel rest skipped chosen = .stuck) :
    ∃ final, Reach ring zones rf final ∧ final.length < rf ∧ Stuck ring zones final := by
  induction fuel, rest, skipped, chosen using loop_induct with
  | zero | done | oob => cases h
  | @lap _ _ _ ch hlt _ hs => exact ⟨ch, hr, hlt, window_full (hs ▸ hw)⟩
  | skip _ hl hc hs ih =>
    have hsk' := Nat.lt_of_le_of_ne hsk (hl rfl)
    exact ih (cursor_mem hsub hc).2 hr (window_step hw hc hsk' hs) hsk' h
  | add hlt _ hc ht hz ih =>
    exact ih (cursor_mem hsub hc).2 (reach_step hr (cursor_mem hsub hc).1 ht hz hlt)
      (window_zero (cursor_suffix (hw.imp fun _ h => h.1) hc)) (Nat.zero_le _) h

/-- the shape of `C19_stuck_iff` and `table_stuck_iff`: two exclusive outcomes, and a Boolean that tells which occurs -/
theorem iff_of_exclusive {A B : Prop} {b : Bool} (hAB : A → B → False)
    (h : (A ∧ b = false) ∨ (B ∧ b = true)) : (A ↔ b = false) ∧ (B ↔ b = true) := by
  rcases h with ⟨ha, hb⟩ | ⟨hB, hb⟩
  · exact ⟨⟨fun _ => hb, fun _ => ha⟩, fun hB => (hAB ha hB).elim, fun h => by rw [hb] at h; cases h⟩
  · exact ⟨⟨fun ha => (hAB ha hB).elim, fun h => by rw [hb] at h; cases h⟩, fun _ => hb, fun _ => hB⟩

section answers
variable {ring : List Sec} {zones : List Nat} {rf fuel : Nat} {rest : List Sec} {skipped : Nat}

/-- An answer is `rf` balanced replicas, so the layout can take them: with or without the lap check, whatever the
    fuel and the cursor. -/
theorem loop_ok_canBalance {lc : Bool} {n : Nat} {reps : List Nat} (hsub : ∀ s ∈ rest, s ∈ ring) (hn : zones.Nodup)
    (hcover : ∀ s ∈ ring, s.az ∈ zones) (h : loop lc ring n zones rf fuel rest skipped [] = .ok reps) :
    canBalance (zones.map (zsize ring)) rf = true := by
  obtain ⟨final, hreach, hlen, _⟩ := loop_ok_reach hsub (reach_nil ring zones rf) h
  exact (canBalance_iff ring zones rf).mpr (Nat.le_trans hlen (length_le_capacity hreach hn hcover))

/-- So on a layout that cannot be balanced the loop as it was never answers, whatever the cursor, the fuel and the lap
    length `n`.  Zone consistency, the bound on `rf` and a cursor at a suffix of the ring serve only the converse. -/
theorem loop_unrepaired_hangs {n : Nat} (hne : ring ≠ []) (hsub : ∀ s ∈ rest, s ∈ ring) (hn : zones.Nodup)
    (hcover : ∀ s ∈ ring, s.az ∈ zones) (hc : canBalance (zones.map (zsize ring)) rf = false) :
    loop false ring n zones rf fuel rest skipped [] = .fuelOut := by
  cases h : loop false ring n zones rf fuel rest skipped [] with
  | fuelOut => rfl
  | ok reps => exact absurd (loop_ok_canBalance hsub hn hcover h) (hc ▸ Bool.false_ne_true)
  | stuck => exact absurd h loop_unrepaired_ne_stuck
  | oob => exact absurd h (loop_ne_oob hne)

/-- The lap check fires only where the layout cannot take `rf` balanced replicas: the state it fires in is stuck,
    so it has chosen as many as the layout can take, and still fewer than `rf`. -/
theorem replicasFor_stuck_canBalance (hstart : ∃ pre, ring = pre ++ rest) (hcons : AzConsistent ring)
    (hn : zones.Nodup) (hcover : ∀ s ∈ ring, s.az ∈ zones) (hb : rf < 2 ^ 63 - 1)
    (h : replicasFor true ring zones rf rest = .stuck) : canBalance (zones.map (zsize ring)) rf = false := by
  obtain ⟨final, hreach, hlen, hst⟩ :=
    loop_stuck_reach (mem_of_suffix hstart) (reach_nil ring zones rf) (window_zero hstart) (Nat.zero_le _) h
  have := stuck_full hreach hb hn hcover hcons hst
  exact Bool.eq_false_iff.mpr fun hc => by have := (canBalance_iff ring zones rf).mp hc; omega

end answers

end Thanos.Hashring
