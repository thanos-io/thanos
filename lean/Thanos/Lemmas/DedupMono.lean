import Thanos.Model.Iter
import Thanos.Lemmas.IterBasic
/-
  The value invariant of counter deduplication (C02).

  `Mono o I`: `I s m` says "the iterator is positioned on a sample whose (adjusted) value is
  `m`"; every successful `Seek`/`Next` leads to a state with a value `≥ m`, and
  `adjustAtValue v` leads to the value `max m v`.  The invariant is purely about values — no
  assumption on timestamps is needed, so it holds whatever the penalty logic decides.
  The list iterator has the reading part `MonoR` (`leaf_monoR`), the counter wrapper turns any `MonoR` iterator
  into a `Mono` one (`ctrOps_mono`), and a dedup node over two `Mono` sides is `Mono` again (`node_mono`).
  `FreshM` is the same for the state a constructor leaves.
-/
namespace Thanos.Dedup

def MonoVals (l : List Sample) : Prop := l.Pairwise (fun x y => x.v ≤ y.v)

structure Mono {σ : Type} (o : Ops σ) (I : σ → Int → Prop) : Prop where
  atS : ∀ s m, I s m → ∃ x, o.atS s = some x ∧ x.v = m
  seek : ∀ s m t, I s m → (o.seek t s).2 = true → ∃ m', m ≤ m' ∧ I (o.seek t s).1 m'
  next : ∀ s m, I s m → (o.next s).2 = true → ∃ m', m ≤ m' ∧ I (o.next s).1 m'
  adjust : ∀ s m v, I s m → I (o.adjust v s) (max m v)

/-- the reading part of `Mono`: what holds of an iterator whose `adjustAtValue` does nothing
    (the plain list iterator), and all that reading a script needs -/
structure MonoR {σ : Type} (o : Ops σ) (I : σ → Int → Prop) : Prop where
  atS : ∀ s m, I s m → ∃ x, o.atS s = some x ∧ x.v = m
  seek : ∀ s m t, I s m → (o.seek t s).2 = true → ∃ m', m ≤ m' ∧ I (o.seek t s).1 m'
  next : ∀ s m, I s m → (o.next s).2 = true → ∃ m', m ≤ m' ∧ I (o.next s).1 m'

theorem Mono.toR {σ : Type} {o : Ops σ} {I : σ → Int → Prop} (h : Mono o I) : MonoR o I :=
  ⟨h.atS, h.seek, h.next⟩

/-- a state on which no method has been called yet: the first successful call positions it -/
structure FreshM {σ : Type} (o : Ops σ) (I : σ → Int → Prop) (s : σ) : Prop where
  next : (o.next s).2 = true → ∃ m, I (o.next s).1 m
  seek : ∀ t, (o.seek t s).2 = true → ∃ m, I (o.seek t s).1 m

theorem Mono.unique {σ : Type} {o : Ops σ} {I : σ → Int → Prop} (h : Mono o I) {s : σ} {m m2 : Int}
    (h1 : I s m) (h2 : I s m2) : m = m2 := by
  obtain ⟨x, hx, rfl⟩ := h.atS s m h1
  obtain ⟨y, hy, rfl⟩ := h.atS s m2 h2
  rw [hx] at hy
  cases hy
  rfl

def leafI (l : Leaf) (m : Int) : Prop :=
  l.started = true ∧ MonoVals l.rest ∧ ∃ x, l.rest.head? = some x ∧ x.v = m

/-- `Next` and `Seek` leave a sublist of the remaining samples, whose head is not below -/
theorem leafI_sublist {l : Leaf} {m : Int} (h : leafI l m) {l' : List Sample} (hs : l'.Sublist l.rest)
    (hok : (!l'.isEmpty) = true) : ∃ m', m ≤ m' ∧ leafI { rest := l', started := true } m' := by
  obtain ⟨_, hmono, x, hx, rfl⟩ := h
  cases l' with
  | nil => cases hok
  | cons y t =>
    refine ⟨y.v, ?_, rfl, hmono.sublist hs, y, rfl, rfl⟩
    obtain ⟨r, e⟩ := List.head?_eq_some_iff.mp hx
    rw [e] at hs hmono
    rcases List.mem_cons.mp (hs.subset List.mem_cons_self) with rfl | hy
    · exact Int.le_refl _
    · exact (List.pairwise_cons.mp hmono).1 y hy

theorem leafNext_started (l : Leaf) (hs : l.started = true) :
    leafNext l = ({ rest := l.rest.tail, started := true }, !l.rest.tail.isEmpty) := by
  unfold leafNext
  rw [hs]
  rfl

theorem leaf_cur_started {l : Leaf} {x : Sample} (hs : l.started = true) (hx : l.rest.head? = some x) :
    l.cur = some x := by
  unfold Leaf.cur
  rw [hs, if_pos rfl, hx]

theorem leaf_monoR : MonoR leafOps leafI where
  atS := fun l _ ⟨hs, _, x, hx, hm⟩ => ⟨x, leaf_cur_started hs hx, hm⟩
  seek := fun l _ _ h hok => leafI_sublist h (List.dropWhile_sublist _) hok
  next := by
    intro l m h hok
    rw [leafOps_next, leafNext_started l h.1] at hok ⊢
    exact leafI_sublist h (List.tail_sublist _) hok

theorem leaf_fresh (r : List Sample) (h : MonoVals r) : FreshM leafOps leafI (Leaf.init r) := by
  have pos : ∀ l' : List Sample, l'.Sublist r → (!l'.isEmpty) = true →
      ∃ m, leafI { rest := l', started := true } m := by
    intro l' hs hok
    cases l' with
    | nil => cases hok
    | cons y t => exact ⟨y.v, rfl, h.sublist hs, y, rfl, rfl⟩
  exact ⟨pos r (List.Sublist.refl r), fun _ => pos _ (List.dropWhile_sublist _)⟩

def ctrOf {σ : Type} (I : σ → Int → Prop) (s : Ctr σ) (m : Int) : Prop :=
  ∃ m0, I s.inner m0 ∧ m0 + s.errAdjust = m

/-- `adjustAtValue` of the inner iterator is never called, so its reading part suffices -/
theorem ctrOps_mono {σ : Type} {o : Ops σ} {I : σ → Int → Prop} (h : MonoR o I) :
    Mono (ctrOps o) (ctrOf I) where
  atS := by
    intro s m ⟨m0, hI, hm⟩
    obtain ⟨x, hx, rfl⟩ := h.atS _ _ hI
    refine ⟨⟨x.t, x.v + s.errAdjust⟩, ?_, hm⟩
    show (o.atS s.inner).map _ = _
    rw [hx]
    rfl
  seek := by
    intro s m t ⟨m0, hI, hm⟩ hok
    obtain ⟨m', hle, hI'⟩ := h.seek _ _ t hI hok
    exact ⟨m' + s.errAdjust, hm ▸ Int.add_le_add_right hle _, m', hI', rfl⟩
  next := by
    intro s m ⟨m0, hI, hm⟩ hok
    obtain ⟨m', hle, hI'⟩ := h.next _ _ hI hok
    exact ⟨m' + s.errAdjust, hm ▸ Int.add_le_add_right hle _, m', hI', rfl⟩
  adjust := by
    intro s m v ⟨m0, hI, hm⟩
    obtain ⟨x, hx, rfl⟩ := h.atS _ _ hI
    simp only [ctrOps, hx]
    split
    · rename_i hgt
      rw [hm] at hgt
      refine ⟨x.v, hI, ?_⟩
      rw [Int.max_eq_right (Int.le_of_lt hgt)]
      show x.v + (s.errAdjust + (v - (x.v + s.errAdjust))) = v
      omega
    · rename_i hgt
      rw [hm] at hgt
      exact ⟨x.v, hI, hm.trans (Int.max_eq_left (Int.not_lt.mp hgt)).symm⟩

theorem ctrOps_fresh {σ : Type} {o : Ops σ} {I : σ → Int → Prop} {s : σ} (h : FreshM o I s) :
    FreshM (ctrOps o) (ctrOf I) (Ctr.init s) where
  next := fun hok => (h.next hok).imp fun m hI => ⟨m, hI, Int.add_zero m⟩
  seek := fun t hok => (h.seek t hok).imp fun m hI => ⟨m, hI, Int.add_zero m⟩

def ctrI (s : Ctr Leaf) (m : Int) : Prop :=
  s.inner.started = true ∧ MonoVals s.inner.rest ∧
    ∃ x, s.inner.rest.head? = some x ∧ x.v + s.errAdjust = m

theorem ctrI_eq : ctrI = ctrOf leafI :=
  funext fun _ => funext fun _ => propext
    ⟨fun ⟨hs, hm, x, hx, he⟩ => ⟨x.v, ⟨hs, hm, x, hx, rfl⟩, he⟩,
     fun ⟨_, ⟨hs, hm, x, hx, e⟩, he⟩ => ⟨hs, hm, x, hx, e ▸ he⟩⟩

theorem ctr_mono : Mono (ctrOps leafOps) ctrI :=
  ctrI_eq ▸ ctrOps_mono leaf_monoR

theorem ctr_fresh (r : List Sample) (h : MonoVals r) :
    FreshM (ctrOps leafOps) ctrI (Ctr.init (Leaf.init r)) :=
  ctrI_eq ▸ ctrOps_fresh (leaf_fresh r h)

section node
variable {α β : Type} {oa : Ops α} {ob : Ops β} {Ia : α → Int → Prop} {Ib : β → Int → Prop}

/-- every side that returned a sample last time is positioned -/
def nodeW (Ia : α → Int → Prop) (Ib : β → Int → Prop) (s : Node α β) : Prop :=
  s.lastIsA = s.useA ∧ (s.aval = true → ∃ m, Ia s.a m) ∧ (s.bval = true → ∃ m, Ib s.b m)

def nodeI (Ia : α → Int → Prop) (Ib : β → Int → Prop) (s : Node α β) (m : Int) : Prop :=
  nodeW Ia Ib s ∧ (if s.useA then s.aval = true ∧ Ia s.a m else s.bval = true ∧ Ib s.b m)

/-- `if val != ValNone { val = it.Seek(t) }` on a side that is positioned whenever its flag is set -/
theorem Mono.seekIf {σ : Type} {o : Ops σ} {I : σ → Int → Prop} (h : Mono o I) {s : σ} {av : Bool}
    (hp : av = true → ∃ m, I s m) {t : Int} (hok : (seekIf o t s av).2 = true) :
    ∃ m', I (seekIf o t s av).1 m' ∧ ∀ m, I s m → m ≤ m' := by
  cases av with
  | false => cases hok
  | true =>
    obtain ⟨m0, hm0⟩ := hp rfl
    obtain ⟨m1, _, hm1⟩ := h.seek _ _ t hm0 hok
    refine ⟨m1, hm1, fun m hm => ?_⟩
    obtain ⟨m2, hle, hm2⟩ := h.seek _ _ t hm hok
    exact h.unique hm1 hm2 ▸ hle

/-- `if val != ValNone { it.adjustAtValue(v) }` on a side whose flag is set -/
theorem Mono.adjustIf {σ : Type} {o : Ops σ} {I : σ → Int → Prop} (h : Mono o I) (v : Int) {s : σ}
    {av : Bool} (hav : av = true) {m : Int} (hm : I s m) :
    I (if av then o.adjust v s else s) (max m v) := by
  rw [if_pos hav]
  exact h.adjust s m v hm

theorem nodeAdjust_I (ha : Mono oa Ia) (hb : Mono ob Ib) (v : Int) {m : Int} {s : Node α β}
    (hI : nodeI Ia Ib s m) : nodeI Ia Ib (nodeAdjust oa ob v s) (max m v) := by
  obtain ⟨⟨h1, h2, h3⟩, h4⟩ := hI
  rw [nodeAdjust_eq]
  refine ⟨⟨h1, fun hv => ?_, fun hv => ?_⟩, ?_⟩
  · obtain ⟨m', hm'⟩ := h2 hv
    exact ⟨_, ha.adjustIf v hv hm'⟩
  · obtain ⟨m', hm'⟩ := h3 hv
    exact ⟨_, hb.adjustIf v hv hm'⟩
  · cases hu : s.useA with
    | true =>
      rw [hu] at h4
      exact ⟨h4.1, ha.adjustIf v h4.1 h4.2⟩
    | false =>
      rw [hu] at h4
      exact ⟨h4.1, hb.adjustIf v h4.1 h4.2⟩

/-- on a positioned node `lastFloatVal()` reads the value `m` -/
theorem nodeI_at (ha : Mono oa Ia) (hb : Mono ob Ib) {s : Node α β} {m : Int} (hI : nodeI Ia Ib s m) :
    ((s.useA && s.aval) || (!s.useA && s.bval)) = true ∧ ∃ x, nodeAt oa ob s = some x ∧ x.v = m := by
  obtain ⟨⟨h1, _, _⟩, h2⟩ := hI
  unfold nodeAt
  rw [h1]
  cases hu : s.useA with
  | true =>
    rw [hu] at h2
    exact ⟨by rw [h2.1]; rfl, ha.atS _ _ h2.2⟩
  | false =>
    rw [hu] at h2
    exact ⟨by rw [h2.1]; rfl, hb.atS _ _ h2.2⟩

/-- the value of the side a successful `nodeStep` ends on is not below the value that side had before -/
theorem nodeStep_I (ha : Mono oa Ia) (hb : Mono ob Ib) {s : Node α β} (hW : nodeW Ia Ib s)
    (hok : (nodeStep oa ob s).2 = true) :
    ∃ m', nodeI Ia Ib (nodeStep oa ob s).1 m' ∧
      ∀ m, nodeI Ia Ib s m → (nodeStep oa ob s).1.useA = s.useA → m ≤ m' := by
  unfold nodeStep at hok ⊢
  rw [stepA_eq, stepB_eq] at hok ⊢
  -- `r`: what `nodeChoose` returns on the state with both sides sought; only its shape matters
  generalize hr : nodeChoose oa ob _ = r at hok ⊢
  obtain ⟨u, l, pa, pb, e, hu⟩ := nodeChoose_shape hr hok
  have hA := ha.seekIf hW.2.1 (t := s.lastT + 1 + s.penA)
  have hB := hb.seekIf hW.2.2 (t := s.lastT + 1 + s.penB)
  have hW' : nodeW Ia Ib r.1 := by
    rw [e]
    exact ⟨rfl, fun hv => (hA hv).imp fun _ h => h.1, fun hv => (hB hv).imp fun _ h => h.1⟩
  rw [e] at hW' ⊢
  cases u with
  | true =>
    obtain ⟨m', hm', hge⟩ := hA hu
    refine ⟨m', ⟨hW', hu, hm'⟩, fun m hI hsame => hge m ?_⟩
    have h2 := hI.2
    rw [← hsame] at h2
    exact h2.2
  | false =>
    obtain ⟨m', hm', hge⟩ := hB hu
    refine ⟨m', ⟨hW', hu, hm'⟩, fun m hI hsame => hge m ?_⟩
    have h2 := hI.2
    rw [← hsame] at h2
    exact h2.2

theorem nodeNext_I (ha : Mono oa Ia) (hb : Mono ob Ib) {s : Node α β} (hW : nodeW Ia Ib s)
    (hok : (nodeNext oa ob s).2 = true) :
    ∃ m', nodeI Ia Ib (nodeNext oa ob s).1 m' ∧ ∀ m, nodeI Ia Ib s m → m ≤ m' := by
  revert hok
  -- the arms are those named at `nodeNext_of_step`: panic, `x` read and `r = nodeStep s`, side in use not live
  fun_cases nodeNext oa ob s with
  | case1 => exact fun h => nomatch h
  | case2 _ x hat r =>
    intro hok
    obtain ⟨m0, hI0, hge⟩ := nodeStep_I ha hb hW hok
    simp only [nodeFinish]
    by_cases hsw : (r.1.useA != s.useA) = true
    · rw [if_pos hsw]
      refine ⟨max m0 x.v, nodeAdjust_I ha hb _ hI0, fun m hI => ?_⟩
      obtain ⟨_, y, hy, hym⟩ := nodeI_at ha hb hI
      rw [hat] at hy
      cases hy
      exact hym ▸ Int.le_max_right m0 x.v
    · rw [if_neg hsw]
      exact ⟨m0, hI0, fun m hI => hge m hI (by simpa using hsw)⟩
  | case3 hc =>
    intro hok
    obtain ⟨m0, hI0, _⟩ := nodeStep_I ha hb hW hok
    exact ⟨m0, hI0, fun m hI => absurd (nodeI_at ha hb hI).1 hc⟩

theorem nodeSeekLoop_I (ha : Mono oa Ia) (hb : Mono ob Ib) (t : Int) (n : Nat) (s : Node α β) (m : Int)
    (hI : nodeI Ia Ib s m) (hok : (nodeSeekLoop oa ob t n s).2 = true) :
    ∃ m', m ≤ m' ∧ nodeI Ia Ib (nodeSeekLoop oa ob t n s).1 m' := by
  revert hok
  -- case1: out of fuel; case2: `AtT` fails; case3, case4: at or past `t`, side `a` resp. `b` in use is sought to its
  -- own timestamp `ts`; case5: before `t`, `Next` gave `r` with a sample, the loop goes on; case6: `Next` gave none
  fun_induction nodeSeekLoop oa ob t n s generalizing m with
  | case1 => exact fun h => nomatch h
  | case2 => exact fun h => nomatch h
  | case3 n s ts _ _ hu =>
    intro hok
    obtain ⟨⟨h1, h2, h3⟩, h4⟩ := hI
    rw [hu] at h4
    obtain ⟨m', hle, hm'⟩ := ha.seek _ _ ts h4.2 hok
    exact ⟨m', hle, ⟨h1, fun _ => ⟨m', hm'⟩, h3⟩, by rw [hu]; exact ⟨h4.1, hm'⟩⟩
  | case4 n s ts _ _ hu =>
    intro hok
    obtain ⟨⟨h1, h2, h3⟩, h4⟩ := hI
    rw [if_neg hu] at h4
    obtain ⟨m', hle, hm'⟩ := hb.seek _ _ ts h4.2 hok
    exact ⟨m', hle, ⟨h1, h2, fun _ => ⟨m', hm'⟩⟩, by rw [if_neg hu]; exact ⟨h4.1, hm'⟩⟩
  | case5 n s ts _ _ r hn ih =>
    intro hok
    obtain ⟨m1, hI1, hle1⟩ := nodeNext_I ha hb hI.1 hn
    obtain ⟨m', hle', hI'⟩ := ih m1 hI1 hok
    exact ⟨m', Int.le_trans (hle1 m hI) hle', hI'⟩
  | case6 => exact fun h => nomatch h

theorem node_mono (ha : Mono oa Ia) (hb : Mono ob Ib) (fixed : Bool) :
    Mono (nodeOps oa ob fixed) (nodeI Ia Ib) where
  atS := fun s m hI => (nodeI_at ha hb hI).2
  next := by
    intro s m hI hok
    obtain ⟨m', hI', hle⟩ := nodeNext_I ha hb hI.1 hok
    exact ⟨m', hle m hI, hI'⟩
  seek := by
    intro s m t hI hok
    cases fixed with
    | false => exact nodeSeekLoop_I ha hb t _ s m hI hok
    | true =>
      rw [nodeOps_seek_fixed] at hok ⊢
      revert hok
      -- case1: nothing emitted yet, the positioning `Next` gave `r` with a sample; case2: it gave none; case3: the loop
      fun_cases nodeSeekFixed oa ob t s with
      | case1 _ r hn =>
        intro hok
        obtain ⟨m1, hI1, hle1⟩ := nodeNext_I ha hb hI.1 hn
        obtain ⟨m', hle', hI'⟩ := nodeSeekLoop_I ha hb t _ _ m1 hI1 hok
        exact ⟨m', Int.le_trans (hle1 m hI) hle', hI'⟩
      | case2 => exact fun h => nomatch h
      | case3 => exact nodeSeekLoop_I ha hb t _ s m hI
  adjust := fun _ _ v hI => nodeAdjust_I ha hb v hI

theorem node_fresh (ha : Mono oa Ia) (hb : Mono ob Ib) {a : α} {b : β}
    (fa : FreshM oa Ia a) (fb : FreshM ob Ib b) :
    FreshM (nodeOps oa ob true) (nodeI Ia Ib) (nodeNew oa ob a b) := by
  have hW : nodeW Ia Ib (nodeNew oa ob a b) := ⟨rfl, fa.next, fb.next⟩
  constructor
  · intro hok
    obtain ⟨m', hI', _⟩ := nodeNext_I ha hb hW hok
    exact ⟨m', hI'⟩
  · intro t hok
    rw [nodeOps_seek_fixed] at hok ⊢
    revert hok
    fun_cases nodeSeekFixed oa ob t (nodeNew oa ob a b) with
    | case1 _ r hn =>
      intro hok
      obtain ⟨m1, hI1, _⟩ := nodeNext_I ha hb hW hn
      obtain ⟨m', _, hI'⟩ := nodeSeekLoop_I ha hb t _ _ m1 hI1 hok
      exact ⟨m', hI'⟩
    | case2 => exact fun h => nomatch h
    | case3 hl => exact absurd rfl hl

end node

end Thanos.Dedup
