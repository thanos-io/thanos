import Thanos.Model.Merge
import Thanos.Lemmas.Proxy
import Thanos.Lemmas.Order
import Thanos.Lemmas.Chain
import Thanos.Lemmas.ChunkOrder
import Thanos.Lemmas.DedupOnce
import Thanos.Lemmas.SortSpec
import Thanos.Lemmas.ListFacts
/-
  What a client reads of `proxySeriesWith` under the warn strategy without limit, for any merge that neither loses
  nor invents a response (`MergeMem`).  Of the responses the response loop reads (`respsOf`) the non-series ones are
  those the stores that opened deliver (`mem_respsOf_nonSeries`), so there is no batch among them, and unpacking the
  batches undoes the batching server whatever the batch size (`flatten_serverOut`): the client reads `answerOf`
  (`flatten_proxy_warn`).  The series of the merged stream are the `Delivered` ones (`delivered_iff`), and in terms of
  that set alone: with the repaired deduplicator the list read is `ExactOf` it (`exactOf_proxy`, by `chain_of_keyed`
  on each run), and a list that is so and strictly sorted by labels (`IsAnswer`) is the only one (`answer_unique`).
  C03 and C06 are stated and proved in these terms.
-/
namespace Thanos.Merge

theorem flatten_cons_series (s : Series) (fs : List Frame) : flatten (.series s :: fs) = s :: flatten fs := rfl

theorem flatten_cons_batch (ss : List Series) (fs : List Frame) : flatten (.batch ss :: fs) = ss ++ flatten fs := rfl

theorem rebatch_flatten (n : Nat) : ∀ (fs : List Frame) (pend : List Series), NoBatch fs →
    flatten (rebatch n true pend fs) = pend ++ seriesOf fs := by
  intro fs
  induction fs with
  | nil => intro pend _; cases pend <;> rfl
  | cons x rest ih =>
    intro pend h
    obtain ⟨hx, hrest⟩ := List.forall_mem_cons.mp h
    cases x with
    | series s =>
      unfold rebatch
      simp only
      split
      · rw [flatten_cons_batch, ih _ hrest, seriesOf_cons_series, List.append_assoc]; rfl
      · rw [ih _ hrest, seriesOf_cons_series, List.append_assoc]; rfl
    | batch ss => exact (hx ss rfl).elim
    | _ =>
      rw [rebatch_cons_nonSeries n true pend rfl, seriesOf_cons_nonSeries rfl]
      cases pend with
      | nil => exact ih [] hrest
      | cons a r => exact congrArg ((a :: r) ++ ·) (ih [] hrest)

/-- batches are never larger than the batch size (n ≥ 1) and never empty -/
theorem rebatch_sizes (n : Nat) (hn : 1 ≤ n) : ∀ (fs : List Frame) (pend : List Series),
    NoBatch fs → pend.length < n →
    ∀ ss, .batch ss ∈ rebatch n true pend fs → 1 ≤ ss.length ∧ ss.length ≤ n := by
  intro fs
  induction fs with
  | nil =>
    intro pend _ hp ss hmem
    cases pend with
    | nil => cases hmem
    | cons a r =>
      cases List.mem_singleton.mp hmem
      exact ⟨Nat.succ_le_succ (Nat.zero_le _), Nat.le_of_lt hp⟩
  | cons x rest ih =>
    intro pend h hp ss hmem
    obtain ⟨hx, hrest⟩ := List.forall_mem_cons.mp h
    cases x with
    | series s =>
      unfold rebatch at hmem
      simp only at hmem
      split at hmem
      · rcases List.mem_cons.mp hmem with he | hmem
        · cases he
          rw [List.length_append]
          exact ⟨Nat.le_add_left .., hp⟩
        · exact ih [] hrest hn ss hmem
      · next hlt => exact ih _ hrest (Nat.lt_of_not_le hlt) ss hmem
    | batch b => exact (hx b rfl).elim
    | _ =>
      rw [rebatch_cons_nonSeries n true pend rfl] at hmem
      rcases List.mem_append.mp hmem with hmem | hmem
      · cases pend with
        | nil => cases hmem
        | cons a r =>
          cases List.mem_singleton.mp hmem
          exact ⟨Nat.succ_le_succ (Nat.zero_le _), Nat.le_of_lt hp⟩
      · rcases List.mem_cons.mp hmem with he | hmem
        · cases he
        · exact ih [] hrest hn ss hmem

theorem flatten_noBatch (fs : List Frame) (h : NoBatch fs) : flatten fs = seriesOf fs := by
  induction fs with
  | nil => rfl
  | cons f rest ih =>
    obtain ⟨hf, hrest⟩ := List.forall_mem_cons.mp h
    cases f with
    | series s => exact congrArg (s :: ·) (ih hrest)
    | batch ss => exact (hf ss rfl).elim
    | _ => exact ih hrest

theorem flatten_serverOut (batchSize : Nat) (sent : List Frame) (h : NoBatch sent) :
    flatten (serverOut batchSize true sent) = seriesOf sent := by
  unfold serverOut
  split
  · exact flatten_noBatch sent h
  · simpa using rebatch_flatten batchSize sent [] h

/-- the StoreAPI contract ("Series has to be sorted") for the stores that are read in the order
    they send; stores that are re-sorted by the proxy need nothing -/
def StoresSorted (rq : Request) (stores : List Store) : Prop :=
  ∀ st ∈ stores, ReadInOrder rq st = true → (storeSeries st.frames).Pairwise (fun a b => lblLe a.lbls b.lbls)

/-- a series response that reaches the merge from a store that opened -/
def Delivered (rq : Request) (stores : List Store) (s : Series) : Prop :=
  ∃ st ∈ stores, st.openErr = false ∧ Frame.series s ∈ respSet rq.lazy rq.sharded rq.without st

theorem mem_respsOf_nonSeries {merge : List (List Frame) → List Frame} (hm : MergeMem merge) {rq : Request}
    {stores : List Store} {x : Frame} (hx : x.isSeries = false) :
    x ∈ respsOf merge rq stores ↔
      ∃ st ∈ stores, st.openErr = false ∧ x ∈ respSet rq.lazy rq.sharded rq.without st := by
  unfold respsOf
  split
  · exact (mem_dedup_nonSeries _ _ hx).trans (mem_mergedOf hm)
  · exact mem_mergedOf hm

theorem respsOf_noBatch {merge : List (List Frame) → List Frame} (hm : MergeMem merge) (rq : Request)
    (stores : List Store) : NoBatch (respsOf merge rq stores) := by
  intro f hf ss he
  subst he
  obtain ⟨st, _, _, hfs⟩ := (mem_respsOf_nonSeries hm rfl).mp hf
  exact respSet_noBatch _ _ _ st _ hfs ss rfl

/-- the answer under the warn strategy without limit: the series among the responses read — the series of the
    merged stream, with deduplication the chains of its runs of label-equal series (`seriesOf_dedup`) -/
def answerOf (merge : List (List Frame) → List Frame) (rq : Request) (stores : List Store) : List Series :=
  seriesOf (respsOf merge rq stores)

theorem flatten_proxy_warn (merge : List (List Frame) → List Frame) (hm : MergeMem merge)
    (rq : Request) (stores : List Store) (hab : rq.abort = false) (hlim : rq.limit = 0) :
    flatten (proxySeriesWith merge rq stores).1 = answerOf merge rq stores := by
  have how : ∀ x ∈ openWarnings stores, ∃ m, x = .warning m := fun x hx => by
    obtain ⟨st, _, rfl⟩ := List.mem_map.mp hx; exact ⟨_, rfl⟩
  rw [proxy_warn merge rq stores hab hlim, flatten_serverOut]
  · rw [seriesOf_append, seriesOf_nonSeries _ (fun x hx => by obtain ⟨m, rfl⟩ := how x hx; rfl)]
    rfl
  · refine List.forall_mem_append.mpr ⟨fun f hf => ?_, respsOf_noBatch hm rq stores⟩
    obtain ⟨m, rfl⟩ := how f hf
    exact fun _ => Frame.noConfusion

theorem delivered_iff {merge : List (List Frame) → List Frame} (hm : MergeMem merge) {rq : Request}
    {stores : List Store} {s : Series} : s ∈ seriesOf (mergedOf merge rq stores) ↔ Delivered rq stores s :=
  mem_seriesOf.trans (mem_mergedOf hm)

theorem delivered_congr {rq1 rq2 : Request} (hs : rq1.sharded = rq2.sharded) (hw : rq1.without = rq2.without)
    (stores : List Store) (s : Series) : Delivered rq1 stores s ↔ Delivered rq2 stores s := by
  unfold Delivered
  rw [hs, hw]
  exact exists_congr fun st => and_congr_right fun _ => and_congr_right fun _ =>
    (mem_respSet_lazy rq1.lazy _ _ st _).trans (mem_respSet_lazy rq2.lazy _ _ st _).symm

/-- `out` holds exactly the series `D`, label set by label set: nothing of `D` is missing (`complete`), nothing in
    `out` is invented (`lbls`, `sound`), and a series of `out` carries its chunks once, in `AggrChunk.Compare` order -/
structure ExactOf (D : Series → Prop) (out : List Series) : Prop where
  complete : ∀ s, D s → ∃ o ∈ out, cmpLabels o.lbls s.lbls = .eq ∧ ∀ c ∈ s.chunks, c ∈ o.chunks
  lbls : ∀ o ∈ out, ∃ s, D s ∧ o.lbls = s.lbls
  nodup : ∀ o ∈ out, o.chunks.Nodup
  chunksSorted : ∀ o ∈ out, o.chunks.Pairwise chunkLe
  sound : ∀ o ∈ out, ∀ c ∈ o.chunks, ∃ s, D s ∧ cmpLabels o.lbls s.lbls = .eq ∧ c ∈ s.chunks

/-- `hkeys` speaks of every *list* of delivered series, not of their set: a run of the merged stream is such a list,
    the same series possibly twice (from two stores), and `KeyInj`, `Populated` are predicates of its list of chunks -/
theorem exactOf_proxy (merge : List (List Frame) → List Frame) (hm : MergeMem merge)
    (rq : Request) (stores : List Store) (hab : rq.abort = false) (hlim : rq.limit = 0)
    (hd : rq.dedup = true) (hfix : rq.fixedDedup = true)
    (hkeys : ∀ ss : List Series, (∀ s ∈ ss, Delivered rq stores s) →
      KeyInj (ss.flatMap (·.chunks)) ∧ Populated (ss.flatMap (·.chunks))) :
    ExactOf (Delivered rq stores) (flatten (proxySeriesWith merge rq stores).1) := by
  rw [flatten_proxy_warn merge hm rq stores hab hlim, answerOf, respsOf, if_pos hd, seriesOf_dedup, hfix]
  have hrun : ∀ p ∈ runs none (seriesOf (mergedOf merge rq stores)), ∀ x ∈ p.1 :: p.2,
      Delivered rq stores x ∧ cmpLabels p.1.lbls x.lbls = .eq := by
    intro p hp x hx
    refine ⟨(delivered_iff hm).mp (mem_runs_join.mpr ⟨p, hp, hx⟩), ?_⟩
    rcases List.mem_cons.mp hx with rfl | hx
    · exact lawful_labels.refl _
    · exact runs_labelEq _ none (by simp) p hp x hx
  have hchain := fun p (hp : p ∈ runs none (seriesOf (mergedOf merge rq stores))) =>
    have hk := hkeys (p.1 :: p.2) (fun x hx => (hrun p hp x hx).1)
    chain_of_keyed true keyOf p.1 p.2 (dedupMap_fixed _) hk.1 hk.2
  refine ⟨?_, ?_, ?_, ?_, ?_⟩
  · intro s hs
    obtain ⟨p, hp, hsp⟩ := mem_runs_join.mp ((delivered_iff hm).mpr hs)
    refine ⟨_, List.mem_map_of_mem hp, ?_, fun c hc => ((hchain p hp).2.1 c).mpr (List.mem_flatMap.mpr ⟨s, hsp, hc⟩)⟩
    rw [chain_lbls]; exact (hrun p hp s hsp).2
  · exact List.forall_mem_map.mpr fun p hp => ⟨p.1, (hrun p hp p.1 List.mem_cons_self).1, chain_lbls ..⟩
  · exact List.forall_mem_map.mpr fun p hp => (hchain p hp).1
  · exact List.forall_mem_map.mpr fun p hp => (hchain p hp).2.2
  · refine List.forall_mem_map.mpr fun p hp c hc => ?_
    obtain ⟨x, hx, hcx⟩ := List.mem_flatMap.mp (((hchain p hp).2.1 c).mp hc)
    exact ⟨x, (hrun p hp x hx).1, by rw [chain_lbls]; exact (hrun p hp x hx).2, hcx⟩

/-- … and lists them strictly increasing by labels: all that C03 says of an answer, and enough to determine it
    (`answer_unique`) -/
structure IsAnswer (D : Series → Prop) (out : List Series) : Prop extends ExactOf D out where
  sorted : out.Pairwise (fun a b => cmpLabels a.lbls b.lbls = .lt)

theorem pairwise_lt_member_unique {l : List Series} (h : l.Pairwise (fun a b => cmpLabels a.lbls b.lbls = .lt))
    {a b : Series} (ha : a ∈ l) (hb : b ∈ l) (he : a.lbls = b.lbls) : a = b :=
  inj_of_nodup_map (f := (·.lbls))
    (List.pairwise_map.mpr (h.imp fun hlt he => by rw [he, lawful_labels.refl] at hlt; cases hlt)) ha hb he

theorem IsAnswer.mem_chunks {D : Series → Prop} {out : List Series} (a : IsAnswer D out) {o : Series} (ho : o ∈ out)
    (c : Chunk) : c ∈ o.chunks ↔ ∃ s, D s ∧ cmpLabels o.lbls s.lbls = .eq ∧ c ∈ s.chunks := by
  refine ⟨a.sound o ho c, fun ⟨s, hs, hl, hc⟩ => ?_⟩
  -- the answer series that carries the chunks of `s` has the labels of `o`, so it is `o`
  obtain ⟨o', ho', hl', hall⟩ := a.complete s hs
  rw [pairwise_lt_member_unique a.sorted ho ho' ((lawful_labels.eq _ _ hl).trans (lawful_labels.eq _ _ hl').symm)]
  exact hall c hc

/-- the answer is a function of the set of delivered series, when the delivered chunks are told apart
    by their visible content -/
theorem answer_unique {D : Series → Prop} {out1 out2 : List Series} (a1 : IsAnswer D out1) (a2 : IsAnswer D out2)
    (hvis : ∀ c d, (∃ s, D s ∧ c ∈ s.chunks) → (∃ s, D s ∧ d ∈ s.chunks) → ckey c = ckey d → c = d) :
    out1 = out2 := by
  -- a series of one answer is a series of the other: the one with its labels has the same chunk set, sorted the same way
  have half : ∀ {outa outb : List Series}, IsAnswer D outa → IsAnswer D outb →
      ∀ o ∈ outa, o ∈ outb := by
    intro outa outb a b oa hoa
    obtain ⟨s, hsd, hsl⟩ := a.lbls oa hoa
    obtain ⟨ob, hob, hobl, _⟩ := b.complete s hsd
    have hlbl : ob.lbls = oa.lbls := by rw [lawful_labels.eq _ _ hobl, hsl]
    have hchunks : oa.chunks = ob.chunks := by
      apply sorted_unique _ _ (a.chunksSorted oa hoa) (b.chunksSorted ob hob) (a.nodup oa hoa) (b.nodup ob hob)
        (fun c => (a.mem_chunks hoa c).trans (hlbl ▸ (b.mem_chunks hob c).symm))
      intro c hc d hd hk
      obtain ⟨sc, hscd, _, hcsc⟩ := a.sound oa hoa c hc
      obtain ⟨sd, hsdd, _, hdsd⟩ := a.sound oa hoa d hd
      exact hvis c d ⟨sc, hscd, hcsc⟩ ⟨sd, hsdd, hdsd⟩ hk
    have : oa = ob := by
      cases oa; cases ob
      simp only at hlbl hchunks
      rw [hlbl, hchunks]
    rw [this]; exact hob
  exact eq_of_pairwise_of_mem_iff (fun a b hab hba => by rw [(lawful_labels.swap _ _).mp hba] at hab; cases hab)
    a1.sorted a2.sorted (fun x => ⟨half a1 a2 x, half a2 a1 x⟩)

end Thanos.Merge
