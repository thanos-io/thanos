import Thanos.Model.CacheKeys
import Thanos.Lemmas.ListFacts
/-
  A key string is a concatenation of fields.  A field is read back uniquely when it is free of the
  delimiter that follows it (`split_at`), ends where a class of characters ends (`span_unique`), or
  is a prefix code (`QuoteCode.prefixFree`, `matcherString_prefix`); numerals are injective.
  Last, the matchers cache behind singleflight: whose conversion a caller gets, in terms of the two
  keys alone (`runFlights_keys`).
-/
namespace Thanos.CacheKeys

theorem decimalF_succ : ∀ f n, n ≤ f → decimalF (f + 1) n = decimalF f n
  | 0, n, h => by
    rw [Nat.le_zero.mp h]
    rfl
  | f + 1, n, h => by
    rw [decimalF, decimalF.eq_2 n f]
    split
    · rfl
    · rw [decimalF_succ f (n / 10) (by omega)]

theorem decimalF_fuel {f n : Nat} (h : n ≤ f) : decimalF f n = decimal n := by
  induction h with
  | refl => rfl
  | step h ih => rw [decimalF_succ _ _ h, ih]

theorem decimal_eq (n : Nat) :
    decimal n = if n < 10 then [48 + n] else decimal (n / 10) ++ [48 + n % 10] := by
  cases n with
  | zero => rfl
  | succ n => rw [decimal, decimalF, decimalF_fuel (by omega)]

/-- not used below -/
theorem decimal_ne_nil (n : Nat) : decimal n ≠ [] := by
  rw [decimal_eq]; split <;> simp

theorem decimal_digits (n : Nat) : ∀ c ∈ decimal n, 48 ≤ c ∧ c ≤ 57 := by
  induction n using Nat.strongRecOn with
  | _ n ih =>
    rw [decimal_eq]
    split
    · intro c hc; simp at hc; omega
    · intro c hc
      simp only [List.mem_append, List.mem_singleton] at hc
      rcases hc with hc | hc
      · exact ih (n / 10) (by omega) c hc
      · omega

theorem decimal_no_colon (n : Nat) : cColon ∉ decimal n := by
  intro hc
  have := decimal_digits n _ hc
  simp only [cColon] at this
  omega

/-- reading the numeral back (`strconv.ParseUint`) gives the number -/
theorem decimal_value (n : Nat) : (decimal n).foldl (fun a c => a * 10 + (c - 48)) 0 = n := by
  induction n using Nat.strongRecOn with
  | _ n ih =>
    rw [decimal_eq]
    split
    · simp
    · rw [List.foldl_append, ih (n / 10) (by omega)]
      simp only [List.foldl_cons, List.foldl_nil]
      omega

theorem decimal_inj {n m : Nat} (h : decimal n = decimal m) : n = m := by
  rw [← decimal_value n, h, decimal_value]

theorem MatchType.str_inj {t1 t2 : MatchType} (h : t1.str = t2.str) : t1 = t2 := by
  cases t1 <;> cases t2 <;> first | rfl | exact absurd h (by decide)

theorem typeStr_delim {d : Nat} (hd : ∀ t : MatchType, d ∉ t.str) {t1 t2 : MatchType} {x y : Str}
    (h : t1.str ++ d :: x = t2.str ++ d :: y) : t1 = t2 ∧ x = y :=
  (split_at (hd t1) (hd t2) h).imp_left MatchType.str_inj

/-- what the theorems need of `strconv.Quote`: the result starts with '"', and it is a uniquely
    decodable prefix code (reading a quoted string from the left ends at its closing quote). -/
structure QuoteCode (quote : Str → Str) : Prop where
  starts : ∀ s, ∃ t, quote s = cQuote :: t
  prefixFree : ∀ a b r s, quote a ++ r = quote b ++ s → a = b ∧ r = s

theorem legacyChar_true_false {c : Nat} (h : legacyChar true c = true) : legacyChar false c = true := by
  simp only [legacyChar, Bool.or_eq_true] at h ⊢
  -- the digit clause is switched off in first position
  exact .inl (h.resolve_right (by simp))

theorem legacyTail_eq_all : ∀ s : Str, legacyTail s = s.all (legacyChar false)
  | [] => rfl
  | c :: cs => by rw [legacyTail, legacyTail_eq_all cs, List.all_cons]

theorem unquoted_name {n : Str} (h : shouldQuoteName n = false) :
    (∃ c cs, n = c :: cs ∧ legacyChar true c = true) ∧ ∀ c ∈ n, legacyChar false c = true := by
  cases n with
  | nil => cases h
  | cons c cs =>
    simp only [shouldQuoteName, Bool.not_eq_false', Bool.and_eq_true, legacyTail_eq_all, List.all_eq_true] at h
    exact ⟨⟨c, cs, rfl, h.1⟩, List.forall_mem_cons.mpr ⟨legacyChar_true_false h.1, h.2⟩⟩

/-- in the shape `span_unique` asks of what follows a field, for `p := (legacyChar false · = true)` -/
theorem typeStr_head_not_legacy (t : MatchType) (x : Str) :
    ∀ c, (t.str ++ x).head? = some c → ¬ (legacyChar false c = true) := by
  intro c hc
  cases t <;> cases hc <;> decide

/-- a name printed as it is and a quoted one differ in the first character -/
theorem unquoted_ne_quoted {quote : Str → Str} (hq : QuoteCode quote) {n n' : Str} (h : shouldQuoteName n = false)
    {r s : Str} : n ++ r ≠ quote n' ++ s := by
  obtain ⟨⟨c, cs, rfl, hc⟩, _⟩ := unquoted_name h
  obtain ⟨q, hq'⟩ := hq.starts n'
  rw [hq']
  intro he
  cases (List.cons.inj he).1
  exact absurd hc (by decide)

theorem matcherString_prefix {quote : Str → Str} (hq : QuoteCode quote) {m1 m2 : Matcher} {r1 r2 : Str}
    (h : matcherString quote m1 ++ r1 = matcherString quote m2 ++ r2) : m1 = m2 ∧ r1 = r2 := by
  obtain ⟨t1, n1, v1⟩ := m1
  obtain ⟨t2, n2, v2⟩ := m2
  simp only [matcherString, List.append_assoc] at h
  have hv : ∀ v r, ∃ q, quote v ++ r = cQuote :: q := fun v r =>
    (hq.starts v).elim fun t ht => ⟨t ++ r, by rw [ht]; rfl⟩
  -- once the names are read, the operator ends at the value's opening quote and the value at its closing quote
  have finish : n1 = n2 → t1.str ++ (quote v1 ++ r1) = t2.str ++ (quote v2 ++ r2) →
      Matcher.mk t1 n1 v1 = Matcher.mk t2 n2 v2 ∧ r1 = r2 := by
    intro hn h'
    obtain ⟨q1, e1⟩ := hv v1 r1
    obtain ⟨q2, e2⟩ := hv v2 r2
    rw [e1, e2] at h'
    obtain ⟨ht, rfl⟩ := typeStr_delim (d := cQuote) (fun t => by cases t <;> decide) h'
    obtain ⟨hvv, hr⟩ := hq.prefixFree _ _ _ _ (e1.trans e2.symm)
    rw [hn, ht, hvv]
    exact ⟨rfl, hr⟩
  cases h1 : shouldQuoteName n1 <;> cases h2 : shouldQuoteName n2 <;> simp only [h1, h2, if_true, if_false, Bool.false_eq_true] at h
  · -- both names printed as they are: they end at the first character that is not a legacy character
    have := span_unique (fun c => legacyChar false c = true) (unquoted_name h1).2 (unquoted_name h2).2
      (typeStr_head_not_legacy t1 _) (typeStr_head_not_legacy t2 _) h
    exact finish this.1 this.2
  · exact absurd h (unquoted_ne_quoted hq h1)
  · exact absurd h.symm (unquoted_ne_quoted hq h2)
  · obtain ⟨hn, h'⟩ := hq.prefixFree _ _ _ _ h
    exact finish hn h'

theorem matcherString_ne_nil (quote : Str → Str) (m : Matcher) : matcherString quote m ≠ [] :=
  List.append_ne_nil_of_left_ne_nil
    (List.append_ne_nil_of_right_ne_nil _ (by cases m.type <;> exact List.cons_ne_nil _ _)) _

theorem lms_cons (quote : Str → Str) (m : Matcher) (ms : List Matcher) :
    labelMatchersToString quote (m :: ms) =
      matcherString quote m ++ if ms = [] then [] else cSemi :: labelMatchersToString quote ms := by
  cases ms <;> simp [labelMatchersToString]

theorem labelMatchersToString_inj {quote : Str → Str} (hq : QuoteCode quote) (ms1 ms2 : List Matcher)
    (h : labelMatchersToString quote ms1 = labelMatchersToString quote ms2) : ms1 = ms2 := by
  have hne : ∀ m ms, labelMatchersToString quote (m :: ms) ≠ [] := fun m ms h =>
    matcherString_ne_nil quote m (List.append_eq_nil_iff.mp (lms_cons quote m ms ▸ h)).1
  induction ms1 generalizing ms2 with
  | nil =>
    cases ms2 with
    | nil => rfl
    | cons m ms => exact absurd h.symm (hne m ms)
  | cons m1 ms1 ih =>
    cases ms2 with
    | nil => exact absurd h (hne m1 ms1)
    | cons m2 ms2 =>
      rw [lms_cons, lms_cons] at h
      obtain ⟨rfl, hr⟩ := matcherString_prefix hq h
      -- what follows the first matcher is empty on both sides or starts with `;` on both
      by_cases h1 : ms1 = [] <;> by_cases h2 : ms2 = []
      · rw [h1, h2]
      · rw [if_pos h1, if_neg h2] at hr; cases hr
      · rw [if_neg h1, if_pos h2] at hr; cases hr
      · rw [if_neg h1, if_neg h2] at hr
        rw [ih ms2 (List.tail_eq_of_cons_eq hr)]

theorem compSuffix_inj {c1 c2 : Str} (h : compSuffix c1 = compSuffix c2) : c1 = c2 := by
  unfold compSuffix at h
  by_cases h1 : c1 = [] <;> by_cases h2 : c2 = [] <;> simp_all

/-- the suffix is empty or starts with ':' — `¬ (· ≠ ·)` because `span_unique` is used with `p := (· ≠ cColon)` -/
theorem compSuffix_head (c : Str) : ∀ x, (compSuffix c).head? = some x → ¬ (x ≠ cColon) := by
  intro x hx
  unfold compSuffix at hx
  by_cases h : c = [] <;> simp_all

/-! ### LruMatchersCache.GetOrSet: whose conversion a caller gets -/

/-- every entry of the LRU cache was stored under the key of its own matcher -/
def MHonest (lruKey : Matcher → Str) (c : MCache) : Prop := ∀ k x, c.lookup k = some x → k = lruKey x

theorem lookup_filter_key (p : Str → Bool) : ∀ (c : MCache) (k : Str),
    (c.filter fun e => p e.1).lookup k = if p k then c.lookup k else none
  | [], k => by simp
  | (ek, ex) :: c, k => by
    have ih := lookup_filter_key p c k
    cases hp : p ek with
    | true =>
      rw [List.filter_cons_of_pos (by exact hp), List.lookup_cons, List.lookup_cons, ih]
      cases hk : k == ek with
      | true => rw [eq_of_beq hk, hp]; rfl
      | false => rfl
    | false =>
      rw [List.filter_cons_of_neg (by simp [hp]), ih, List.lookup_cons]
      cases hk : k == ek with
      | true => rw [eq_of_beq hk, hp]; rfl
      | false => rfl

theorem MHonest.evict {lruKey : Matcher → Str} {c : MCache} (hc : MHonest lruKey c) (k : Str) :
    MHonest lruKey (c.filter fun e => e.1 != k) := by
  intro k' x h
  rw [lookup_filter_key (· != k)] at h
  split at h
  · exact hc k' x h
  · cases h

/-- a hit was stored under the key of what it holds, a miss is answered with the leader itself -/
theorem leaderResult_honest {lruKey : Matcher → Str} {c : MCache} (hc : MHonest lruKey c) (l : Matcher) :
    lruKey (leaderResult lruKey c l).1 = lruKey l ∧ MHonest lruKey (leaderResult lruKey c l).2 := by
  unfold leaderResult
  cases hlk : c.lookup (lruKey l) with
  | some x => exact ⟨(hc _ x hlk).symm, hc⟩
  | none =>
    refine ⟨rfl, ?_⟩
    intro k x hk
    rw [List.lookup_cons] at hk
    cases hb : k == lruKey l with
    | true => rw [hb] at hk; cases hk; exact eq_of_beq hb
    | false => rw [hb] at hk; exact hc k x hk

/-- For ANY two key functions, neither needs to be injective: with both injective the answer is the caller's own
    matcher (`C13_inflight_of_injective`); in general only matchers that a key conflates can answer for each other
    (as they do in `C13_inflight_value_false`). -/
theorem runFlights_keys (lruKey sfKey : Matcher → Str) (es : List MEvent) : ∀ c : MCache,
    MHonest lruKey c → FlightsOK sfKey es →
      ∀ p ∈ runFlights lruKey c es, ∃ l, sfKey l = sfKey p.1 ∧ lruKey p.2 = lruKey l := by
  induction es with
  | nil => exact fun _ _ _ _ hp => nomatch hp
  | cons e es ih =>
    intro c hc hok p hp
    cases e with
    | evict k => exact ih _ (hc.evict k) hok p hp
    | flight l fs =>
      obtain ⟨hans, hc'⟩ := leaderResult_honest hc l
      rcases List.mem_append.mp hp with hp | hp
      · -- every caller of the flight has the leader's singleflight key and receives the leader's answer
        obtain ⟨m, hm, rfl⟩ := List.mem_map.mp hp
        refine ⟨l, ?_, hans⟩
        rcases List.mem_cons.mp hm with rfl | hm
        · rfl
        · exact (hok.1 m hm).symm
      · exact ih _ hc' hok.2 p hp

end Thanos.CacheKeys
