/-
  Sorting with `List.mergeSort` by `(cmp · ·).isLE` for a transitive comparison `cmp`: the result is
  sorted, and when `cmp` answers `.eq` only on equal elements it depends on the multiset alone.
-/
namespace Thanos
open Std

theorem isLE_total {α} (cmp : α → α → Ordering) [OrientedCmp cmp] (a b : α) :
    ((cmp a b).isLE || (cmp b a).isLE) = true := by
  rw [OrientedCmp.eq_swap (cmp := cmp) (a := a) (b := b)]
  cases cmp b a <;> rfl

theorem pairwise_mergeSort_isLE {α} (cmp : α → α → Ordering) [TransCmp cmp] (l : List α) :
    (l.mergeSort fun a b => (cmp a b).isLE).Pairwise fun a b => (cmp a b).isLE = true :=
  List.pairwise_mergeSort (le := fun a b => (cmp a b).isLE) (fun _ _ _ => TransCmp.isLE_trans) (isLE_total cmp) l

theorem mergeSort_eq_of_perm {α} (cmp : α → α → Ordering) [TransCmp cmp] [LawfulEqCmp cmp] {la lb : List α}
    (h : la.Perm lb) :
    la.mergeSort (fun a b => (cmp a b).isLE) = lb.mergeSort (fun a b => (cmp a b).isLE) :=
  List.Perm.eq_of_pairwise (le := fun a b => (cmp a b).isLE = true)
    (fun _ _ _ _ h1 h2 => LawfulEqCmp.eq_of_compare (OrientedCmp.isLE_antisymm h1 h2))
    (pairwise_mergeSort_isLE cmp la) (pairwise_mergeSort_isLE cmp lb)
    ((List.mergeSort_perm la _).trans (h.trans (List.mergeSort_perm lb _).symm))

end Thanos
