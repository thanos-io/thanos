import Thanos.Model.GateId
import Thanos.Lemmas.Gate
/-
  C24: one gate per loaded configuration.  The gates are built in epoch order (`WFE`), so the
  requests admitted under one epoch sit in one gate.  `LInv`: every gate built so far satisfies
  `Inv` at the loaded capacity; the steps of the limiter as the code has it (`lstep false false
  false`) and the wake-ups keep it, and a script step is at most one step followed by the wake-ups
  (`lscriptStep_eq`).  `LInv.safe` is what C24 asks of a limiter state.
-/
namespace Thanos.Gate

/-- the gates carry the epochs `base + 1, base + 2, …` in list order -/
def WFE : Nat → List GateRec → Prop
  | _, [] => True
  | base, g :: gs => g.epoch = base + 1 ∧ WFE (base + 1) gs

theorem wfe_append {base : Nat} {gs : List GateRec} (h : WFE base gs) (st : St) :
    WFE base (gs ++ [⟨base + gs.length + 1, st⟩]) := by
  induction gs generalizing base with
  | nil => simp [WFE]
  | cons g gs ih =>
    exact ⟨h.1, by simpa [Nat.add_assoc, Nat.add_comm 1] using ih h.2⟩

theorem wfe_set {base : Nat} {gs : List GateRec} (h : WFE base gs) {i : Nat} {r r' : GateRec}
    (hi : gs[i]? = some r) (he : r'.epoch = r.epoch) : WFE base (gs.set i r') := by
  induction gs generalizing base i with
  | nil => cases hi
  | cons g gs ih =>
    cases i with
    | zero =>
      cases hi
      exact ⟨he.trans h.1, h.2⟩
    | succ i => exact ⟨h.1, ih h.2 hi⟩

theorem wfe_getElem {base : Nat} {gs : List GateRec} (h : WFE base gs) {i : Nat} {r : GateRec}
    (hi : gs[i]? = some r) : r.epoch = base + i + 1 := by
  induction gs generalizing base i with
  | nil => cases hi
  | cons g gs ih =>
    cases i with
    | zero => cases hi; exact h.1
    | succ i => exact (ih h.2 hi).trans (by omega)

theorem wfe_wakeAll {base : Nat} {gs : List GateRec} (h : WFE base gs) : WFE base (wakeAll false gs) := by
  induction gs generalizing base with
  | nil => exact h
  | cons g gs ih => exact ⟨h.1, ih h.2⟩

/-- `runningIn` for a list of gates: epochs increase along the list, so at most one gate has epoch `ep`
    and the sum is that gate's `running`.  The second conjunct (no gate of an epoch up to `base`) is what
    the induction needs of the tail. -/
theorem sum_epoch_le {cap : Nat} (ep base : Nat) (gs : List GateRec) (h : WFE base gs)
    (hr : ∀ r, r ∈ gs → r.st.running ≤ cap) :
    (gs.map fun r => if r.epoch = ep then r.st.running else 0).sum ≤ cap ∧
    (ep ≤ base → (gs.map fun r => if r.epoch = ep then r.st.running else 0).sum = 0) := by
  induction gs generalizing base with
  | nil => exact ⟨Nat.zero_le _, fun _ => rfl⟩
  | cons g gs ih =>
    obtain ⟨hg, hgs⟩ := List.forall_mem_cons.1 hr
    obtain ⟨i1, i2⟩ := ih (base + 1) h.2 hgs
    rw [List.map_cons, List.sum_cons]
    by_cases he : g.epoch = ep
    · -- the later gates have later epochs
      rw [if_pos he, i2 (he ▸ Nat.le_of_eq h.1)]
      exact ⟨hg, fun hle => absurd (Nat.le_trans (Nat.le_of_eq (h.1.symm.trans he)) hle) (Nat.not_succ_le_self base)⟩
    · rw [if_neg he, Nat.zero_add]
      exact ⟨i1, fun hle => i2 (Nat.le_succ_of_le hle)⟩

/-- Four conjuncts: (1) the gates carry the epochs 1, 2, … in order; (2) there are `epoch` of them; (3) no lazy
    build is under way; (4) every gate satisfies `Inv` and has the loaded capacity. -/
def LInv (l : Lim) : Prop :=
  WFE 0 l.gates ∧ l.gates.length = l.epoch ∧ l.builders = 0 ∧
  (∀ r, r ∈ l.gates → Inv r.st ∧ r.st.cap = l.cap)

theorem linv_stepGate {l : Lim} (h : LInv l) (g : Nat) (e : Ev) :
    LInv { l with gates := stepGate false l.gates g e } := by
  obtain ⟨h1, h2, h3, h4⟩ := h
  unfold stepGate
  cases hg : l.gates[g]? with
  | none => exact ⟨h1, h2, h3, h4⟩
  | some r =>
    have hr : r ∈ l.gates := List.mem_of_getElem? hg
    refine ⟨wfe_set h1 hg rfl, by simpa using h2, h3, ?_⟩
    intro x hx
    rcases List.mem_or_eq_of_mem_set hx with hx | rfl
    · exact h4 x hx
    · exact ⟨inv_step (h4 r hr).1 e, by simp only [step_cap]; exact (h4 r hr).2⟩

theorem linv_step {l : Lim} (h : LInv l) (e : LEv) : LInv (lstep false false false l e) := by
  cases e with
  | load =>
    obtain ⟨h1, h2, h3, h4⟩ := h
    simp only [lstep, Bool.false_eq_true, if_false]
    refine ⟨?_, by simp [h2], h3, List.forall_mem_append.2 ⟨h4, List.forall_mem_singleton.2 ⟨inv_init l.cap, rfl⟩⟩⟩
    simpa [h2] using wfe_append h1 (St.init l.cap)
  | arrive =>
    simp only [lstep]
    cases l.stored with
    | none => simpa using h
    | some g => exact linv_stepGate h g .arrive
  | arriveDead =>
    simp only [lstep]
    cases l.stored with
    | none => exact h
    | some g => exact linv_stepGate h g .arriveCancelled
  | build => simpa [lstep] using h
  | on g e =>
    simp only [lstep, Bool.false_eq_true, false_and, if_false]
    split
    · exact h
    · exact linv_stepGate h g e

theorem linv_init (cap : Nat) : LInv (Lim.init cap) := ⟨trivial, rfl, rfl, fun _ hr => nomatch hr⟩

theorem linv_run (cap : Nat) (evs : List LEv) : LInv (lrun false false false cap evs) :=
  List.foldlRecOn evs _ (linv_init cap) fun _ hl e _ => linv_step hl e

theorem lstep_cap (lazy df rl : Bool) (l : Lim) (e : LEv) : (lstep lazy df rl l e).cap = l.cap := by
  cases e with
  | arrive =>
    rw [lstep]
    cases l.stored <;> simp only [apply_ite Lim.cap, ite_self]
  | arriveDead =>
    rw [lstep]
    cases l.stored <;> rfl
  | _ => simp only [lstep, apply_ite Lim.cap, ite_self]

theorem lrun_cap (lazy df rl : Bool) (cap : Nat) (evs : List LEv) : (lrun lazy df rl cap evs).cap = cap :=
  List.foldlRecOn (motive := fun l => l.cap = cap) evs _ rfl fun l h e _ => (lstep_cap lazy df rl l e).trans h

/-- what `C24_limiter_full` asks, of any limiter state with the invariant (those of `linv_run`, `linv_script`): the
    requests of one epoch are within the capacity (they sit in one gate), every gate is `Safe`, no two gates have the
    same epoch -/
theorem LInv.safe {l : Lim} (h : LInv l) {cap : Nat} (hl : l.cap = cap) (hc : 1 ≤ cap) :
    (∀ ep, runningIn l ep ≤ cap) ∧ (∀ r, r ∈ l.gates → Safe r.st) ∧
    (∀ (i j : Nat) (ri rj : GateRec), l.gates[i]? = some ri → l.gates[j]? = some rj → ri.epoch = rj.epoch → i = j) := by
  obtain ⟨h1, _, _, h4⟩ := h
  refine ⟨fun ep => (sum_epoch_le ep 0 _ h1 fun r hr => ?_).1, fun r hr => (h4 r hr).1.safe, ?_⟩
  · have hrc : r.st.cap = cap := (h4 r hr).2.trans hl
    exact hrc ▸ ((h4 r hr).1.safe.1 (hrc ▸ hc)).1
  · intro i j ri rj hi hj he
    exact Nat.add_left_cancel (Nat.add_right_cancel
      ((wfe_getElem h1 hi).symm.trans (he.trans (wfe_getElem h1 hj))))

theorem linv_wakeAll {l : Lim} (h : LInv l) : LInv { l with gates := wakeAll false l.gates } := by
  obtain ⟨h1, h2, h3, h4⟩ := h
  refine ⟨wfe_wakeAll h1, by simpa [wakeAll] using h2, h3, List.forall_mem_map.2 fun r hr => ?_⟩
  exact ⟨inv_wake (h4 r hr).1, (wake_cap false _ r.st).trans (h4 r hr).2⟩

/-- whatever the flags: every arm of `lscriptStep` is `l` itself or `lstep … l` of one event -/
theorem lscriptStep_eq (lazy df rl : Bool) (l : Lim) (e : SEv) :
    ∃ l', (l' = l ∨ ∃ ev, l' = lstep lazy df rl l ev) ∧
      lscriptStep lazy df rl l e = { l' with gates := wakeAll df l'.gates } := by
  refine ⟨_, ?_, rfl⟩
  cases e <;> dsimp only <;> repeat' split
  all_goals first | exact .inr ⟨_, rfl⟩ | exact .inl rfl

end Thanos.Gate
