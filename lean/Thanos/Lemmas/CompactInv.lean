import Thanos.Lemmas.CompactProto
/-
  The two invariants of the protocol model (C34, C29) and their preservation.  `Inv`: ids are fresh and distinct,
  source sets sorted, every marked block has an unmarked cover (`witness`), and what a gateway has loaded is in the
  bucket with marks young enough and holds the samples it knew at its last sync — kept by each shape of update
  (`inv_add`, `inv_setMark`, `inv_clean`, `inv_setGw`), hence by every step (`step_inv_le`).  `Lam`: the source sets form a
  laminar family — kept by an added block that covers or misses every old one (`lam_add`); for a compaction result that
  needs `Inv` (`view_maximal`), so `step_lam` assumes it.  `run_inv` carries both along a run.  What the property files
  read: `live_cover`, `chain_complete` and the gateway clauses of `Inv`; `view_disjoint` of `Inv` with `Lam`.
-/
namespace Thanos.CompactProto

structure Inv (P : Params) (s : State) : Prop where
  ids_lt    : ∀ b ∈ s.blocks, b.id < s.nextId
  ids_nodup : s.blocks.Pairwise (fun a b => a.id ≠ b.id)
  src_sorted : ∀ b ∈ s.blocks, b.sources.Pairwise (· < ·)
  /-- every block marked for deletion has an unmarked block that holds all its samples and comes
      before it in the duplicate filter's order -/
  witness   : ∀ b ∈ s.blocks, b.mark ≠ none →
                ∃ u ∈ s.blocks, u.mark = none ∧ covers u b = true ∧ beats P.levelTie u b = true
  gw_time   : ∀ g ∈ s.gws, g.lastSync ≤ s.now ∧ s.now ≤ g.lastSync + P.lag
  /-- a loaded block is in the bucket, and if it is marked, the mark was young enough at the sync
      or was placed after it -/
  gw_loaded : ∀ g ∈ s.gws, ∀ i ∈ g.loaded, ∃ b ∈ s.blocks, b.id = i ∧
                ∀ t, b.mark = some t → g.lastSync ≤ t + P.ignoreDelay
  /-- every sample of the bucket at the last sync is in a block that is loaded and still in the bucket:
      C34 is this clause (`Inv.gw_serves`) -/
  gw_known  : ∀ g ∈ s.gws, ∀ x ∈ g.known, ∃ b ∈ s.blocks, b.id ∈ g.loaded ∧ x ∈ b.sources

/-- the three gateway clauses of `Inv` for one gateway record -/
def GwOk (P : Params) (s : State) (g : Gw) : Prop :=
  (g.lastSync ≤ s.now ∧ s.now ≤ g.lastSync + P.lag) ∧
  (∀ i ∈ g.loaded, ∃ b ∈ s.blocks, b.id = i ∧ ∀ t, b.mark = some t → g.lastSync ≤ t + P.ignoreDelay) ∧
  (∀ x ∈ g.known, ∃ b ∈ s.blocks, b.id ∈ g.loaded ∧ x ∈ b.sources)

theorem Inv.gw {P : Params} {s : State} (hi : Inv P s) : ∀ g ∈ s.gws, GwOk P s g :=
  fun g hg => ⟨hi.gw_time g hg, hi.gw_loaded g hg, hi.gw_known g hg⟩

theorem inv_add {P : Params} {s : State} {nb : Blk} (hi : Inv P s) (hid : nb.id = s.nextId)
    (hm : nb.mark = none) (hs : nb.sources.Pairwise (· < ·)) :
    Inv P { s with blocks := s.blocks ++ [nb], nextId := s.nextId + 1 } where
  ids_lt := List.forall_mem_append.mpr ⟨fun b hb => Nat.lt_succ_of_lt (hi.ids_lt b hb),
    List.forall_mem_singleton.mpr (hid ▸ Nat.lt_succ_self _)⟩
  ids_nodup := List.pairwise_append.mpr ⟨hi.ids_nodup, List.pairwise_singleton _ _, fun a ha b hb => by
    rw [List.mem_singleton.mp hb, hid]
    exact Nat.ne_of_lt (hi.ids_lt a ha)⟩
  src_sorted := List.forall_mem_append.mpr ⟨hi.src_sorted, List.forall_mem_singleton.mpr hs⟩
  witness := List.forall_mem_append.mpr ⟨fun b hb hmk => (hi.witness b hb hmk).imp fun _ h => ⟨List.mem_append_left _ h.1, h.2⟩,
    List.forall_mem_singleton.mpr (absurd hm)⟩
  gw_time := hi.gw_time
  gw_loaded g hg i hi' := (hi.gw_loaded g hg i hi').imp fun _ h => ⟨List.mem_append_left _ h.1, h.2⟩
  gw_known g hg x hx := (hi.gw_known g hg x hx).imp fun _ h => ⟨List.mem_append_left _ h.1, h.2⟩

theorem inv_setMark {P : Params} {s : State} {bb : Blk} (hi : Inv P s) (hbb : bb ∈ s.blocks)
    (hw : ∃ u ∈ s.blocks, u.mark = none ∧ covers u bb = true ∧ beats P.levelTie u bb = true) :
    Inv P { s with blocks := setMark bb.id s.now s.blocks } := by
  have only : ∀ c ∈ s.blocks, c.id = bb.id → c = bb := fun c hc => eq_of_id_eq hi.ids_nodup hc hbb
  -- an unmarked witness survives, unless it is `bb`: then `bb`'s own witness takes over
  have lift : ∀ c, (∃ u ∈ s.blocks, u.mark = none ∧ covers u c = true ∧ beats P.levelTie u c = true) →
      ∃ u ∈ setMark bb.id s.now s.blocks, u.mark = none ∧ covers u c = true ∧ beats P.levelTie u c = true := by
    rintro c ⟨u, hu, h1, h2, h3⟩
    by_cases hui : u.id = bb.id
    · obtain ⟨w, hwm, hwl, hwc, hwb⟩ := hw
      have hwi : w.id ≠ bb.id := fun h => by
        rw [only w hwm h, beats_irrefl] at hwb
        cases hwb
      rw [only u hu hui] at h2 h3
      exact ⟨w, mem_setMark.mpr ⟨w, hwm, by simp [hwi]⟩, hwl, covers_trans hwc h2, beats_trans hwb h3⟩
    · exact ⟨u, mem_setMark.mpr ⟨u, hu, by simp [hui]⟩, h1, h2, h3⟩
  refine ⟨forall_mem_setMark.mpr hi.ids_lt, setMark_id_pairwise hi.ids_nodup, forall_mem_setMark.mpr hi.src_sorted,
    forall_mem_setMark.mpr fun c hc hmk => lift c ?_, hi.gw_time, ?_, ?_⟩
  · by_cases hci : c.id = bb.id
    · rw [only c hc hci]
      exact hw
    · simp only [hci, if_false] at hmk
      exact hi.witness c hc hmk
  · intro g hg j hj
    obtain ⟨b, hb, h1, h2⟩ := hi.gw_loaded g hg j hj
    refine ⟨_, mem_setMark.mpr ⟨b, hb, rfl⟩, h1, fun t ht => ?_⟩
    split at ht
    · cases ht
      exact Nat.le_add_right_of_le (hi.gw_time g hg).1
    · exact h2 t ht
  · intro g hg x hx
    obtain ⟨b, hb, h⟩ := hi.gw_known g hg x hx
    exact ⟨_, mem_setMark.mpr ⟨b, hb, rfl⟩, h⟩

theorem inv_clean {P : Params} {s : State} (hP : P.ignoreDelay + P.lag ≤ P.deleteDelay ∨ s.gws = [])
    (hi : Inv P s) {t : Nat} {bb : Blk} (hbb : bb ∈ s.blocks) (ht : bb.mark = some t)
    (hold : s.now - t > P.deleteDelay) : Inv P { s with blocks := s.blocks.filter (fun c => c.id != bb.id) } := by
  have stays : ∀ c ∈ s.blocks, c ≠ bb → c ∈ s.blocks.filter (fun c => c.id != bb.id) := fun c hc hne =>
    List.mem_filter.mpr ⟨hc, bne_iff_ne.mpr fun h => hne (eq_of_id_eq hi.ids_nodup hc hbb h)⟩
  -- no gateway holds `bb` any more: a loaded block's mark is at most `ignoreDelay + lag` old
  have hloaded : ∀ g ∈ s.gws, bb.id ∉ g.loaded := by
    intro g hg hl
    obtain ⟨c, hc, hid, hmk⟩ := hi.gw_loaded g hg bb.id hl
    have h1 := hmk t (eq_of_id_eq hi.ids_nodup hc hbb hid ▸ ht)
    have h2 := (hi.gw_time g hg).2
    rcases hP with hP | hnil
    · omega
    · simp [hnil] at hg
  refine ⟨fun c hc => hi.ids_lt c (List.mem_filter.mp hc).1, hi.ids_nodup.sublist List.filter_sublist,
    fun c hc => hi.src_sorted c (List.mem_filter.mp hc).1, ?_, hi.gw_time, ?_, ?_⟩
  · intro c hc hmk
    obtain ⟨u, hu, h1, h⟩ := hi.witness c (List.mem_filter.mp hc).1 hmk
    exact ⟨u, stays u hu (fun h0 => by simp [← h0, h1] at ht), h1, h⟩
  · intro g hg j hj
    obtain ⟨c, hc, h1, h2⟩ := hi.gw_loaded g hg j hj
    exact ⟨c, stays c hc (fun h0 => hloaded g hg (h0 ▸ h1 ▸ hj)), h1, h2⟩
  · intro g hg x hx
    obtain ⟨c, hc, h1, h2⟩ := hi.gw_known g hg x hx
    exact ⟨c, stays c hc (fun h0 => hloaded g hg (h0 ▸ h1)), h1, h2⟩

theorem inv_setGw {P : Params} {s : State} (hi : Inv P s) {g : Nat} {gw : Gw} (hgw : GwOk P s gw) :
    Inv P { s with gws := s.gws.set g gw } := by
  have h : ∀ g' ∈ s.gws.set g gw, GwOk P s g' := fun g' hg' => by
    rcases List.mem_or_eq_of_mem_set hg' with hold | rfl
    · exact hi.gw g' hold
    · exact hgw
  exact { hi with gw_time := fun g' hg' => (h g' hg').1, gw_loaded := fun g' hg' => (h g' hg').2.1,
                   gw_known := fun g' hg' => (h g' hg').2.2 }

theorem live_cover {P : Params} {s : State} (hi : Inv P s) {b : Blk} (hb : b ∈ s.blocks) :
    ∃ u ∈ s.blocks, u.mark = none ∧ covers u b = true := by
  by_cases hm : b.mark = none
  · exact ⟨b, hb, hm, covers_refl b⟩
  · obtain ⟨u, hu, h1, h2, _⟩ := hi.witness b hb hm
    exact ⟨u, hu, h1, h2⟩

/-- the filter chain shows a block for every sample of the bucket — of any state with `Inv`, for any parameters and
    any delay of the mark filter; `C29_served` is the case of a reachable state of the compactor alone -/
theorem chain_complete (P : Params) (s : State) (hi : Inv P s) (delay : Nat) (x : Nat)
    (hx : x ∈ allSources s.blocks) :
    ∃ k ∈ filterChain P.levelTie delay s.now s.blocks, x ∈ k.sources := by
  obtain ⟨b, hb, hxb⟩ := mem_allSources.mp hx
  obtain ⟨u, hu, hul, huc⟩ := live_cover hi hb
  obtain ⟨k, hk, hkc⟩ := filterChain_covers P.levelTie delay s.now s.blocks u hu (markOk_of_unmarked hul)
  exact ⟨k, hk, covers_iff.mp hkc (covers_iff.mp huc hxb)⟩

theorem syncedGw_ok {P : Params} {s : State} (hi : Inv P s) (stale : List Nat) : GwOk P s (syncedGw P s stale) := by
  refine ⟨⟨Nat.le_refl _, Nat.le_add_right _ _⟩, ?_, ?_⟩
  · intro j hj
    obtain ⟨k, hk, rfl⟩ := List.mem_map.mp hj
    obtain ⟨⟨hkb, hkm⟩, _⟩ := mem_filterChain.mp hk
    refine ⟨k, hkb, rfl, fun t ht => ?_⟩
    have := (markOk_some ht).mp hkm
    show s.now ≤ _
    omega
  · intro x hx
    obtain ⟨k, hk, hxk⟩ := chain_complete P s hi P.ignoreDelay x hx
    exact ⟨k, mem_of_mem_filterChain hk, List.mem_map.mpr ⟨k, hk, rfl⟩, hxk⟩

/-- `hP`: the sum of the gateways' ignore delay and sync lag does not exceed the delete delay (a block is cleaned only
    when its mark is OLDER than the delete delay, so equality is enough), or no gateway at all (C29: the compactor alone
    needs no condition on the delays); `hT`: the duplicate filter's order prefers the higher compaction level among
    equal source sets. -/
theorem step_inv_le (P : Params) (s s' : State) (hP : P.ignoreDelay + P.lag ≤ P.deleteDelay ∨ s.gws = [])
    (hT : P.levelTie = true) (a : Action) (hi : Inv P s) (h : step P s a = some s') : Inv P s' := by
  cases step_sound h with
  | ship => exact inv_add hi rfl rfl (by simp)
  | compact => exact inv_add hi rfl rfl (foldl_union_sorted (by simp))
  | markSource hbm hr hrm hc hl =>
    refine inv_setMark hi hbm ⟨_, hr, hrm, hc, ?_⟩
    rw [hT]
    exact beats_of_covers_level ((hi.src_sorted _ hbm).imp Nat.ne_of_lt) hc hl
  | gc hbd =>
    obtain ⟨⟨hbm, _⟩, hhid⟩ := mem_duplicates.mp hbd
    obtain ⟨p, hp, hpb, hpc⟩ := hiddenIn_iff.mp hhid
    have hpm := (mem_markView.mp hp).1
    refine inv_setMark hi hbm ?_
    -- the block that hides it, or if that one is marked, its witness
    by_cases hpl : p.mark = none
    · exact ⟨p, hpm, hpl, hpc, hpb⟩
    · obtain ⟨u, hu, h1, h2, h3⟩ := hi.witness p hpm hpl
      exact ⟨u, hu, h1, covers_trans h2 hpc, beats_trans h3 hpb⟩
  | clean hbm ht hold => exact inv_clean hP hi hbm ht hold
  | sync => exact inv_setGw hi (syncedGw_ok hi _)
  | tick hd =>
    exact { hi with gw_time := fun g hg =>
      ⟨Nat.le_add_right_of_le (hi.gw_time g hg).1, by simpa [gwOk] using List.all_eq_true.mp hd g hg⟩ }
  | failedUpload => exact { hi with ids_lt := fun b hb => Nat.lt_succ_of_lt (hi.ids_lt b hb) }
  | readFault => exact hi
  | syncLoad =>
    -- the loaded set after the first half of a sync is the whole view, exactly as after an atomic sync;
    -- what was loaded before and left the view is only kept on top of it (`stale`)
    exact inv_setGw hi (syncedGw_ok hi _)
  | @syncDrop _ gw hg =>
    -- dropping the stale blocks changes nothing the invariant speaks about
    exact inv_setGw hi (hi.gw gw (List.mem_of_getElem? hg))

/-- `step_inv_le` under the strict bound the property is stated with -/
theorem step_inv (P : Params) (s s' : State) (hP : P.ignoreDelay + P.lag < P.deleteDelay ∨ s.gws = [])
    (hT : P.levelTie = true) (a : Action) (hi : Inv P s) (h : step P s a = some s') : Inv P s' :=
  step_inv_le P s s' (hP.imp_left Nat.le_of_lt) hT a hi h

theorem init_inv (P : Params) (k : Nat) : Inv P (init k) := by
  have hg : ∀ g ∈ (init k).gws, g = { loaded := [], lastSync := 0, known := [] } := fun g hg =>
    (List.mem_replicate.mp hg).2
  refine ⟨by simp [init], by simp [init], by simp [init], by simp [init], ?_, ?_, ?_⟩
  · intro g h
    rw [hg g h]
    exact ⟨Nat.le_refl _, Nat.zero_le _⟩
  · intro g h i hi
    rw [hg g h] at hi
    cases hi
  · intro g h x hx
    rw [hg g h] at hx
    cases hx

theorem step_gws_nil (P : Params) (s s' : State) (a : Action) (hn : s.gws = []) (h : step P s a = some s') :
    s'.gws = [] := by
  cases step_sound h with
  | sync hg | syncLoad hg | syncDrop hg => simp [hn] at hg
  | _ => exact hn

def Disjoint (a b : Blk) : Prop := ∀ x, x ∈ a.sources → x ∈ b.sources → False

/-- the source sets of the bucket form a laminar family: any two blocks are nested or disjoint;
    every sample was shipped before -/
structure Lam (s : State) : Prop where
  src_lt  : ∀ b ∈ s.blocks, ∀ x ∈ b.sources, x < s.nextId
  laminar : ∀ a ∈ s.blocks, ∀ b ∈ s.blocks, covers a b = true ∨ covers b a = true ∨ Disjoint a b

theorem view_maximal {P : Params} {s : State} (hi : Inv P s) {m e : Blk}
    (hm : m ∈ compactorView P s) (he : e ∈ s.blocks) (hc : covers e m = true) : covers m e = true := by
  obtain ⟨⟨hmb, _⟩, hmh⟩ := mem_filterChain.mp hm
  -- an unmarked cover `u` of `e` is in the view and does not hide `m`, so it has just `m`'s sources
  obtain ⟨u, hu, hul, huc⟩ := live_cover hi he
  have hum : covers u m = true := covers_trans huc hc
  have hnb : beats P.levelTie u m = false := Bool.eq_false_iff.mpr fun hb =>
    Bool.eq_false_iff.mp hmh (hiddenIn_iff.mpr ⟨u, mem_markView.mpr ⟨hu, markOk_of_unmarked hul⟩, hb, hum⟩)
  exact covers_trans (covers_back_of_unbeaten ((hi.src_sorted m hmb).imp Nat.ne_of_lt) hum hnb) huc

/-- laminarity only looks at source sets -/
theorem Lam.of_sources {s s' : State} (hl : Lam s) (hn : s.nextId ≤ s'.nextId)
    (hsrc : ∀ b ∈ s'.blocks, ∃ c ∈ s.blocks, b.sources = c.sources) : Lam s' := by
  refine ⟨fun b hb x hx => ?_, fun a ha b hb => ?_⟩
  · obtain ⟨c, hc, e⟩ := hsrc b hb
    exact Nat.lt_of_lt_of_le (hl.src_lt c hc x (e ▸ hx)) hn
  · obtain ⟨a', ha', ea⟩ := hsrc a ha
    obtain ⟨b', hb', eb⟩ := hsrc b hb
    have := hl.laminar a' ha' b' hb'
    simp only [covers, Disjoint] at this ⊢
    rwa [ea, eb]

theorem lam_add {s : State} {nb : Blk} (hl : Lam s) (hlt : ∀ x ∈ nb.sources, x < s.nextId + 1)
    (hrel : ∀ e ∈ s.blocks, covers nb e = true ∨ Disjoint nb e) :
    Lam { s with blocks := s.blocks ++ [nb], nextId := s.nextId + 1 } := by
  refine ⟨List.forall_mem_append.mpr ⟨fun b hb x hx => Nat.lt_succ_of_lt (hl.src_lt b hb x hx),
    List.forall_mem_singleton.mpr hlt⟩, ?_⟩
  · intro a ha b hb
    simp only [List.mem_append, List.mem_singleton] at ha hb
    rcases ha with ha | rfl <;> rcases hb with hb | rfl
    · exact hl.laminar a ha b hb
    · exact Or.inr ((hrel a ha).imp_right fun h x h1 h2 => h x h2 h1)
    · exact (hrel b hb).imp_right Or.inr
    · exact Or.inl (covers_refl _)

theorem step_lam (P : Params) (s s' : State) (a : Action) (hi : Inv P s) (hl : Lam s)
    (h : step P s a = some s') : Lam s' := by
  cases step_sound h with
  | ship =>
    refine lam_add hl (by simp) fun e he => Or.inr fun x hx hxe => ?_
    rw [List.mem_singleton.mp hx] at hxe
    exact Nat.lt_irrefl _ (hl.src_lt e he _ hxe)
  | @compact _ plan hpv =>
    have hpb : ∀ p ∈ plan, p ∈ s.blocks := fun p hp => mem_of_mem_filterChain (hpv p hp)
    refine lam_add hl ?_ ?_
    · intro x hx
      obtain ⟨p, hp, hxp⟩ := mem_allSources.mp hx
      exact Nat.lt_succ_of_lt (hl.src_lt p (hpb p hp) x hxp)
    · intro e he
      by_cases hex : ∃ m ∈ plan, covers m e = true
      · obtain ⟨m, hm, hme⟩ := hex
        exact Or.inl (covers_iff.mpr fun x hx => mem_allSources.mpr ⟨m, hm, covers_iff.mp hme hx⟩)
      · -- a planned block that meets `e` without covering it would lie inside `e`: the view has no such block
        refine Or.inr fun x hx hxe => ?_
        obtain ⟨m, hm, hxm⟩ := mem_allSources.mp hx
        rcases hl.laminar m (hpb m hm) e he with h1 | h1 | h1
        · exact hex ⟨m, hm, h1⟩
        · exact hex ⟨m, hm, view_maximal hi (hpv m hm) he h1⟩
        · exact h1 x hxm hxe
  | markSource | gc =>
    exact hl.of_sources (Nat.le_refl _) (forall_mem_setMark.mpr fun c hc => ⟨c, hc, rfl⟩)
  | clean => exact hl.of_sources (Nat.le_refl _) fun b hb => ⟨b, (List.mem_filter.mp hb).1, rfl⟩
  | failedUpload => exact ⟨fun b hb x hx => Nat.lt_succ_of_lt (hl.src_lt b hb x hx), hl.laminar⟩
  | _ => exact ⟨hl.src_lt, hl.laminar⟩

/-- laminarity comes with the invariant: `step_lam` keeps it only together with `Inv` -/
theorem run_inv (P : Params) (hT : P.levelTie = true) (acts : List Action) (s s' : State)
    (hP : P.ignoreDelay + P.lag ≤ P.deleteDelay ∨ s.gws = []) (hi : Inv P s) (h : run P s acts = some s') :
    Inv P s' ∧ (Lam s → Lam s') := by
  fun_induction run P s acts with
  | case1 =>
    cases h
    exact ⟨hi, id⟩
  | case2 s a _ s1 hs1 ih =>
    have ih := ih (hP.imp_right fun hn => step_gws_nil P s s1 a hn hs1) (step_inv_le P s s1 hP hT a hi hs1) h
    exact ⟨ih.1, fun hl => ih.2 (step_lam P s s1 a hi hl hs1)⟩
  | case3 => cases h

/-- nothing left to do for garbage collection and cleaning: no block is marked, none is hidden -/
def Quiescent (P : Params) (s : State) : Prop :=
  (∀ b ∈ s.blocks, b.mark = none) ∧ duplicates P.levelTie (P.deleteDelay / P.divisor) s.now s.blocks = []

/-- The blocks a view shows are pairwise disjoint once nothing is marked or hidden — for any parameters (either tie
    rule, any ignore delay of the viewer) and any state with `Inv` and `Lam`, reachable or not (`C29_once`: reachable,
    the compactor alone). -/
theorem view_disjoint (P : Params) (s : State) (hi : Inv P s) (hl : Lam s)
    (hq : Quiescent P s) (ig : Nat) :
    ∀ a ∈ filterChain P.levelTie ig s.now s.blocks, ∀ b ∈ filterChain P.levelTie ig s.now s.blocks,
      ∀ x, x ∈ a.sources → x ∈ b.sources → a = b := by
  intro a ha b hb x hxa hxb
  have hab := mem_of_mem_filterChain ha
  have hbb := mem_of_mem_filterChain hb
  -- nothing is marked, so the compactor's view is the whole bucket, and nothing in it is hidden
  have hnh : ∀ c ∈ s.blocks, ∀ u ∈ s.blocks, beats P.levelTie u c = true → covers u c = true → False := by
    intro c hc u hu hbt hcv
    have hV : ∀ k ∈ s.blocks, k ∈ markView (P.deleteDelay / P.divisor) s.now s.blocks := fun k hk =>
      mem_markView.mpr ⟨hk, markOk_of_unmarked (hq.1 k hk)⟩
    have : c ∈ duplicates P.levelTie (P.deleteDelay / P.divisor) s.now s.blocks :=
      mem_duplicates.mpr ⟨mem_markView.mp (hV c hc), hiddenIn_iff.mpr ⟨u, hV u hu, hbt, hcv⟩⟩
    rw [hq.2] at this
    cases this
  -- two different blocks are not nested: one of them comes first in the order, and a cover that does not come first
  -- has just the sources of what it covers (as in `view_maximal`), so either way one would hide the other
  have nested : ∀ p ∈ s.blocks, ∀ q ∈ s.blocks, p.id ≠ q.id → covers p q = true → False := by
    intro p hp q hqm hpq hc
    have hqs : q.sources.Nodup := (hi.src_sorted q hqm).imp Nat.ne_of_lt
    have hnb : beats P.levelTie p q = false := Bool.eq_false_iff.mpr fun hbq => hnh q hqm p hp hbq hc
    rcases beats_total P.levelTie hpq with h | h
    · exact hnh q hqm p hp h hc
    · exact hnh p hp q hqm h (covers_back_of_unbeaten hqs hc hnb)
  by_cases hid : a.id = b.id
  · exact eq_of_id_eq hi.ids_nodup hab hbb hid
  · rcases hl.laminar a hab b hbb with h | h | h
    · exact (nested a hab b hbb hid h).elim
    · exact (nested b hbb a hab (Ne.symm hid) h).elim
    · exact (h x hxa hxb).elim

end Thanos.CompactProto
