import Thanos.Lemmas.Shipper
/-
  The loop of `Shipper.Sync` (Model/Shipper), read three ways.  What it keeps: a predicate on the bucket, the recorded
  ids, the labels and the calls made so far that is `Closed` under recording a visible block and under the two kinds of
  put of `block.Upload` — a file of the block; its meta.json once every file is there — holds after a Sync under any
  fault, since a fault only decides which of these happen (`sync_preserves`; instances `LoopInv`, `KeysLocal`,
  `LblInv`).  What it accounts for: a loop that ran to the end and counted no upload error has recorded every eligible
  block (`Acct`, `loop_acct`, `sync_records`).  What it achieves: without a fault it returns nil if the overlap checks
  it comes to pass (`sync_progress`).  Read by Props/C35.
-/
namespace Thanos.Shipper
open Thanos.Bucket

/-- `I s u l t`: bucket, recorded ids, labels, calls made so far.  `t` is a lower bound on the calls made (`calls`), so
    the puts need not count themselves; `putMeta` labels `b` with the value the labels callback has after `t`. -/
structure Closed (I : Bucket → List Nat → List (Nat × Nat) → List Op → Prop) (cfg : Cfg) (hasU : List Nat)
    (b : LBlock) : Prop where
  record : ∀ {s u l t}, I s u l t → b.id ∈ hasU ∨ Visible s b.id → I s (u ++ [b.id]) l t
  calls : ∀ {s u l t}, I s u l t → ∀ t', I s u l (t ++ t')
  putData : ∀ {s u l t f sz}, I s u l t → (f, sz) ∈ b.files.files → I (put s (b.id, f) (.data sz)) u l t
  putMeta : ∀ {s u l t}, I s u l t → (∀ f sz, (f, sz) ∈ b.files.files → (get s (b.id, f)).isSome = true) →
    I (put s (b.id, metaName) b.files.metaObj) u (setL l b.id (labelNow cfg t.length)) t

theorem Closed.dataPuts {I : Bucket → List Nat → List (Nat × Nat) → List Op → Prop} {cfg : Cfg} {hasU : List Nat}
    {b : LBlock} (hc : Closed I cfg hasU b) {u : List Nat} {l : List (Nat × Nat)} {t : List Op} {d : List Op}
    (hd : DataPuts b.id b.files d) {s : Bucket} (h : I s u l t) : I (applyAll s d) u l t :=
  List.foldlRecOn (motive := fun s => I s u l t) d apply h fun _ hs op hop =>
    let ⟨_, _, e, hf⟩ := hd op hop
    e ▸ hc.putData hs hf

/-- `block.Upload` under any fault: `b.id` is recorded, and labelled with the value the callback had when the upload
    began, exactly when the upload went through -/
theorem Closed.upload {I : Bucket → List Nat → List (Nat × Nat) → List Op → Prop} {cfg : Cfg} {hasU : List Nat}
    {b : LBlock} (hc : Closed I cfg hasU b) {s : Bucket} {u : List Nat} {l : List (Nat × Nat)} {t : List Op}
    (f : Fault) (h : I s u l t) :
    if (uploadF f b.id b.files s).1.ok = true
    then I (uploadF f b.id b.files s).1.bkt (u ++ [b.id]) (setL l b.id (labelNow cfg t.length))
      (t ++ (uploadF f b.id b.files s).1.trace)
    else I (uploadF f b.id b.files s).1.bkt u l (t ++ (uploadF f b.id b.files s).1.trace) := by
  rcases uploadF_shape f b.id b.files s with ⟨d, hd, e⟩ | e <;> rw [e]
  · exact hc.calls (hc.dataPuts hd h) d
  · -- the data files first: when meta.json is put, each has been put
    obtain ⟨d, ed, hd, hall⟩ := uploadOps_shape metaLast_code b.id b.files
    rw [if_pos rfl, ed, applyAll_append]
    refine hc.calls (hc.record (hc.putMeta (hc.dataPuts hd h) fun f sz hf => ?_)
      (Or.inr (visible_put.mpr (Or.inl rfl)))) _
    exact (isSome_applyAll_puts d s (fun op hop => let ⟨_, _, e, _⟩ := hd op hop; ⟨_, _, e⟩) _).mpr
      (Or.inr (hall f sz hf))

theorem stepBlock_preserves {I : Bucket → List Nat → List (Nat × Nat) → List Op → Prop} {cfg : Cfg}
    {locals : List LBlock} {hasU : List Nat} {b : LBlock} (hc : Closed I cfg hasU b) {a : Acc}
    (h : I a.bkt a.uploaded a.lbl a.trace) :
    I (stepBlock cfg locals hasU b a).acc.bkt (stepBlock cfg locals hasU b a).acc.uploaded
      (stepBlock cfg locals hasU b a).acc.lbl (stepBlock cfg locals hasU b a).acc.trace := by
  -- the cases, in the order of the tests of `stepBlock`: in the shipper file; empty; compacted and not wanted;
  -- `Exists` fails; visible; the overlap check fails; upload
  fun_cases stepBlock cfg locals hasU b a
  next hin => exact hc.record h (Or.inl (List.contains_iff_mem.mp hin))
  · exact h
  · exact h
  · exact h
  next hv => exact hc.record h (Or.inr hv)
  · exact h
  next c f _ =>
    have hu := hc.upload f h
    -- `doUpload`: uploaded; failed and the Sync aborts (no out-of-order uploads); failed and counted as an error
    fun_cases doUpload cfg b _ c f
    next hok => exact (if_pos hok).mp hu
    next hok _ => exact (if_neg hok).mp hu
    next hok _ => exact (if_neg hok).mp hu

theorem loop_preserves {J : Step → Prop} {cfg : Cfg} {locals : List LBlock} {hasU : List Nat} (bs : List LBlock)
    (a : Acc) (hstep : ∀ b ∈ bs, ∀ a, J (.cont a) → J (stepBlock cfg locals hasU b a)) (h : J (.cont a)) :
    J (loop cfg locals hasU bs a) := by
  -- the arms of `loop`: no block left; the iteration aborts; it goes on
  fun_induction loop cfg locals hasU bs a with
  | case1 => exact h
  | case2 b rest a a' e => exact e ▸ hstep b List.mem_cons_self a h
  | case3 b rest a a' e ih =>
    exact ih (fun b hb => hstep b (List.mem_cons_of_mem _ hb)) (e ▸ hstep b List.mem_cons_self a h)

/-- A predicate that is `Closed` for every local block holds after a Sync, under any fault, of the ids `u` the loop
    recorded; they are what the shipper file holds unless the Sync was cut short and left the file alone. -/
theorem sync_preserves {I : Bucket → List Nat → List (Nat × Nat) → List Op → Prop} {cfg : Cfg} {locals : List LBlock}
    {st : State} (hc : ∀ b ∈ locals, Closed I cfg (st.file.getD []) b) (k : Fault) (h : I st.bkt [] st.lbl []) :
    ∃ u, I (sync cfg locals k st).st.bkt u (sync cfg locals k st).st.lbl (sync cfg locals k st).trace ∧
      ((sync cfg locals k st).st.file = st.file ∨ (sync cfg locals k st).st.file = some u) := by
  have hinv := loop_preserves (J := fun r => I r.acc.bkt r.acc.uploaded r.acc.lbl r.acc.trace) (locals := locals) locals
    ⟨k, st.bkt, [], none, 0, [], st.lbl⟩ (fun b hb a => stepBlock_preserves (hc b hb)) h
  -- `sync`: the loop aborted (the shipper file is left alone); it ran to the end (the file is written)
  fun_cases sync cfg locals k st
  next a e =>
    rw [e] at hinv
    exact ⟨_, hinv, Or.inl rfl⟩
  next a e =>
    rw [e] at hinv
    exact ⟨_, hinv, Or.inr rfl⟩

structure LoopInv (w : Nat → Block) (hasUploaded : List Nat) (bkt : Bucket) (uploaded : List Nat) : Prop where
  good : Good w bkt
  up : ∀ id ∈ uploaded, Visible bkt id
  has : ∀ id ∈ hasUploaded, Visible bkt id

theorem LoopInv.put {w : Nat → Block} (hw : WF w) {hasU : List Nat} {s : Bucket} {u : List Nat}
    (h : LoopInv w hasU s u) {k : Key} {o : Obj} (hop : SafeOp w s (.put k o)) : LoopInv w hasU (put s k o) u :=
  ⟨good_apply hw h.good hop, fun id hid => visible_put.mpr (.inr (h.up id hid)),
    fun id hid => visible_put.mpr (.inr (h.has id hid))⟩

theorem loopInv_closed {locals : List LBlock} (hl : LocalsOK locals) (cfg : Cfg) (hasU : List Nat) {b : LBlock}
    (hb : b ∈ locals) : Closed (fun s u _ _ => LoopInv (worldOf locals) hasU s u) cfg hasU b where
  record h hv :=
    ⟨h.good, List.forall_mem_append.mpr ⟨h.up, List.forall_mem_singleton.mpr (hv.elim (h.has _) id)⟩, h.has⟩
  calls h _ := h
  putData h hf := h.put (wf_worldOf hl) (.putData _ _ _ (worldOf_mem hl.1 hb ▸ hf))
  putMeta h hall :=
    h.put (wf_worldOf hl) (worldOf_mem hl.1 hb ▸ SafeOp.putMeta b.id false (worldOf_mem hl.1 hb ▸ hall))

theorem keysLocal_closed {locals : List LBlock} (cfg : Cfg) (hasU : List Nat) {b : LBlock} (hb : b ∈ locals) :
    Closed (fun s _ _ _ => KeysLocal locals s) cfg hasU b where
  record h _ := h
  calls h _ := h
  putData h _ := keysLocal_put hb _ _ h
  putMeta h _ := keysLocal_put hb _ _ h

theorem sync_keys {locals : List LBlock} (cfg : Cfg) (k : Fault) (st : State)
    (h : KeysLocal locals st.bkt) : KeysLocal locals (sync cfg locals k st).st.bkt :=
  let ⟨_, h', _⟩ := sync_preserves (fun _ hb => keysLocal_closed cfg _ hb) k h
  h'

theorem lookupL_cons (i v : Nat) (m : List (Nat × Nat)) (id' : Nat) :
    lookupL ((i, v) :: m) id' = if i = id' then some v else lookupL m id' := by
  unfold lookupL
  by_cases e : i = id' <;> simp only [List.find?_cons, e, decide_true, decide_false, if_true, if_false, Option.map_some]

theorem lookupL_setL (m : List (Nat × Nat)) (id v id' : Nat) :
    lookupL (setL m id v) id' = if id' = id then some v else lookupL m id' := by
  rw [setL, lookupL_cons, lookupL, lookupL,
    find?_filter_key (key := (·.1)) (k := id) (k' := id') (by simp) (by simp)]
  by_cases e : id' = id
  · simp [e]
  · rw [if_neg e, if_neg e, if_neg fun e' : id = id' => e e'.symm]

/-- the label of a visible block is untouched since the start `st0` of the Sync (the block was visible then: the shipper
    does not re-upload it), or a value the labels callback had at a moment within the calls `t` made so far -/
def LblInv (st0 : State) (cfg : Cfg) (bkt : Bucket) (lbl : List (Nat × Nat)) (t : List Op) : Prop :=
  ∀ id, Visible bkt id →
    (Visible st0.bkt id ∧ lookupL lbl id = lookupL st0.lbl id) ∨
      ∃ n, n ≤ t.length ∧ lookupL lbl id = some (labelNow cfg n)

theorem lblInv_closed {locals : List LBlock} (hl : LocalsOK locals) (st0 : State) (cfg : Cfg) (hasU : List Nat)
    {b : LBlock} (hb : b ∈ locals) : Closed (fun s _ l t => LblInv st0 cfg s l t) cfg hasU b where
  record h _ := h
  calls h _ id hv := (h id hv).imp_right fun ⟨n, hn, e⟩ =>
    ⟨n, Nat.le_trans hn (List.length_append ▸ Nat.le_add_right ..), e⟩
  -- no file is called meta.json, so a data put changes no block's visibility
  putData {_ _ _ _ _ sz} h hf id hv :=
    (visible_put.mp hv).elim (fun e => absurd hf (by cases e; exact fun h => (hl.2 b hb).2 _ sz h (by simp [reserved])))
      (h id)
  putMeta {_ _ _ t} h _ id hv := by
    rw [lookupL_setL]
    by_cases e : id = b.id
    · exact Or.inr ⟨t.length, Nat.le_refl _, by rw [if_pos e]⟩
    · rw [if_neg e]
      exact (visible_put.mp hv).elim (fun e' => absurd (congrArg Prod.fst e') e) (h id)

theorem sync_lbl {locals : List LBlock} (hl : LocalsOK locals) (cfg : Cfg) (k : Fault) (st : State) :
    LblInv st cfg (sync cfg locals k st).st.bkt (sync cfg locals k st).st.lbl (sync cfg locals k st).trace :=
  let ⟨_, h, _⟩ := sync_preserves (fun _ hb => lblInv_closed hl st cfg _ hb) k fun _ hv => Or.inl ⟨hv, rfl⟩
  h

/-- The accounts of iterations over `bs` that were not cut short: nothing recorded is dropped, and if no upload
    error is counted at the end, none was at the start and every eligible block of `bs` is recorded. -/
def Acct (cfg : Cfg) (bs : List LBlock) (a : Acc) : Step → Prop
  | .abort _ => True
  | .cont a' => (∀ id ∈ a.uploaded, id ∈ a'.uploaded) ∧
      (a'.uploadErrs = 0 → a.uploadErrs = 0 ∧ ∀ b ∈ bs, eligible cfg b = true → b.id ∈ a'.uploaded)

theorem step_acct (cfg : Cfg) (locals : List LBlock) (hasU : List Nat) (b : LBlock) (a : Acc) :
    Acct cfg [b] a (stepBlock cfg locals hasU b a) := by
  fun_cases stepBlock cfg locals hasU b a
  · exact ⟨fun id hid => List.mem_append_left _ hid, fun e => ⟨e, by simp⟩⟩
  next h0 =>
    exact ⟨fun id hid => hid, fun e =>
      ⟨e, List.forall_mem_singleton.mpr fun he => absurd h0 ((eligible_iff cfg b).mp he).1⟩⟩
  next hlv =>
    exact ⟨fun id hid => hid, fun e =>
      ⟨e, List.forall_mem_singleton.mpr fun he => absurd hlv ((eligible_iff cfg b).mp he).2⟩⟩
  · trivial
  · exact ⟨fun id hid => List.mem_append_left _ hid, fun e => ⟨e, by simp⟩⟩
  · trivial
  next c f _ =>
    fun_cases doUpload cfg b _ c f
    · exact ⟨fun id hid => List.mem_append_left _ hid, fun e => ⟨e, by simp⟩⟩
    · trivial
    · exact ⟨fun id hid => hid, nofun⟩

theorem loop_acct (cfg : Cfg) (locals : List LBlock) (hasU : List Nat) (bs : List LBlock) (a : Acc) :
    Acct cfg bs a (loop cfg locals hasU bs a) := by
  fun_induction loop cfg locals hasU bs a with
  | case1 a => exact ⟨fun id hid => hid, fun e => ⟨e, nofun⟩⟩
  | case2 => trivial
  | case3 b rest a a1 e ih =>
    have hs := step_acct cfg locals hasU b a
    rw [e] at hs
    cases hl : loop cfg locals hasU rest a1 with
    | abort => trivial
    | cont a' =>
      rw [hl] at ih
      refine ⟨fun id hid => ih.1 id (hs.1 id hid), fun e' => ?_⟩
      obtain ⟨e1, hrest⟩ := ih.2 e'
      obtain ⟨e0, hb⟩ := hs.2 e1
      exact ⟨e0, List.forall_mem_cons.mpr ⟨fun he => ih.1 _ (hb b (List.mem_singleton_self b) he), hrest⟩⟩

/-- A Sync returns nil only if the loop ran to the end and counted no error, and an iteration records an eligible block
    unless it counts one. -/
theorem sync_records {cfg : Cfg} {locals : List LBlock} {k : Fault} {st : State}
    (hok : (sync cfg locals k st).ok = true) {b : LBlock} (hb : b ∈ locals) (he : eligible cfg b = true) :
    b.id ∈ (sync cfg locals k st).st.file.getD [] := by
  have hacct := loop_acct cfg locals (st.file.getD []) locals ⟨k, st.bkt, [], none, 0, [], st.lbl⟩
  revert hok
  fun_cases sync cfg locals k st
  · nofun
  next a e =>
    intro hok
    rw [e] at hacct
    exact (hacct.2 (of_decide_eq_true hok)).2 b hb he

/-- A fault-free iteration whose overlap check (if it comes to it) passes goes on without a new upload error.
    `P` is what is known of the bucket and of the checker's state: it has to hold again after the upload. -/
theorem step_cont {P : Bucket → Option (List (Int × Int)) → Prop} {cfg : Cfg} {locals : List LBlock}
    (hasU : List Nat) {b : LBlock} {a : Acc} (hf : a.fault = Fault.none) (hP : P a.bkt a.checker)
    (hchk : eligible cfg b = true → ∃ c, overlapCheck cfg locals b a = some (c, Fault.none) ∧
      P (uploadF Fault.none b.id b.files a.bkt).1.bkt c) :
    ∃ a', stepBlock cfg locals hasU b a = .cont a' ∧ a'.fault = Fault.none ∧ a'.uploadErrs = a.uploadErrs ∧
      P a'.bkt a'.checker := by
  have ha : { a with fault := a.fault.pass } = a := by
    cases a
    cases hf
    rfl
  fun_cases stepBlock cfg locals hasU b a
  · exact ⟨_, rfl, hf, rfl, hP⟩
  · exact ⟨_, rfl, hf, rfl, hP⟩
  · exact ⟨_, rfl, hf, rfl, hP⟩
  next hh =>
    rw [hf] at hh
    cases hh
  · exact ⟨_, rfl, (congrArg Acc.fault ha).trans hf, rfl, hP⟩
  next h0 hlv _ a1 _ ho =>
    obtain ⟨c, hc, _⟩ := hchk ((eligible_iff cfg b).mpr ⟨h0, hlv⟩)
    rw [show a1 = a from ha, hc] at ho
    cases ho
  next h0 hlv _ a1 _ c' f ho =>
    obtain ⟨c, hc, hP'⟩ := hchk ((eligible_iff cfg b).mpr ⟨h0, hlv⟩)
    rw [show a1 = a from ha, hc] at ho
    cases ho
    fun_cases doUpload cfg b _ c' Fault.none
    · exact ⟨_, rfl, (uploadF_none _ _ _).2, rfl, hP'⟩
    next hno _ => exact absurd (uploadF_none _ _ _).1 hno
    next hno _ => exact absurd (uploadF_none _ _ _).1 hno

/-- **C35 (progress, in general)**: a fault-free Sync returns nil if every overlap check it comes to passes. -/
theorem sync_progress {P : Bucket → Option (List (Int × Int)) → Prop} {cfg : Cfg} {locals : List LBlock}
    {st : State} (h0 : P st.bkt none)
    (hchk : ∀ b ∈ locals, ∀ a : Acc, a.fault = Fault.none → P a.bkt a.checker → eligible cfg b = true →
      ∃ c, overlapCheck cfg locals b a = some (c, Fault.none) ∧ P (uploadF Fault.none b.id b.files a.bkt).1.bkt c) :
    (sync cfg locals Fault.none st).ok = true := by
  have hloop := loop_preserves (locals := locals) (hasU := st.file.getD [])
    (J := fun r => ∃ a, r = .cont a ∧ a.fault = Fault.none ∧ a.uploadErrs = 0 ∧ P a.bkt a.checker)
    locals ⟨Fault.none, st.bkt, [], none, 0, [], st.lbl⟩
    (fun b hb a ⟨_, e, hf, he, hP⟩ => by
      cases e
      obtain ⟨a', e', hf', he', hP'⟩ := step_cont (st.file.getD []) hf hP (hchk b hb _ hf hP)
      exact ⟨a', e', hf', he'.trans he, hP'⟩)
    ⟨_, rfl, rfl, rfl, h0⟩
  obtain ⟨a, e, _, herr, _⟩ := hloop
  fun_cases sync cfg locals Fault.none st
  next e' => cases e.symm.trans e'
  next e' =>
    cases e.symm.trans e'
    exact decide_eq_true herr

end Thanos.Shipper
