import Thanos.Model.IndexHeader
import Thanos.Lemmas.Uvarint
/-
  C11 apart from the sampled lookup: LabelNames, LookupSymbol with the header's two caches, the v1
  table kept whole, and the skip over key count and label name of a table entry.
-/
namespace Thanos.IndexHeader

theorem mem_labelNames (e : Option Nat) (l : List Nat) (x : Nat) :
    x ∈ labelNames e l ↔ x ∈ l ∧ some x ≠ e := by
  -- no name; one name, the all-postings key's or not; two equal names in front; two different ones
  fun_induction labelNames e l with
  | case1 => simp
  | case2 a h => simp; rintro rfl; exact h
  | case3 a h => simp; rintro rfl; exact h
  | case4 a rest ih => simp [ih]
  | case5 a b rest hab ih =>
    simp only [List.mem_append, ih, List.mem_cons]
    split <;> rename_i h
    · simp only [List.not_mem_nil, false_or, and_congr_left_iff, iff_or_self]
      rintro hx rfl; exact absurd h hx
    · simp only [List.mem_singleton]
      constructor
      · rintro (rfl | ⟨hm, hx⟩)
        · exact ⟨Or.inl rfl, h⟩
        · exact ⟨Or.inr hm, hx⟩
      · rintro ⟨rfl | hm, hx⟩
        · exact Or.inl rfl
        · exact Or.inr ⟨hm, hx⟩

theorem labelNames_strict (e : Option Nat) (l : List Nat) (h : l.Pairwise (· ≤ ·)) :
    (labelNames e l).Pairwise (· < ·) := by
  fun_induction labelNames e l with
  | case1 => exact List.Pairwise.nil
  | case2 a h' => exact List.Pairwise.nil
  | case3 a h' => exact List.pairwise_singleton _ _
  | case4 a rest ih => exact ih h.of_cons
  | case5 a b rest hab ih =>
    have hrest := ih h.of_cons
    split
    · exact hrest
    · refine List.Pairwise.cons (fun y hy => ?_) hrest
      -- `y` is a later name: at least `b`, which is above `a`
      have hy' := ((mem_labelNames e (b :: rest) y).mp hy).1
      have hab' : a ≤ b := List.rel_of_pairwise_cons h List.mem_cons_self
      have hby : b ≤ y := by
        rcases List.mem_cons.mp hy' with rfl | hm
        · exact Nat.le_refl _
        · exact List.rel_of_pairwise_cons h.of_cons hm
      omega

/-- the reader's nameSymbols map agrees with the symbol table (it is filled with
    `symbols.ReverseLookup`, third party) -/
def NamesOK (table : Nat → Option (List Nat)) (names : List (Nat × List Nat)) : Prop :=
  ∀ o s, names.lookup o = some s → table o = some s

/-- every slot of the value-symbol cache that counts as filled holds a (reference, symbol) pair
    of the symbol table -/
def CacheOK (table : Nat → Option (List Nat)) (c : SymCache) : Prop :=
  ∀ slot, (c.get slot).2 ≠ [] → table (c.get slot).1 = some (c.get slot).2

theorem cacheOK_nil (table : Nat → Option (List Nat)) : CacheOK table [] := by
  intro slot h; simp [SymCache.get] at h

theorem SymCache.get_cons (c : SymCache) (slot o : Nat) (s : List Nat) (slot' : Nat) :
    SymCache.get ((slot, o, s) :: c) slot' = if slot' = slot then (o, s) else c.get slot' := by
  rw [SymCache.get, List.lookup_cons]
  by_cases h : slot' = slot
  · rw [if_pos h, beq_iff_eq.mpr h]; rfl
  · rw [if_neg h, beq_eq_false_iff_ne.mpr h]; rfl

theorem lookupSymbol_ok (table : Nat → Option (List Nat)) (names : List (Nat × List Nat))
    (size shift o : Nat) (c : SymCache) (hn : NamesOK table names) (hc : CacheOK table c) :
    (lookupSymbol table names size shift o c).1 = table ((o + shift) % 4294967296) ∧
    CacheOK table (lookupSymbol table names size shift o c).2 := by
  -- a label name; a hit in the cache; a miss the table does not know; a miss that fills the slot
  fun_cases lookupSymbol table names size shift o c with
  | case1 o' s hnm => exact ⟨(hn _ _ hnm).symm, hc⟩
  | case2 o' hnm slot cached hhit => exact ⟨(hhit.1 ▸ hc _ hhit.2).symm, hc⟩
  | case3 o' hnm slot cached hhit ht => exact ⟨ht.symm, hc⟩
  | case4 o' hnm slot cached hhit s ht =>
    refine ⟨ht.symm, fun slot' hne => ?_⟩
    rw [SymCache.get_cons] at hne ⊢
    by_cases hs : slot' = slot
    · rw [if_pos hs]; exact ht
    · rw [if_neg hs] at hne ⊢; exact hc _ hne

theorem lookupSymbols_ok (table : Nat → Option (List Nat)) (names : List (Nat × List Nat))
    (size shift : Nat) (hn : NamesOK table names) (os : List Nat) :
    ∀ (c : SymCache), CacheOK table c →
      lookupSymbols table names size shift os c = os.map fun o => table ((o + shift) % 4294967296) := by
  induction os with
  | nil => intro c _; rfl
  | cons o os ih =>
    intro c hc
    have h := lookupSymbol_ok table names size shift o c hn hc
    simp only [lookupSymbols, List.map_cons]
    rw [ih _ h.2, h.1]

/-- not used below -/
theorem rangesV1_length_le (e lastEnd : Nat) (tbl : List EntryV1) :
    (rangesV1 e lastEnd tbl).length ≤ tbl.length := by
  -- no entry; a last entry named "" (dropped) or not; an entry with a successor
  fun_induction rangesV1 e lastEnd tbl with
  | case1 => exact Nat.le_refl _
  | case2 v off => exact Nat.zero_le _
  | case3 n v off h => exact Nat.le_refl _
  | case4 n v off n' v' off' rest ih => exact Nat.succ_le_succ ih

theorem rangesV1_inner (e lastEnd : Nat) (tbl : List EntryV1) (i : Nat) (a b : EntryV1)
    (ha : tbl[i]? = some a) (hb : tbl[i + 1]? = some b) :
    (rangesV1 e lastEnd tbl)[i]? = some ((a.1, a.2.1), ⟨(a.2.2 : Int) + 4, (b.2.2 : Int) - 4⟩) := by
  fun_induction rangesV1 e lastEnd tbl generalizing i with
  | case1 => cases ha
  | case2 v off => cases hb
  | case3 n v off h => cases hb
  | case4 n v off n' v' off' rest ih =>
    cases i with
    | zero => cases ha; cases hb; rfl
    | succ i => exact ih i ha hb

theorem rangesV1_last (e lastEnd : Nat) (tbl : List EntryV1) (a : EntryV1)
    (ha : tbl.getLast? = some a) :
    (rangesV1 e lastEnd tbl)[tbl.length - 1]? =
      if a.1 = e then none else some ((a.1, a.2.1), ⟨(a.2.2 : Int) + 4, (lastEnd : Int) - 4⟩) := by
  fun_induction rangesV1 e lastEnd tbl with
  | case1 => cases ha
  | case2 v off => cases ha; exact (if_pos rfl).symm
  | case3 n v off h => cases ha; exact (if_neg h).symm
  | case4 n v off n' v' off' rest ih => exact ih (by rwa [List.getLast?_cons_cons] at ha)

open Thanos.Uvarint

theorem decUvarint_uvarint (n : Nat) (rest : List Nat) (hn : n < 2 ^ 64) :
    decUvarint (uvarint n ++ rest) = (n, rest) := by
  unfold decUvarint
  rw [unuvarint_uvarint n rest hn]
  simp

theorem decUvarintBytes_bytes (bs rest : List Nat) (hn : bs.length < 2 ^ 64) :
    decUvarintBytes (uvarint bs.length ++ bs ++ rest) = (bs, rest) := by
  unfold decUvarintBytes
  rw [List.append_assoc, decUvarint_uvarint _ _ hn]
  simp

/-- an entry followed by `rest`, split where `skipNAndName` leaves the decoder -/
theorem entryBytes_append (name value : List Nat) (off : Nat) (rest : List Nat) :
    entryBytes name value off ++ rest =
      uvarint 2 ++ (uvarint name.length ++ name ++ (uvarint value.length ++ value ++ uvarint off ++ rest)) := by
  simp only [entryBytes, List.append_assoc]

theorem skip_measure (name value : List Nat) (off : Nat) (rest : List Nat) (hn : name.length < 2 ^ 64) :
    skipNAndName (entryBytes name value off ++ rest) 0 =
      (uvarint value.length ++ value ++ uvarint off ++ rest, nameSkipLen name) := by
  rw [entryBytes_append, skipNAndName, if_pos rfl, decUvarint_uvarint 2 _ (by decide)]
  simp only
  rw [decUvarintBytes_bytes name _ hn]
  simp only [uvarint_two, nameSkipLen, List.length_append, List.length_cons, List.length_nil, Prod.mk.injEq,
    true_and]
  omega

theorem skip_again (name value : List Nat) (off : Nat) (rest : List Nat) :
    skipNAndName (entryBytes name value off ++ rest) (nameSkipLen name) =
      (uvarint value.length ++ value ++ uvarint off ++ rest, nameSkipLen name) := by
  rw [entryBytes_append, skipNAndName, if_neg (by unfold nameSkipLen; omega), ← List.append_assoc,
    List.drop_left' (by simp only [uvarint_two, nameSkipLen, List.length_append, List.length_cons, List.length_nil]; omega)]

end Thanos.IndexHeader
