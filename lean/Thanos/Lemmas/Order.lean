import Thanos.Model.Merge
/-
  Lawful comparisons (total orders given as `Ordering`-valued functions), closed under
  lexicographic products.  The orders of the model are core's: `cmpBytes` (Go string comparison) is
  `compare` on `List Nat`, `cmpLabels` (`labels.Compare`) is `compare` on lists of (name, value) pairs
  under the lexicographic order of pairs, and core knows these to be transitive, oriented and
  equality-reflecting (`Lawful.of_ord`).  For a lawful `c`, `c a b ≠ .gt` is the weak order `a ≤ b`.
-/
namespace Thanos.Merge

structure Lawful {α : Type} (c : α → α → Ordering) : Prop where
  refl : ∀ a, c a a = .eq
  eq : ∀ a b, c a b = .eq → a = b
  swap : ∀ a b, c a b = .lt ↔ c b a = .gt
  trans : ∀ a b d, c a b = .lt → c b d = .lt → c a d = .lt

theorem lawful_rev {α : Type} {c : α → α → Ordering} (h : Lawful c) : Lawful (fun a b => c b a) :=
  ⟨h.refl, fun a b he => (h.eq b a he).symm, fun a b => h.swap b a, fun a b d h1 h2 => h.trans d b a h2 h1⟩

namespace Lawful
variable {α : Type} {c : α → α → Ordering} (h : Lawful c)
include h

theorem eq_symm {a b : α} (he : c a b = .eq) : c b a = .eq := by
  rw [h.eq a b he]; exact h.refl b

theorem eq_comm (a b : α) : c a b = .eq ↔ c b a = .eq := ⟨h.eq_symm, h.eq_symm⟩

theorem lt_of_le_of_lt {a b d : α} (h1 : c a b ≠ .gt) (h2 : c b d = .lt) : c a d = .lt := by
  cases hab : c a b with
  | gt => exact absurd hab h1
  | eq => rw [h.eq a b hab]; exact h2
  | lt => exact h.trans a b d hab h2

theorem lt_of_lt_of_le {a b d : α} (h1 : c a b = .lt) (h2 : c b d ≠ .gt) : c a d = .lt :=
  (lawful_rev h).lt_of_le_of_lt h2 h1

theorem le_trans {a b d : α} (h1 : c a b ≠ .gt) (h2 : c b d ≠ .gt) : c a d ≠ .gt := by
  cases hbd : c b d with
  | gt => exact absurd hbd h2
  | eq => rw [← h.eq b d hbd]; exact h1
  | lt => rw [h.lt_of_le_of_lt h1 hbd]; nofun

theorem le_of_not_lt {a b : α} (hn : c a b ≠ .lt) : c b a ≠ .gt :=
  fun hgt => hn ((h.swap a b).mpr hgt)

theorem le_total (a b : α) : c a b ≠ .gt ∨ c b a ≠ .gt := by
  by_cases hab : c a b = .gt
  · exact Or.inr (by rw [(h.swap b a).mpr hab]; nofun)
  · exact Or.inl hab

theorem eq_of_le_le {a b : α} (h1 : c a b ≠ .gt) (h2 : c b a ≠ .gt) : a = b := by
  cases hab : c a b with
  | gt => exact absurd hab h1
  | eq => exact h.eq a b hab
  | lt => exact absurd ((h.swap a b).mp hab) h2

end Lawful

def lexCmp {α β : Type} (c1 : α → α → Ordering) (c2 : β → β → Ordering) (x y : α × β) : Ordering :=
  match c1 x.1 y.1 with
  | .eq => c2 x.2 y.2
  | o => o

/-- the `trans` law of `(c a b).then o`, given the same law for what it hands on to -/
theorem then_trans {α : Type} {c : α → α → Ordering} (h : Lawful c) {a b d : α} {o1 o2 o3 : Ordering}
    (ho : o1 = .lt → o2 = .lt → o3 = .lt)
    (h1 : (c a b).then o1 = .lt) (h2 : (c b d).then o2 = .lt) : (c a d).then o3 = .lt := by
  rw [Ordering.then_eq_lt] at h1 h2 ⊢
  rcases h1 with h1 | ⟨e1, h1⟩
  · rcases h2 with h2 | ⟨e2, h2⟩
    · exact .inl (h.trans a b d h1 h2)
    · exact .inl (h.eq b d e2 ▸ h1)
  · rw [h.eq a b e1]
    exact h2.imp_right (And.imp_right (ho h1))

-- `lexCmp c1 c2 x y` is `(c1 x.1 y.1).then (c2 x.2 y.2)` by definition
theorem lawful_lex {α β : Type} {c1 : α → α → Ordering} {c2 : β → β → Ordering}
    (h1 : Lawful c1) (h2 : Lawful c2) : Lawful (lexCmp c1 c2) where
  refl a := by
    unfold lexCmp
    rw [h1.refl]
    exact h2.refl _
  eq a b he := by
    obtain ⟨e1, e2⟩ := Ordering.then_eq_eq.mp he
    exact Prod.ext (h1.eq _ _ e1) (h2.eq _ _ e2)
  swap a b := by
    show (c1 a.1 b.1).then _ = .lt ↔ (c1 b.1 a.1).then _ = .gt
    rw [Ordering.then_eq_lt, Ordering.then_eq_gt, h1.swap, h1.eq_comm a.1, h2.swap]
  trans a b d := then_trans h1 (h2.trans a.2 b.2 d.2)

theorem Lawful.of_ord {α : Type} [Ord α] [Std.TransOrd α] [Std.LawfulEqOrd α] :
    Lawful (compare : α → α → Ordering) :=
  ⟨fun _ => Std.ReflOrd.compare_self, fun _ _ => Std.LawfulEqOrd.eq_of_compare,
    fun _ _ => Std.OrientedCmp.gt_iff_lt.symm, fun _ _ _ => Std.TransCmp.lt_trans⟩

def cmpIntO (a b : Int) : Ordering := if a < b then .lt else if b < a then .gt else .eq
def cmpNatO (a b : Nat) : Ordering := if a < b then .lt else if b < a then .gt else .eq

theorem lawful_int : Lawful cmpIntO :=
  (funext fun a => funext fun b => Int.compare_eq_ite_lt a b : compare = cmpIntO) ▸ .of_ord

theorem lawful_nat : Lawful cmpNatO :=
  (funext fun a => funext fun b => Nat.compare_eq_ite_lt a b : compare = cmpNatO) ▸ .of_ord

theorem cmpBytes_eq_compare : cmpBytes = compare := by
  funext a b
  induction a generalizing b with
  | nil => cases b <;> rfl
  | cons x r ih =>
    cases b with
    | nil => rfl
    | cons y s =>
      rw [List.compare_cons_cons, Nat.compare_eq_ite_lt, ← ih, cmpBytes]
      split
      · rfl
      · split <;> rfl

theorem lawful_bytes : Lawful cmpBytes := cmpBytes_eq_compare ▸ .of_ord

attribute [local instance] lexOrd in
theorem cmpLabels_eq_compare : cmpLabels = compare := by
  funext a b
  induction a generalizing b with
  | nil => cases b <;> rfl
  | cons x r ih =>
    cases b with
    | nil => rfl
    | cons y s =>
      show (cmpBytes x.1 y.1).then ((cmpBytes x.2 y.2).then (cmpLabels r s)) = _
      rw [ih, cmpBytes_eq_compare, List.compare_cons_cons]
      exact (Ordering.then_assoc ..).symm

attribute [local instance] lexOrd in
theorem lawful_labels : Lawful cmpLabels := cmpLabels_eq_compare ▸ .of_ord

def lblLe (a b : Labels) : Prop := cmpLabels a b ≠ .gt

theorem lblLe_refl (a : Labels) : lblLe a a := by
  unfold lblLe; rw [lawful_labels.refl]; nofun

theorem lblLe_trans {a b c : Labels} (h1 : lblLe a b) (h2 : lblLe b c) : lblLe a c :=
  lawful_labels.le_trans h1 h2

-- `lawful_labels.le_total` and `.lt_of_le_of_lt` in terms of `lblLe`
theorem lblLe_total (a b : Labels) : lblLe a b ∨ lblLe b a := lawful_labels.le_total a b

theorem lt_of_le_of_lt {a b c : Labels} (h1 : lblLe a b) (h2 : cmpLabels b c = .lt) : cmpLabels a c = .lt :=
  lawful_labels.lt_of_le_of_lt h1 h2

end Thanos.Merge
