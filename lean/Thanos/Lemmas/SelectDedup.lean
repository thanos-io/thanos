import Thanos.Lemmas.TrackM
/-
  C04, the querier side of Model/ReadPath.lean as a pure function of the chunks it is handed.  `selectDedup` splits them
  into rows, opens a bounded `chunkSeriesIterator` per row and folds the dedup node over these; whatever holds of every
  row's iterator is collected along `overlapSplit` (`select_rows`), so the three theorems are the good rows
  (`chunkSeriesIt_good`, `row_goodD`) under the good fold (`foldIts_good`, `foldIts_goodD`).  Read by Props/C04.lean.
-/
namespace Thanos.Dedup

theorem mapM_rows {f : List RChunk → Option AnyIt} {g : List RChunk → List Sample}
    {G : AnyIt → List Sample → Prop} (rows : List (List RChunk))
    (h : ∀ row ∈ rows, ∃ it, f row = some it ∧ G it (g row)) :
    ∃ ps : List (AnyIt × List Sample), rows.mapM f = some (ps.map (·.1)) ∧ ps.map (·.2) = rows.map g ∧
      ps.length = rows.length ∧ ∀ p ∈ ps, G p.1 p.2 := by
  induction rows with
  | nil => exact ⟨[], rfl, rfl, rfl, by simp⟩
  | cons row rows ih =>
    obtain ⟨⟨it, hit, hg⟩, hrows⟩ := List.forall_mem_cons.mp h
    obtain ⟨ps, h1, h2, h3, h4⟩ := ih hrows
    refine ⟨(it, g row) :: ps, ?_, by simp [h2], by simp [h3], List.forall_mem_cons.mpr ⟨hg, h4⟩⟩
    simp [List.mapM_cons, hit, h1]

theorem select_rows {G : AnyIt → List Sample → Prop} {g : List (List Sample) → List Sample}
    {Q : List Sample → Prop} (qmint qmaxt : Int) {cs : List RChunk} (hne : cs ≠ [])
    (hQ : ∀ c ∈ cs, Q c.samples)
    (hrow : ∀ (c : List Sample) (row : List (List Sample)), (∀ d ∈ c :: row, Q d) →
      ∃ it, chunkSeriesIt qmint qmaxt (c :: row) = some it ∧ G it (g (c :: row))) :
    ∃ ps : List (AnyIt × List Sample), ps ≠ [] ∧
      (overlapSplit cs).mapM (fun row => chunkSeriesIt qmint qmaxt (row.map (·.samples))) = some (ps.map (·.1)) ∧
      ps.map (·.2) = (overlapSplit cs).map (fun row => g (row.map (·.samples))) ∧ ∀ p ∈ ps, G p.1 p.2 := by
  obtain ⟨hrows, hperm⟩ := overlapSplit_partition cs
  obtain ⟨ps, h1, h2, h3, h4⟩ := mapM_rows (f := fun row => chunkSeriesIt qmint qmaxt (row.map (·.samples)))
    (g := fun row => g (row.map (·.samples))) (G := G) (overlapSplit cs) (by
      intro row hr
      obtain ⟨c, row', rfl⟩ := List.exists_cons_of_ne_nil (hrows row hr).2
      exact hrow _ _ (List.forall_mem_map.mpr fun d hd =>
        hQ d (hperm.subset (List.mem_flatten.mpr ⟨_, hr, hd⟩))))
  refine ⟨ps, ?_, h1, h2, h4⟩
  rintro rfl
  exact overlapSplit_ne_nil hne (List.length_eq_zero_iff.mp h3.symm)

/-- **The querier side is a pure function** (for a query range that covers the chunks it gets):
    `overlapSplit`, `chunkSeriesIterator`, `boundedSeriesIterator` and the penalty iterators
    together compute the left fold of the pure penalty merge `pm2` over the rows' unions — no
    panic, no sample lost to loop fuel.  The F04 loss and the partial property are therefore
    statements about `pm2` and `overlapSplit` alone. -/
theorem C04_select_refines (l : RSeries) (qmint qmaxt : Int)
    (hne : proxyChunks qmint qmaxt (l.reps.flatMap (·.chunks)) ≠ [])
    (hok : ∀ c ∈ proxyChunks qmint qmaxt (l.reps.flatMap (·.chunks)),
      ChunkOK c.samples ∧ ∀ x ∈ c.samples, qmint ≤ x.t ∧ x.t ≤ qmaxt) :
    selectDedup true qmint qmaxt l = some (some (pmFoldL
      ((overlapSplit (proxyChunks qmint qmaxt (l.reps.flatMap (·.chunks)))).map
        fun row => unionFrom 0 (row.map (·.samples))))) := by
  unfold selectDedup
  generalize hcs : proxyChunks qmint qmaxt (l.reps.flatMap (·.chunks)) = cs at hne hok
  simp only [List.isEmpty_eq_false_iff.mpr hne, Bool.false_eq_true, if_false]
  obtain ⟨ps, hpsne, h1, h2, h4⟩ := select_rows (G := GoodN) (g := unionFrom 0)
    (Q := fun d => ChunkOK d ∧ ∀ x ∈ d, qmint ≤ x.t ∧ x.t ≤ qmaxt) qmint qmaxt hne hok
    fun c row h => chunkSeriesIt_good qmint qmaxt c row (h c List.mem_cons_self).1
      (fun d hd => (h d (List.mem_cons_of_mem _ hd)).1) (fun d hd => (h d hd).2)
  obtain ⟨it, hit, hg⟩ := foldIts_good ps hpsne h4
  simp only [h1, hit, drainChecked_goodN hg, h2]

/-- That pure function holds only samples of the chunks: when the query range covers them the answer has nothing beyond
    `qmaxt`, and the `extra` of `C04_select_refines_anyrange` is `[]`. -/
theorem mem_rows_chunk {cs : List RChunk} {x : Sample}
    (h : x ∈ pmFoldL ((overlapSplit cs).map fun row => unionFrom 0 (row.map (·.samples)))) : ∃ c ∈ cs, x ∈ c.samples := by
  obtain ⟨L, hL, hxL⟩ := mem_pmFoldL h
  obtain ⟨row, hrow, rfl⟩ := List.mem_map.mp hL
  obtain ⟨d, hd, hxd⟩ := mem_unionFrom hxL
  obtain ⟨c, hc, rfl⟩ := List.mem_map.mp hd
  exact ⟨c, (overlapSplit_partition cs).2.subset (List.mem_flatten.mpr ⟨row, hrow, hc⟩), hxd⟩

/-- **The querier side for ANY query range.**  Read with `Next`, the deduplicated series is the
    pure penalty merge of the rows' windows `takeLe qmaxt (dropLt qmint (union of the row))`,
    followed only by samples beyond `qmaxt` (the leak of `boundedSeriesIterator.Seek`).  No
    panic, no sample lost to loop fuel. -/
theorem C04_select_refines_anyrange (l : RSeries) (qmint qmaxt : Int) (hM : minT ≤ qmaxt)
    (hne : proxyChunks qmint qmaxt (l.reps.flatMap (·.chunks)) ≠ [])
    (hok : ∀ c ∈ proxyChunks qmint qmaxt (l.reps.flatMap (·.chunks)), ChunkOK c.samples ∧ SSorted c.samples) :
    ∃ extra, selectDedup true qmint qmaxt l = some (some (pmFoldL
      ((overlapSplit (proxyChunks qmint qmaxt (l.reps.flatMap (·.chunks)))).map
        fun row => rowWindow qmint qmaxt (row.map (·.samples))) ++ extra)) ∧ ∀ x ∈ extra, qmaxt < x.t := by
  unfold selectDedup
  generalize hcs : proxyChunks qmint qmaxt (l.reps.flatMap (·.chunks)) = cs at hne hok
  simp only [List.isEmpty_eq_false_iff.mpr hne, Bool.false_eq_true, if_false]
  obtain ⟨ps, hpsne, h1, h2, h4⟩ := select_rows (G := fun it L => GoodD it qmaxt L)
    (g := rowWindow qmint qmaxt) (Q := fun d => ChunkOK d ∧ SSorted d) qmint qmaxt hne hok
    fun c row h => row_goodD qmint qmaxt c row (h c List.mem_cons_self).1
      (fun d hd => (h d (List.mem_cons_of_mem _ hd)).1) (fun d hd => (h d hd).2)
  obtain ⟨it, hit, ⟨_, extra, hdr, hex⟩⟩ := foldIts_goodD hM ps hpsne h4
  refine ⟨extra, ?_, hex⟩
  simp only [h1, hit, hdr, h2]

/-- **Without deduplication the querier side is a pure function** of the chunks the proxy hands over. -/
theorem selectRaw_pure (qmint qmaxt : Int) (r : RReplica)
    (hok : ∀ c ∈ proxyChunks qmint qmaxt r.chunks, ChunkOK c.samples ∧ SSorted c.samples) :
    selectRaw qmint qmaxt r = if (proxyChunks qmint qmaxt r.chunks).isEmpty then none
      else some (some (rowWindow qmint qmaxt ((proxyChunks qmint qmaxt r.chunks).map (·.samples)))) := by
  unfold selectRaw
  generalize proxyChunks qmint qmaxt r.chunks = cs at hok
  cases cs with
  | nil => rfl
  | cons c0 cs' =>
    have hok' : ∀ d ∈ c0.samples :: cs'.map (·.samples), ChunkOK d ∧ SSorted d :=
      List.forall_mem_map (l := c0 :: cs').mpr hok
    have := chunkSeriesIt_drain qmint qmaxt c0.samples (cs'.map (·.samples)) (hok' _ List.mem_cons_self).1
      (fun d hd => (hok' d (List.mem_cons_of_mem _ hd)).1) (fun d hd => (hok' d hd).2)
    obtain ⟨it, hit, hd⟩ := Option.map_eq_some_iff.mp this
    simp only [List.isEmpty_cons, Bool.false_eq_true, if_false, List.map_cons, hit, hd]

end Thanos.Dedup
