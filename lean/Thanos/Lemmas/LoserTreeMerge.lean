import Thanos.Model.LoserTree
import Thanos.Lemmas.LoserTreeBase
import Thanos.Lemmas.LoserTreePlay
import Thanos.Lemmas.ListFacts
/-
  Refinement proof of pkg/losertree, part 3.  `Running` is the state of a tree between two calls of `Next`, over
  the streams `ss` its leaves still have to deliver (`Delivers`).  A tree whose leaves deliver `ss` is running once
  all games are played and the root is set (`Running.of_played`) — which is what `initialize` does after `New`
  primed the leaves with the input sequences (`next_new`), and what `replayGames` does after `moveNext` took the
  head off the winner's stream (`next_running`).  The tournament makes that head minimal among the heads
  (`Running.le_head`), so what `drain` collects is a k-way merge of the inputs (`drain_next`, by induction on the
  fuel).
-/
namespace Thanos.LoserTree

variable {E : Type} {le : E → E → Prop} {t : Tree E} {n : Nat}

/-- `IsKMerge` of `Lemmas/KMerge.lean` over an arbitrary element type and order -/
inductive IsKMergeG (le : E → E → Prop) : List (List E) → List E → Prop
  | nil {ss : List (List E)} : (∀ s ∈ ss, s = []) → IsKMergeG le ss []
  | cons {ss : List (List E)} {out : List E} (i : Nat) (x : E) (rest : List E) :
      ss[i]? = some (x :: rest) →
      (∀ (j : Nat) (y : E) (r : List E), ss[j]? = some (y :: r) → le x y) →
      IsKMergeG le (ss.set i rest) out → IsKMergeG le ss (x :: out)

def stream (t : Tree E) (l : Nat) : List E :=
  if idx t l = -1 then [] else val t l :: (getNode t l).items

theorem stream_of_live {l : Nat} (h : idx t l ≠ -1) : stream t l = val t l :: (getNode t l).items :=
  if_neg h

/-- leaf `l` still has `s` to deliver; an exhausted leaf holds `m` (= `maxVal`), which is what keeps it from winning
    while another leaf is live (`Running.le_head`) -/
def Delivers (t : Tree E) (m : E) (l : Nat) (s : List E) : Prop :=
  stream t l = s ∧ (idx t l = -1 → val t l = m)

theorem Delivers.congr {t' : Tree E} {m : E} {l : Nat} {s : List E} (h : getNode t' l = getNode t l)
    (hd : Delivers t m l s) : Delivers t' m l s := by
  unfold Delivers stream idx val at hd ⊢
  rwa [h]

/-- what `moveNext` writes into a leaf -/
def advance (maxVal : E) (nd : Node E) : Node E :=
  match nd.items with
  | x :: rest => { nd with value := x, items := rest }
  | [] => { nd with value := maxVal, index := -1 }

theorem moveNext_frame (t : Tree E) (w : Nat) :
    (moveNext t w).1.nodes.length = t.nodes.length ∧ (moveNext t w).1.less = t.less ∧
    (moveNext t w).1.maxVal = t.maxVal := by
  unfold moveNext
  dsimp only
  cases (getNode t w).items <;> exact ⟨setNode_length _ _ _, rfl, rfl⟩

theorem getNode_moveNext (t : Tree E) (w q : Nat) (hw : w < t.nodes.length) :
    getNode (moveNext t w).1 q = if q = w then advance t.maxVal (getNode t w) else getNode t q := by
  have h : getNode (moveNext t w).1 q = getNode (setNode t w (advance t.maxVal (getNode t w))) q := by
    unfold moveNext advance
    dsimp only
    cases (getNode t w).items <;> rfl
  rw [h]
  by_cases e : q = w
  · rw [if_pos e, e, getNode_setNode_same t w _ hw]
  · rw [if_neg e, getNode_setNode_ne t w q _ (Ne.symm e)]

theorem delivers_advance {l : Nat} {m : E} {nd : Node E} (h : getNode t l = advance m nd)
    (hi : nd.index ≠ -1) : Delivers t m l nd.items := by
  unfold Delivers stream idx val
  rw [h]
  unfold advance
  cases nd.items with
  | nil => exact ⟨if_pos rfl, fun _ => rfl⟩
  | cons x rest => exact ⟨if_neg hi, fun e => absurd e hi⟩

/-- the loop of `New` that calls `moveNext` on the first `k` leaves -/
def primeLeaves (t : Tree E) (n k : Nat) : Tree E :=
  (List.range k).foldl (fun t i => (moveNext t (i + n)).1) t

theorem getNode_primeLeaves (t : Tree E) (n : Nat) (hlen : t.nodes.length = 2 * n) (k : Nat) (hk : k ≤ n) :
    ((primeLeaves t n k).nodes.length = 2 * n ∧ (primeLeaves t n k).less = t.less ∧
      (primeLeaves t n k).maxVal = t.maxVal) ∧
    ∀ q, getNode (primeLeaves t n k) q =
      if n ≤ q ∧ q < n + k then advance t.maxVal (getNode t q) else getNode t q := by
  induction k with
  | zero => exact ⟨⟨hlen, rfl, rfl⟩, fun q => (if_neg (by omega)).symm⟩
  | succ k ih =>
    obtain ⟨⟨h1, h2, h3⟩, h4⟩ := ih (by omega)
    obtain ⟨m1, m2, m3⟩ := moveNext_frame (primeLeaves t n k) (k + n)
    have hstep : primeLeaves t n (k + 1) = (moveNext (primeLeaves t n k) (k + n)).1 := by
      simp only [primeLeaves, List.range_succ, List.foldl_append, List.foldl_cons, List.foldl_nil]
    rw [hstep]
    refine ⟨⟨m1.trans h1, m2.trans h2, m3.trans h3⟩, fun q => ?_⟩
    rw [getNode_moveNext _ _ q (by omega), h3]
    by_cases e : q = k + n
    · rw [if_pos e, e, h4, if_neg (by omega), if_pos (by omega)]
    · rw [if_neg e, h4]
      exact ite_congr (propext (by omega)) (fun _ => rfl) (fun _ => rfl)

/-- the tree `New` allocates before it primes the leaves -/
def freshTree (seqs : List (List E)) (maxVal : E) (less : E → E → Bool) : Tree E :=
  { maxVal := maxVal, less := less, closed := [],
    nodes := List.replicate seqs.length ({ index := 0, value := maxVal, items := [] } : Node E) ++
      seqs.map (fun s => ({ index := 0, value := maxVal, items := s } : Node E)) }

theorem new_eq (seqs : List (List E)) (maxVal : E) (less : E → E → Bool) :
    new seqs maxVal less =
      if seqs.length > 0 then
        setNode (primeLeaves (freshTree seqs maxVal less) seqs.length seqs.length) 0
          { getNode (primeLeaves (freshTree seqs maxVal less) seqs.length seqs.length) 0 with index := -1 }
      else primeLeaves (freshTree seqs maxVal less) seqs.length seqs.length := rfl

theorem new_spec (seqs : List (List E)) (maxVal : E) (less : E → E → Bool) (hn : 1 ≤ seqs.length) :
    (new seqs maxVal less).nodes.length = 2 * seqs.length ∧ (new seqs maxVal less).less = less ∧
    (new seqs maxVal less).maxVal = maxVal ∧ idx (new seqs maxVal less) 0 = -1 ∧
    ∀ i (hi : i < seqs.length), getNode (new seqs maxVal less) (seqs.length + i) =
      advance maxVal { index := 0, value := maxVal, items := seqs[i] } := by
  rw [new_eq, if_pos (show seqs.length > 0 from hn)]
  have hlen0 : (freshTree seqs maxVal less).nodes.length = 2 * seqs.length := by simp [freshTree]; omega
  obtain ⟨⟨h1, h2, h3⟩, h4⟩ := getNode_primeLeaves _ _ hlen0 _ (Nat.le_refl _)
  generalize primeLeaves (freshTree seqs maxVal less) seqs.length seqs.length = t1 at *
  refine ⟨(setNode_length _ _ _).trans h1, h2, h3, ?_, fun i hi => ?_⟩
  · exact congrArg Node.index (getNode_setNode_same t1 0 _ (by omega))
  · rw [getNode_setNode_ne _ _ _ _ (by omega), h4, if_pos (by omega)]
    congr 1
    simp [getNode, freshTree, hi]

/-- what the proof needs of the comparator: it refines a total preorder `le` -/
structure OrdSpec (le : E → E → Prop) (less0 : E → E → Bool) : Prop where
  refl : ∀ a, le a a
  trans : ∀ a b c, le a b → le b c → le a c
  less1 : ∀ a b, less0 a b = true → le a b
  less2 : ∀ a b, less0 a b = false → le b a

/-- the state between two calls of `Next`: a tournament for the whole tree with its winner `w` copied into node 0,
    over leaves that deliver `ss` -/
structure Running (le : E → E → Prop) (less0 : E → E → Bool) (maxV : E) (t : Tree E) (n : Nat)
    (w : Nat) (ss : List (List E)) : Prop where
  nodes : t.nodes.length = 2 * n
  won : Won le t n 1 w
  rootIdx : idx t 0 = (w : Int)
  rootVal : val t 0 = val t w
  less : t.less = less0
  maxVal : t.maxVal = maxV
  len : ss.length = n
  leaf : ∀ i (hi : i < ss.length), Delivers t maxV (n + i) ss[i]
  proper : ∀ s ∈ ss, ∀ x ∈ s, ¬ le maxV x

variable {less0 : E → E → Bool} {maxV : E} {w : Nat} {ss : List (List E)}

theorem Running.of_played {t1 : Tree E} {r : Tree E × Nat} (hP : Played le t1 n 1 r)
    (hless : t1.less = less0) (hmax : t1.maxVal = maxV) (hlen : ss.length = n)
    (hleaf : ∀ i (hi : i < ss.length), Delivers t1 maxV (n + i) ss[i])
    (hproper : ∀ s ∈ ss, ∀ x ∈ s, ¬ le maxV x) : Running le less0 maxV (setRoot r) n r.2 ss := by
  have hw := hP.won.range.2
  have hget : getNode (setRoot r) 0 = _ := getNode_setNode_same r.1 0 _ (by have := hP.len; omega)
  refine ⟨(setNode_length _ _ _).trans hP.len, ?_, congrArg Node.index hget, ?_, hP.less.trans hless,
    hP.maxVal.trans hmax, hlen, fun i hi => (hleaf i hi).congr ?_, hproper⟩
  · exact hP.won.frame fun q hq => getNode_setNode_ne r.1 0 q _ (Nat.ne_of_lt (isDesc_ge hq))
  · exact (congrArg Node.value hget).trans (val_setNode_ne r.1 _ (show 0 ≠ r.2 by omega)).symm
  · exact (getNode_setNode_ne _ _ _ _ (by omega)).trans (hP.frame _ fun h => by omega)

theorem Running.winner (h : Running le less0 maxV t n w ss) :
    ss[w - n]? = some (stream t w) ∧ (idx t w = -1 → val t w = maxV) := by
  have hwr := h.won.range.2
  have hlt : w - n < ss.length := by rw [h.len]; omega
  have hd := h.leaf (w - n) hlt
  rw [Nat.add_sub_cancel' hwr.1] at hd
  exact ⟨(List.getElem?_eq_getElem hlt).trans (congrArg some hd.1.symm), hd.2⟩

theorem Running.winner_stream (h : Running le less0 maxV t n w ss) (hw : idx t w ≠ -1) :
    ss[w - n]? = some (val t w :: (getNode t w).items) :=
  stream_of_live hw ▸ h.winner.1

/-- the head of any stream is a leaf value, which the tournament makes not smaller than the winner's; and an
    exhausted winner would carry `maxV`, which no head reaches -/
theorem Running.le_head (ho : OrdSpec le less0) (h : Running le less0 maxV t n w ss) {j : Nat} {y : E}
    {r : List E} (hj : ss[j]? = some (y :: r)) : le (val t w) y ∧ idx t w ≠ -1 := by
  obtain ⟨hjn, hjs⟩ := List.getElem?_eq_some_iff.mp hj
  have hs : stream t (n + j) = y :: r := (h.leaf j hjn).1.trans hjs
  have hne : idx t (n + j) ≠ -1 := by
    intro he; simp [stream, he] at hs
  rw [stream_of_live hne] at hs
  have hle := h.won.min ho.refl ho.trans (l := n + j) (Nat.le_add_right n j) (by have := h.len; omega)
    (isDesc_root _ (by have := h.won.range.2; omega))
  rw [(List.cons.inj hs).1] at hle
  refine ⟨hle, fun hw => h.proper _ (List.mem_of_getElem? hj) y (List.mem_cons_self ..) ?_⟩
  rwa [h.winner.2 hw] at hle

theorem Running.kmerge_head (ho : OrdSpec le less0) (h : Running le less0 maxV t n w ss) {out : List E}
    (hrec : idx t w ≠ -1 → IsKMergeG le (ss.set (w - n) (getNode t w).items) out) :
    IsKMergeG le ss (if idx t w ≠ -1 then val t w :: out else []) := by
  by_cases hw : idx t w ≠ -1
  · rw [if_pos hw]
    exact .cons (w - n) _ _ (h.winner_stream hw) (fun j y r hj => (h.le_head ho hj).1) (hrec hw)
  · rw [if_neg hw]
    refine .nil fun s hs => ?_
    cases s with
    | nil => rfl
    | cons y r =>
      obtain ⟨j, hj⟩ := List.getElem?_of_mem hs
      exact absurd (h.le_head ho hj).2 hw

/-- the answer of `Next()` once it has updated the tree: the overall winner it leaves is not exhausted -/
def rootLive (t : Tree E) : Bool := decide (idx t (idx t 0).toNat ≠ -1)

theorem next_init (t : Tree E) (h0 : t.nodes.length ≠ 0) (h : idx t 0 = -1) :
    next t = (initTree t, rootLive (initTree t)) := by
  unfold next
  rw [if_neg h0, if_pos (show (getNode t 0).index = -1 from h)]
  rfl

theorem next_step (t : Tree E) {w : Nat} (h0 : t.nodes.length ≠ 0) (hroot : idx t 0 = (w : Int)) (hw : idx t w ≠ -1) :
    next t = (replayGames (moveNext t w).1 w, rootLive (replayGames (moveNext t w).1 w)) := by
  have hw0 : (getNode t 0).index.toNat = w := by rw [show (getNode t 0).index = w from hroot, Int.toNat_natCast]
  have h1 : ¬ (getNode t 0).index = -1 := by rw [show (getNode t 0).index = w from hroot]; omega
  unfold next
  rw [if_neg h0, if_neg h1]
  dsimp only
  rw [hw0, if_neg (show ¬ (getNode t w).index = -1 from hw)]
  rfl

theorem next_running (ho : OrdSpec le less0) (h : Running le less0 maxV t n w ss) (hw : idx t w ≠ -1) :
    ∃ t' w', next t = (t', rootLive t') ∧
      Running le less0 maxV t' n w' (ss.set (w - n) (getNode t w).items) := by
  have hlen := h.nodes
  have hwr := h.won.range.2
  obtain ⟨hmlen, hmless, hmmax⟩ := moveNext_frame t w
  have hm := fun q => getNode_moveNext t w q (by omega)
  obtain ⟨r, hr, hP⟩ := replayGames_spec ho.less1 ho.less2 h.won
    (t1 := (moveNext t w).1) (hmless.trans h.less) (hmlen.trans hlen) (fun q hq => (hm q).trans (if_neg hq))
  refine ⟨_, r.2, hr ▸ next_step t (by omega) h.rootIdx hw, Running.of_played hP (hmless.trans h.less)
    (hmmax.trans h.maxVal) (List.length_set.trans h.len) (fun i hi => ?_) (fun s hs => ?_)⟩
  · -- the leaves `moveNext` left
    rw [List.length_set] at hi
    rw [List.getElem_set]
    by_cases e : w - n = i
    · rw [if_pos e, ← h.maxVal]
      exact delivers_advance ((hm _).trans (if_pos (by omega))) hw
    · rw [if_neg e]
      exact (h.leaf i hi).congr ((hm _).trans (if_neg (by omega)))
  · rcases List.mem_or_eq_of_mem_set hs with hs | rfl
    · exact h.proper s hs
    · exact fun x hx => h.proper _ (List.mem_of_getElem? (h.winner_stream hw)) x (List.mem_cons_of_mem _ hx)

theorem drain_succ (fuel : Nat) (t : Tree E) :
    (drain (fuel + 1) t).1 = if (next t).2 = true then cur (next t).1 :: (drain fuel (next t).1).1 else [] := by
  rw [drain]
  cases next t with
  | mk t1 ok => cases ok <;> rfl

theorem drain_of_running {t' : Tree E} (hnext : next t = (t', rootLive t')) (hR : Running le less0 maxV t' n w ss)
    (fuel : Nat) :
    (drain (fuel + 1) t).1 = if idx t' w ≠ -1 then val t' w :: (drain fuel t').1 else [] := by
  rw [drain_succ, hnext, rootLive, hR.rootIdx, Int.toNat_natCast]
  exact ite_congr (propext decide_eq_true_iff) (fun _ => congrArg (· :: _) hR.rootVal) (fun _ => rfl)

theorem next_new (ho : OrdSpec le less0) (maxV : E) (seqs : List (List E))
    (hn : 1 ≤ seqs.length) (hproper : ∀ s ∈ seqs, ∀ x ∈ s, ¬ le maxV x) :
    ∃ t w, next (new seqs maxV less0) = (t, rootLive t) ∧ Running le less0 maxV t seqs.length w seqs := by
  obtain ⟨hlen, hless, hmax, hroot, hleaf⟩ := new_spec seqs maxV less0 hn
  generalize new seqs maxV less0 = t0 at *
  have hP := playGame_spec ho.less1 ho.less2 t0.nodes.length hless hlen (Nat.le_refl 1) (by omega) (by omega)
  exact ⟨_, _, initTree_eq t0 ▸ next_init t0 (by omega) hroot, Running.of_played hP hless hmax rfl
    (fun i hi => delivers_advance (hleaf i hi) (by simp)) hproper⟩

/-- `t` is a tree that `Next()` takes to a running one: `At()` shows the winner's head, which `kmerge_head` makes a
    legal first element, and the following `Next()` pops it (`next_running`) -/
theorem drain_next (ho : OrdSpec le less0) (fuel : Nat) {t' : Tree E} (hnext : next t = (t', rootLive t'))
    (h : Running le less0 maxV t' n w ss) (hf : ss.flatten.length < fuel) : IsKMergeG le ss (drain fuel t).1 := by
  induction fuel generalizing t t' w ss with
  | zero => exact absurd hf (Nat.not_lt_zero _)
  | succ fuel ih =>
    rw [drain_of_running hnext h]
    refine h.kmerge_head ho (fun hw => ?_)
    obtain ⟨t2, w2, hnext2, h2⟩ := next_running ho h hw
    have := (perm_flatten_set (h.winner_stream hw)).length_eq
    rw [List.length_cons] at this
    exact ih hnext2 h2 (by omega)

/-- **pkg/losertree refines the k-way merge relation**: for any number of sequences of any
    length, whose elements are strictly below `maxVal`, with a comparator that refines a total
    preorder, the sequence `Next()/At()` delivers is a k-way merge of the inputs -/
theorem merge_isKMergeG {less0 : E → E → Bool} (ho : OrdSpec le less0) (maxV : E) (seqs : List (List E))
    (hproper : ∀ s ∈ seqs, ∀ x ∈ s, ¬ le maxV x) : IsKMergeG le seqs (merge seqs maxV less0) := by
  unfold merge
  by_cases hn : seqs.length = 0
  · have : seqs = [] := List.length_eq_zero_iff.mp hn
    subst this
    exact IsKMergeG.nil (by simp)
  · obtain ⟨t, w, hnext, h⟩ := next_new ho maxV seqs (by omega) hproper
    exact drain_next ho _ hnext h (by rw [List.length_flatten]; exact Nat.lt_succ_self _)

end Thanos.LoserTree
