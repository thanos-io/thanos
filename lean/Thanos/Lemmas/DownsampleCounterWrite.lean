import Thanos.Lemmas.DownsampleCounter
/-
  For C37, the writer: one call of downsampleBatch.  Over any time-ordered buffer it emits, at every
  window timestamp, the reset-adjusted counter of the buffer up to that timestamp; if that agrees with
  the adjusted counter of the raw samples `raw` the buffer stands for, the sub-chunk written is
  `ctrChunk raw` (`batch_ctrChunk`).  At level 1 the buffer is a batch of raw samples
  (`floatBatch_counter`); from level 2 on it holds adjusted values read back from finer chunks, and
  agrees with `raw` because coarser windows are unions of finer ones (`adjAt_track_eq`).
-/
namespace Thanos.Downsample

/-- the samples up to the emission timestamp of the run `wg` are the runs up to `wg` -/
theorem filter_runs_prefix (r : Int) (hr : 0 < r) {b : List Pt} {lastT : Int} (hs : Sorted b) (hle : ∀ p ∈ b, p.1 ≤ lastT)
    {P B : List (Int × List Pt)} {wg : Int × List Pt} (hruns : runs r b = P ++ B) (hP : P.getLast? = some wg) :
    b.filter (fun p => p.1 ≤ min wg.1 lastT) = P.flatMap (·.2) := by
  have hkeys := List.pairwise_append.mp (hruns ▸ runs_keys_sorted r hr b (hs.imp Int.le_of_lt))
  have hwin : ∀ g ∈ P ++ B, ∀ p ∈ g.2, currentWindow p.1 r = g.1 := hruns ▸ runs_window r b
  have hsplit : b = P.flatMap (·.2) ++ B.flatMap (·.2) := by rw [← List.flatMap_append, ← hruns, runs_flatten]
  have hwg := List.mem_append_left B (List.mem_of_getLast? hP)
  rw [hsplit]
  refine filter_le_split _ _ _ (fun p hp => ?_) (fun p hp => ?_)
  · -- a sample of a run up to `wg` is in a window ending at or before `wg.1`
    obtain ⟨g', hg', hpg'⟩ := List.mem_flatMap.mp hp
    have h1 : p.1 ≤ g'.1 := hwin g' (List.mem_append_left _ hg') p hpg' ▸ currentWindow_ge hr
    have h2 : g'.1 ≤ wg.1 := (rel_getLast? hkeys.1 hP g' hg').elim (fun h => h ▸ Int.le_refl _) Int.le_of_lt
    exact Int.le_min.mpr ⟨Int.le_trans h1 h2, hle p (hsplit ▸ List.mem_append_left _ hp)⟩
  · -- a sample of a later run lies beyond `wg.1`, the end of the window of some sample `x` of `wg`
    obtain ⟨g', hg', hpg'⟩ := List.mem_flatMap.mp hp
    obtain ⟨x, hx⟩ := List.exists_mem_of_ne_nil _ (runs_ne_nil r b wg (hruns ▸ hwg))
    have hxw := hwin wg hwg x hx
    refine Int.lt_of_le_of_lt (Int.min_le_left ..) (Int.not_le.mp fun h => ?_)
    have := currentWindow_le_of_le hr (hxw ▸ h)
    rw [hwin g' (List.mem_append_right _ hg') p hpg', hxw] at this
    exact absurd this (Int.not_le.mpr (hkeys.2.2 wg (List.mem_of_getLast? hP) g' hg'))

/-- the counter emitted for a run is the adjusted counter of the batch up to the run's emission timestamp -/
theorem specEmit_counter (r : Int) (hr : 0 < r) (b : List Pt) (lastT : Int)
    (hs : Sorted b) (hle : ∀ p ∈ b, p.1 ≤ lastT) :
    ∀ (gs A : List (Int × List Pt)), runs r b = A ++ gs →
      (specEmit lastT gs ((A.flatMap (·.2)).map (·.2))).map (fun e => (e.1, e.2.counter)) =
        gs.map (fun g => (min g.1 lastT, adjAt b (min g.1 lastT))) := by
  intro gs
  induction gs with
  | nil => intro A _; rfl
  | cons wg gs ih =>
    intro A hruns
    obtain ⟨w, g⟩ := wg
    have hgne : g ≠ [] := runs_ne_nil r b (w, g) (hruns ▸ List.mem_append_right _ (List.mem_cons_self ..))
    have hruns' : runs r b = (A ++ [(w, g)]) ++ gs := by rw [hruns, List.append_assoc]; rfl
    have hnext := ih (A ++ [(w, g)]) hruns'
    have hhist : ((A ++ [(w, g)]).flatMap (·.2)).map (·.2) = (A.flatMap (·.2)).map (·.2) ++ g.map (·.2) := by
      rw [List.flatMap_append, List.flatMap_singleton, List.map_append]
    rw [hhist] at hnext
    rw [specEmit, List.map_cons, List.map_cons, hnext,
      snap_counter _ _ (fun hc => hgne (List.map_eq_nil_iff.mp (List.append_eq_nil_iff.mp hc).2)),
      adjAt, filter_runs_prefix r hr hs hle hruns' List.getLast?_concat, hhist]

/-- the emission timestamps of a batch -/
def batchTs (r : Int) (b : List Pt) (lastT : Int) : List Int := (runs r b).map fun g => min g.1 lastT

theorem mem_batchTs {r : Int} {b : List Pt} {lastT t : Int} :
    t ∈ batchTs r b lastT ↔ ∃ p ∈ b, t = min (currentWindow p.1 r) lastT := by
  rw [batchTs, List.mem_map]
  constructor
  · rintro ⟨g, hg, rfl⟩
    obtain ⟨x, hx⟩ := List.exists_mem_of_ne_nil _ (runs_ne_nil r b g hg)
    exact ⟨x, runs_flatten r b ▸ List.mem_flatMap.mpr ⟨g, hg, hx⟩, by rw [runs_window r b g hg x hx]⟩
  · rintro ⟨p, hp, rfl⟩
    obtain ⟨g, hg, hpg⟩ := List.mem_flatMap.mp ((runs_flatten r b).symm ▸ hp)
    exact ⟨g, hg, by rw [runs_window r b g hg p hpg]⟩

theorem downsampleBatch_counter (r : Int) (hr : 0 < r) {b : List Pt} {lastT lv : Int}
    (hlast : b.getLast? = some (lastT, lv)) (h0 : ∀ p ∈ b, minInt64 < p.1) (hs : Sorted b) :
    ∃ out, downsampleBatch b r = some (out, lastT) ∧
      out.map (fun e => (e.1, e.2.counter)) = (batchTs r b lastT).map fun t => (t, adjAt b t) := by
  have hle := le_getLast_of_pairwise (hs.imp Int.le_of_lt) hlast
  refine ⟨_, downsampleBatch_runs r hr b lastT lv hlast h0 (hs.imp Int.le_of_lt), ?_⟩
  refine (specEmit_counter r hr b lastT hs hle (runs r b) [] rfl).trans ?_
  rw [batchTs, List.map_map]
  rfl

theorem batchTs_ok (r : Int) (hr : 0 < r) {b : List Pt} {t0 v0 lastT lv : Int}
    (hf : b.head? = some (t0, v0)) (hlast : b.getLast? = some (lastT, lv)) (h0 : ∀ p ∈ b, minInt64 < p.1)
    (hs : Sorted b) :
    batchTs r b lastT ≠ [] ∧ (batchTs r b lastT).Pairwise (· < ·) ∧ (∀ t ∈ batchTs r b lastT, t0 ≤ t) ∧
      (batchTs r b lastT).getLast? = some lastT := by
  obtain ⟨rest, rfl⟩ := List.head?_eq_some_iff.mp hf
  have hs' := hs.imp Int.le_of_lt
  have hle := le_getLast_of_pairwise hs' hlast
  obtain ⟨q2, q3⟩ := runs_ts r lastT hr hs' hle
  -- the last snapshot is emitted at the batch's last timestamp
  have q4 := (downsampleBatch_loopSegs r hr t0 v0 rest lastT lv hlast fun p hp => ⟨h0 p hp, hle p hp⟩).2
  rw [loopSegs_eq_runs r lastT hr hs' hle] at q4
  exact ⟨(fun h => by rw [batchTs] at h; rw [h] at q4; cases q4), q2, q3, q4⟩

/-- `buf` tracks the raw samples `raw`: same first sample and last timestamp, and at its own emission
    timestamps its adjusted counter is that of `raw` (`hkey`).  What downsampleBatch emits, put between
    the first raw sample and the last raw value, is then `ctrChunk raw`. -/
theorem batch_ctrChunk (r : Int) (hr : 0 < r) {raw buf : List Pt} {t0 v0 lt lv lv' : Int}
    (hrs : Sorted raw) (hrv : ∀ p ∈ raw, 0 ≤ p.2)
    (hf : raw.head? = some (t0, v0)) (hl : raw.getLast? = some (lt, lv))
    (hbf : buf.head? = some (t0, v0)) (hbl : buf.getLast? = some (lt, lv'))
    (h0 : ∀ p ∈ buf, minInt64 < p.1) (hs : Sorted buf)
    (hkey : ∀ t ∈ batchTs r buf lt, adjAt buf t = adjAt raw t) :
    SegOK raw (batchTs r buf lt) ∧
    ∃ out, downsampleBatch buf r = some (out, lt) ∧
      (t0, v0) :: out.map (fun e => (e.1, e.2.counter)) ++ [(lt, lv)] = ctrChunk raw (batchTs r buf lt) := by
  obtain ⟨q1, q2, q3, q4⟩ := batchTs_ok r hr hbf hbl h0 hs
  obtain ⟨out, hout, hctr⟩ := downsampleBatch_counter r hr hbl h0 hs
  refine ⟨⟨hrs, (fun hc => by rw [hc] at hf; cases hf), hrv, q1, q2,
    fun t ht f hf' => Option.some.inj (hf.symm.trans hf') ▸ q3 t ht,
    fun l hl' => Option.some.inj (hl.symm.trans hl') ▸ q4⟩, out, hout, ?_⟩
  rw [hctr, List.map_congr_left fun t ht => congrArg (t, ·) (hkey t ht)]
  exact (ctrChunk_eq _ hf hl).symm

/-- every raw sample of a batch is covered by one of the batch's emission timestamps, inside the
    sample's own window -/
theorem batchTs_cover (r : Int) (hr : 0 < r) {b : List Pt} {t0 v0 lt lv : Int} (hh : b.head? = some (t0, v0))
    (hl : b.getLast? = some (lt, lv)) (hs : Sorted b) :
    ∀ u ∈ b, ∃ e ∈ segTs b (batchTs r b lt), u.1 ≤ e ∧ e ≤ currentWindow u.1 r := by
  intro u hu
  obtain ⟨ht0, hle⟩ : t0 ≤ u.1 ∧ u.1 ≤ lt := bounds_of_pairwise (fun p : Pt => p.1) hs hh hl u hu
  have hmem : min (currentWindow u.1 r) lt ∈ batchTs r b lt := mem_batchTs.mpr ⟨u, hu, rfl⟩
  have hge : u.1 ≤ min (currentWindow u.1 r) lt := Int.le_min.mpr ⟨currentWindow_ge hr, hle⟩
  refine ⟨_, ?_, hge, Int.min_le_left ..⟩
  rw [segTs_eq _ hh, List.mem_cons]
  by_cases he : min (currentWindow u.1 r) lt = t0
  · exact Or.inl he
  · exact Or.inr (List.mem_filter.mpr ⟨hmem, decide_eq_true (Int.lt_iff_le_and_ne.mpr ⟨Int.le_trans ht0 hge, Ne.symm he⟩)⟩)

/-- level 1: the buffer is the batch of raw samples itself -/
theorem floatBatch_counter (r : Int) (hr : 0 < r) {b : List Pt} {t0 v0 lt lv : Int} (hf : b.head? = some (t0, v0))
    (hl : b.getLast? = some (lt, lv)) (h0 : ∀ p ∈ b, minInt64 < p.1) (hs : Sorted b) (hv : ∀ p ∈ b, 0 ≤ p.2) :
    SegOK b (batchTs r b lt) ∧ (∀ u ∈ b, ∃ e ∈ segTs b (batchTs r b lt), u.1 ≤ e ∧ e ≤ currentWindow u.1 r) ∧
      ∀ c, floatBatch b r = some c → c.counter = ctrChunk b (batchTs r b lt) := by
  obtain ⟨hok, out, hout, hctr⟩ := batch_ctrChunk r hr hs hv hf hl hf hl h0 hs (fun _ _ => rfl)
  refine ⟨hok, batchTs_cover r hr hf hl hs, fun c hc => ?_⟩
  simp only [floatBatch, hf, hl, hout, Option.some.injEq] at hc
  exact hc ▸ hctr

/-- re-aggregating an already adjusted series; `hclosed`: every raw sample at or before `t` is covered by a
    buffer timestamp at or before `t` -/
theorem adjAt_buf_eq (raw : List Pt) (Ts : List Int) (t : Int) (hts : Ts.Pairwise (· < ·))
    (hmono : Ts.Pairwise fun a b => adjAt raw a ≤ adjAt raw b) {e0 : Int} (he0 : e0 ∈ Ts) (he0t : e0 ≤ t)
    (hclosed : ∀ u ∈ raw, u.1 ≤ t → ∃ e ∈ Ts, u.1 ≤ e ∧ e ≤ t) :
    adjAt (Ts.map fun e => (e, adjAt raw e)) t = adjAt raw t := by
  have hmem : ∀ e, e ∈ Ts.filter (· ≤ t) ↔ e ∈ Ts ∧ e ≤ t := fun e => by rw [List.mem_filter, decide_eq_true_iff]
  -- the buffer timestamps up to `t` are `x :: xs`; no reset along them: the buffer's adjusted counter is its last value
  obtain ⟨x, xs, hF⟩ := List.exists_cons_of_ne_nil (List.ne_nil_of_mem ((hmem e0).mpr ⟨he0, he0t⟩))
  have hleft : adjAt (Ts.map fun e => (e, adjAt raw e)) t = adjAt raw (xs.getLastD x) := by
    rw [adjAt, List.filter_map, List.map_map]
    show adjusted ((Ts.filter (· ≤ t)).map (adjAt raw)) = _
    rw [hF, List.map_cons, adjusted_of_mono _ _ (List.pairwise_map (l := x :: xs) |>.mpr (hF ▸ hmono.filter _)),
      List.getLastD_map]
  -- the raw samples up to `t` are those up to that last timestamp
  have hl := (hmem _).mp (hF ▸ List.getLastD_mem_cons (l := xs) (a := x))
  have hmax := bounds_of_pairwise id (b := xs.getLastD x) (hF ▸ hts.filter _) rfl (by rw [List.getLast?_cons, List.getLastD_eq_getLast?])
  rw [hleft, adjAt, adjAt]
  congr 2
  refine List.filter_congr fun u hu => decide_eq_decide.mpr ⟨fun h => Int.le_trans h hl.2, fun h => ?_⟩
  obtain ⟨e, he, hue, het⟩ := hclosed u hu h
  exact Int.le_trans hue (hmax e (hF ▸ (hmem e).mpr ⟨he, het⟩)).2

/-- a buffer that tracks the raw counter at resolution `r1`, re-aggregated at a coarser `r2`: windows of
    `r2` contain those of `r1`, so at each emission timestamp of the coarser resolution the cover of every
    earlier raw sample is in the buffer too -/
theorem adjAt_track_eq {r1 r2 : Int} (hr2 : 0 < r2) (hnest : ∀ t, currentWindow t r1 ≤ currentWindow t r2)
    {raw : List Pt} {Ts : List Int} {lt : Int} (hs : Sorted raw) (hv : ∀ p ∈ raw, 0 ≤ p.2)
    (hts : Ts.Pairwise (· < ·)) (htb : ∀ t ∈ Ts, t ≤ lt)
    (hcover : ∀ u ∈ raw, ∃ e ∈ Ts, u.1 ≤ e ∧ e ≤ currentWindow u.1 r1) :
    ∀ t ∈ batchTs r2 (Ts.map fun t => (t, adjAt raw t)) lt,
      adjAt (Ts.map fun t => (t, adjAt raw t)) t = adjAt raw t := by
  intro t ht
  obtain ⟨x, hxb, rfl⟩ := mem_batchTs.mp ht
  obtain ⟨tx, htx, rfl⟩ := List.mem_map.mp hxb
  refine adjAt_buf_eq raw Ts _ hts (hts.imp fun hab => adjAt_mono hs hv (Int.le_of_lt hab)) htx
    (Int.le_min.mpr ⟨currentWindow_ge hr2, htb tx htx⟩) fun u hu hut => ?_
  obtain ⟨e, he, hue, hew⟩ := hcover u hu
  have h1 := currentWindow_le_of_le hr2 (Int.le_trans hut (Int.min_le_left ..))
  exact ⟨e, he, hue, Int.le_min.mpr ⟨Int.le_trans hew (Int.le_trans (hnest u.1) h1), htb e he⟩⟩

end Thanos.Downsample
