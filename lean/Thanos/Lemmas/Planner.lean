import Thanos.Model.Planner
/-
  What `plan` returns (C30).  A plan is nothing, or the overlapping blocks (none or at least two of them; none when the
  group is `NonOverlapping`), or a contiguous piece of the not-excluded blocks before the newest: a run of at least two
  inside one part of `splitByRange`, hence inside one aligned range (`selectMetas_spec`, `exclScan_spec`,
  `splitByRange_fits`), or one block with many tombstones (`tombScan_spec`).  That is `plan_branches`; `plan_spec`,
  `plan_infix` and `plan_one_range` are what the clauses of Props/C30 and the loops of Lemmas/PlannerLoops read of it.
-/
namespace Thanos.Planner

theorem overlapGo_spec (g : Int) (p : Meta) (started : Bool) (rest : List Meta) :
    (overlapGo g p started rest).Sublist (if started then rest else p :: rest) ∧
    (started = false → overlapGo g p started rest = [] ∨ 2 ≤ (overlapGo g p started rest).length) := by
  fun_induction overlapGo g p started rest with
  | case1 | case3 => exact ⟨List.nil_sublist _, fun _ => Or.inl rfl⟩
  | case2 g p started m rest _ _ ih =>
    cases started
    · exact ⟨(ih.1.cons_cons m).cons_cons p, fun _ => Or.inr (Nat.le_add_left 2 _)⟩
    · exact ⟨ih.1.cons_cons m, nofun⟩
  | case4 g p started m rest _ _ hs ih =>
    rw [if_neg hs]
    exact ⟨ih.1.cons p, fun _ => ih.2 rfl⟩

theorem selectOverlapping_spec : ∀ (ms : List Meta),
    (selectOverlapping ms).Sublist ms ∧ (selectOverlapping ms = [] ∨ 2 ≤ (selectOverlapping ms).length)
  | [] => ⟨List.nil_sublist _, Or.inl rfl⟩
  | m :: rest => (overlapGo_spec m.max m false rest).imp_right (· rfl)

def NonOverlapping (ms : List Meta) : Prop := ms.Pairwise (fun a b => a.max ≤ b.min)

instance (ms : List Meta) : Decidable (NonOverlapping ms) := by unfold NonOverlapping; infer_instance

theorem overlapGo_nil_of_pairwise {g : Int} {p : Meta} {started : Bool} {rest : List Meta}
    (hg : ∀ b ∈ rest, g ≤ b.min) (hp : NonOverlapping rest) : overlapGo g p started rest = [] := by
  fun_induction overlapGo g p started rest with
  | case1 | case3 => rfl
  | case2 _ _ _ m _ _ hlt => exact absurd (hg m List.mem_cons_self) (Int.not_le.mpr hlt)
  | case4 g _ _ m rest _ _ _ ih =>
    have hp' := List.pairwise_cons.mp hp
    refine ih (fun b hb => ?_) hp'.2
    have h1 := hg b (List.mem_cons_of_mem _ hb)
    have h2 := hp'.1 b hb
    show (if m.max > g then m.max else g) ≤ b.min
    split <;> omega

theorem selectOverlapping_nil_of_nonOverlapping : ∀ (ms : List Meta), NonOverlapping ms → selectOverlapping ms = []
  | [], _ => rfl
  | _ :: _, h => overlapGo_nil_of_pairwise (List.pairwise_cons.mp h).1 (List.pairwise_cons.mp h).2

theorem selectOverlapping_notExcluded_nil (excl : Excl) {ms : List Meta} (h : NonOverlapping ms) :
    selectOverlapping (notExcluded excl ms) = [] :=
  selectOverlapping_nil_of_nonOverlapping _ (List.Pairwise.sublist List.filter_sublist h)

/-- what `exclScan` selects from a part `ms` (`exclScan_spec`) -/
def GoodRun (excl : Excl) (ms r : List Meta) : Prop :=
  r <:+: ms ∧ 2 ≤ r.length ∧ ∀ b ∈ r, excl b.id = false

theorem GoodRun.mono {excl : Excl} {p ms r : List Meta} (h : GoodRun excl p r) (hp : p <:+: ms) :
    GoodRun excl ms r := ⟨h.1.trans hp, h.2⟩

/-- the choice both `scan` and `exclScan` make: the front run `q` if it has two blocks, else the later run `o` -/
theorem GoodRun.of_scan {excl : Excl} {p q r : List Meta} {o : Option (List Meta)}
    (hq : q <+: p ∧ ∀ b ∈ q, excl b.id = false) (ho : ∀ r, o = some r → GoodRun excl p r)
    (h : (if q.length > 1 then some q else o) = some r) : GoodRun excl p r := by
  split at h
  · cases h
    exact ⟨hq.1.isInfix, by omega, hq.2⟩
  · exact ho r h

theorem scan_spec (excl : Excl) (p : List Meta) :
    ((scan excl p).1 <+: p ∧ ∀ b ∈ (scan excl p).1, excl b.id = false) ∧
    ∀ r, (scan excl p).2 = some r → GoodRun excl p r := by
  fun_induction scan excl p with
  | case1 => exact ⟨⟨List.nil_prefix, nofun⟩, nofun⟩
  | case2 m rest _ _ ih =>
    exact ⟨⟨List.nil_prefix, nofun⟩, fun r hr => (GoodRun.of_scan ih.1 ih.2 hr).mono (List.suffix_cons m rest).isInfix⟩
  | case3 m rest _ he ih =>
    exact ⟨⟨(List.prefix_cons_inj m).mpr ih.1.1, List.forall_mem_cons.mpr ⟨Bool.eq_false_iff.mpr he, ih.1.2⟩⟩,
      fun r hr => (ih.2 r hr).mono (List.suffix_cons m rest).isInfix⟩

theorem exclScan_spec {excl : Excl} {p r : List Meta} (h : exclScan excl p = some r) : GoodRun excl p r :=
  GoodRun.of_scan (scan_spec excl p).1 (scan_spec excl p).2 h

theorem rangeStart_spec (tr mint : Int) (htr : 0 < tr) : ∃ k : Int, rangeStart tr mint = tr * k ∧ tr * k ≤ mint := by
  unfold rangeStart
  by_cases h : mint ≥ 0
  · simp only [h, if_true]
    refine ⟨Int.tdiv mint tr, rfl, ?_⟩
    have h1 := Int.mul_tdiv_add_tmod mint tr
    have h2 := Int.tmod_nonneg tr h
    omega
  · simp only [h, if_false]
    refine ⟨Int.tdiv (mint - tr + 1) tr, rfl, ?_⟩
    have h1 := Int.mul_tdiv_add_tmod (mint - tr + 1) tr
    have h2 := Int.lt_tmod_of_pos (mint - tr + 1) htr
    omega

theorem split_none_cons (tr : Int) (m : Meta) (rest : List Meta) :
    split tr none (m :: rest) =
      if m.max > rangeStart tr m.min + tr then ([], (split tr none rest).2)
      else ([], (m :: (split tr (some (rangeStart tr m.min + tr)) rest).1) ::
                  (split tr (some (rangeStart tr m.min + tr)) rest).2) := rfl

theorem split_some_cons (tr hi : Int) (m : Meta) (rest : List Meta) :
    split tr (some hi) (m :: rest) =
      if m.max > hi then split tr none (m :: rest)
      else (m :: (split tr (some hi) rest).1, (split tr (some hi) rest).2) := rfl

/-- a part of `splitByRange`: a non-empty contiguous piece whose blocks all END within the aligned range of the first
    block; that they start in it is the order of the input (`splitByRange_fits`) -/
def Part (tr : Int) (ms g : List Meta) : Prop :=
  g <:+: ms ∧ ∃ m g', g = m :: g' ∧ ∀ b ∈ g, b.max ≤ rangeStart tr m.min + tr

theorem split_none_fst (tr : Int) : ∀ (ms : List Meta), (split tr none ms).1 = []
  | [] => rfl
  | m :: rest => by
    rw [split_none_cons]
    split <;> rfl

theorem split_spec (tr : Int) (ms : List Meta) : ∀ (st : Option Int),
    ((split tr st ms).1 <+: ms ∧ ∀ hi, st = some hi → ∀ b ∈ (split tr st ms).1, b.max ≤ hi) ∧
    ∀ g ∈ (split tr st ms).2, Part tr ms g := by
  induction ms with
  | nil => exact fun _ => ⟨⟨List.nil_prefix, fun _ _ _ hb => nomatch hb⟩, nofun⟩
  | cons m rest ih =>
    intro st
    have later : ∀ st', ∀ g ∈ (split tr st' rest).2, Part tr (m :: rest) g :=
      fun st' g hg => ⟨((ih st').2 g hg).1.trans (List.suffix_cons m rest).isInfix, ((ih st').2 g hg).2⟩
    have hnil := split_none_fst tr (m :: rest)
    have fresh : ∀ g ∈ (split tr none (m :: rest)).2, Part tr (m :: rest) g := by
      rw [split_none_cons]
      split
      · exact later none
      · rename_i hfit
        intro g hg
        rcases List.mem_cons.mp hg with rfl | hg
        · exact ⟨((List.prefix_cons_inj m).mpr (ih _).1.1).isInfix, m, _, rfl,
            List.forall_mem_cons.mpr ⟨Int.not_lt.mp hfit, (ih _).1.2 _ rfl⟩⟩
        · exact later _ g hg
    cases st with
    | none => exact ⟨⟨hnil ▸ List.nil_prefix, fun _ h => nomatch h⟩, fresh⟩
    | some hi =>
      rw [split_some_cons]
      split
      · exact ⟨⟨hnil ▸ List.nil_prefix, fun _ _ b hb => by rw [hnil] at hb; cases hb⟩, fresh⟩
      · rename_i hin
        refine ⟨⟨(List.prefix_cons_inj m).mpr (ih _).1.1, fun hi' hh => ?_⟩, later _⟩
        cases hh
        exact List.forall_mem_cons.mpr ⟨Int.not_lt.mp hin, (ih _).1.2 _ rfl⟩

theorem splitByRange_part {ms g : List Meta} {tr : Int} (hg : g ∈ splitByRange ms tr) : Part tr ms g :=
  (split_spec tr ms none).2 g hg

def SortedByMin (ms : List Meta) : Prop := ms.Pairwise (fun a b => a.min ≤ b.min)

theorem splitByRange_fits {ms g : List Meta} {tr : Int} (htr : 0 < tr) (hs : SortedByMin ms)
    (hg : g ∈ splitByRange ms tr) : ∃ k : Int, ∀ b ∈ g, tr * k ≤ b.min ∧ b.max ≤ tr * k + tr := by
  obtain ⟨hinf, m, g', rfl, hmax⟩ := splitByRange_part hg
  obtain ⟨k, hk, hle⟩ := rangeStart_spec tr m.min htr
  -- the first block starts at or after `tr·k`, the others start after it
  have hsg := List.pairwise_cons.mp (hs.sublist hinf.sublist)
  refine ⟨k, fun b hb => ⟨?_, hk ▸ hmax b hb⟩⟩
  rcases List.mem_cons.mp hb with rfl | hb
  · exact hle
  · exact Int.le_trans hle (hsg.1 b hb)

theorem pickPart_spec {excl : Excl} {hi iv : Int} {parts : List (List Meta)} {r : List Meta}
    (h : pickPart excl hi iv parts = some r) : ∃ p ∈ parts, exclScan excl p = some r := by
  fun_induction pickPart excl hi iv parts with
  | case1 => cases h
  | case5 p _ _ _ _ _ _ _ _ _ hr => exact ⟨p, List.mem_cons_self, h ▸ hr⟩
  | _ =>
    -- every other way through the loop body goes on to the remaining parts
    rename_i ih
    exact (ih h).imp fun _ hq => ⟨List.mem_cons_of_mem _ hq.1, hq.2⟩

theorem pickRange_spec {excl : Excl} {hi : Int} {ms : List Meta} {ivs : List Int} {r : List Meta}
    (h : pickRange excl hi ms ivs = some r) :
    r = [] ∨ ∃ iv ∈ ivs, ∃ p ∈ splitByRange ms iv, exclScan excl p = some r := by
  fun_induction pickRange excl hi ms ivs with
  | case1 => exact Or.inl (Option.some.inj h).symm
  | case2 => cases h
  | case3 iv _ _ _ hr => exact Or.inr ⟨iv, List.mem_cons_self, pickPart_spec (h ▸ hr)⟩
  | case4 _ _ _ _ ih => exact (ih h).imp_right fun ⟨iv', hiv', h'⟩ => ⟨iv', List.mem_cons_of_mem _ hiv', h'⟩

theorem selectMetas_spec {ranges : List Int} {excl : Excl} {ms r : List Meta} :
    selectMetas ranges excl ms = some r →
    r = [] ∨ ∃ iv ∈ ranges.tail, ∃ p ∈ splitByRange ms iv, exclScan excl p = some r := by
  -- arms: fewer than two ranges; no blocks; the loop over `ranges[1:]`
  fun_cases selectMetas ranges excl ms with
  | case1 | case2 => exact fun h => Or.inl (Option.some.inj h).symm
  | case3 => exact pickRange_spec

theorem tombScan_spec {ranges : List Int} {l r : List Meta} (h : tombScan ranges l = some r) :
    r = [] ∨ ∃ b ∈ l, r = [b] ∧ manyTombstones b = true ∧
      ∃ mid, ranges[ranges.length / 2]? = some mid ∧ mid ≤ b.max - b.min := by
  fun_induction tombScan ranges l with
  | case1 | case3 => exact Or.inl (Option.some.inj h).symm
  | case2 => cases h
  | case4 m _ mid hmid hlen ht =>
    cases h
    exact Or.inr ⟨m, List.mem_cons_self, rfl, ht, mid, hmid, Int.not_lt.mp hlen⟩
  | case5 _ _ _ _ _ _ ih => exact (ih h).imp_right fun ⟨b, hb, h'⟩ => ⟨b, List.mem_cons_of_mem _ hb, h'⟩

/-- a single-block plan is only made for a block of at least the middle range with > 5 % tombstones -/
def TombstonePlan (ranges : List Int) (r : List Meta) : Prop :=
  ∃ b, r = [b] ∧ manyTombstones b = true ∧ ∃ mid, ranges[ranges.length / 2]? = some mid ∧ mid ≤ b.max - b.min

theorem tombCandidates (excl : Excl) {ms : List Meta} {last : Meta} (hl : ms.getLast? = some last) :
    ∀ b ∈ (if excl last.id then notExcluded excl ms else (notExcluded excl ms).dropLast),
      b ∈ ms.dropLast ∧ excl b.id = false := by
  obtain ⟨init, rfl⟩ := List.getLast?_eq_some_iff.mp hl
  intro b hb
  rw [List.dropLast_concat]
  cases he : excl last.id <;>
    simpa [he, notExcluded, List.filter_append, List.filter_cons, List.mem_filter] using hb

theorem plan_branches {ranges : List Int} {excl : Excl} {ms r : List Meta}
    (h : plan ranges excl ms = some r) :
    r = [] ∨ r = selectOverlapping (notExcluded excl ms) ∨
    r <:+: ms.dropLast ∧ (∀ b ∈ r, excl b.id = false) ∧
      ((2 ≤ r.length ∧ ∃ iv ∈ ranges.tail, ∃ p ∈ splitByRange ms.dropLast iv, r <:+: p) ∨ TombstonePlan ranges r) := by
  revert h
  -- arms: 1 overlapping blocks found; 2 no blocks, 3 `selectMetas` divides by zero (Go panics); 4 `selectMetas` returns a
  -- plan; 5 the tombstone scan
  fun_cases plan ranges excl ms with
  | case1 => exact fun h => Or.inr (Or.inl (Option.some.inj h).symm)
  | case2 | case3 => exact nofun
  | case4 _ _ _ _ _ _ hsel =>
    rintro ⟨⟩
    refine (selectMetas_spec hsel).imp_right fun ⟨iv, hiv, p, hp, hs⟩ => Or.inr ?_
    obtain ⟨hinf, h2, hex⟩ := exclScan_spec hs
    exact ⟨hinf.trans (splitByRange_part hp).1, hex, Or.inl ⟨h2, iv, hiv, p, hp, hinf⟩⟩
  | case5 _ _ _ last hlast =>
    refine fun h => (tombScan_spec h).imp_right fun ⟨b, hb, hr, ht⟩ => Or.inr ?_
    obtain ⟨hbm, hbe⟩ := tombCandidates excl hlast b (List.mem_reverse.mp hb)
    obtain ⟨s, t, hst⟩ := List.append_of_mem hbm
    exact hr ▸ ⟨⟨s, t, by simp [hst]⟩, List.forall_mem_singleton.mpr hbe, Or.inr ⟨b, rfl, ht⟩⟩

theorem plan_spec {ranges : List Int} {excl : Excl} {ms r : List Meta}
    (h : plan ranges excl ms = some r) :
    r.Sublist ms ∧ (∀ b ∈ r, excl b.id = false) ∧ (r = [] ∨ 2 ≤ r.length ∨ TombstonePlan ranges r) := by
  rcases plan_branches h with rfl | rfl | ⟨hinf, hex, hsz⟩
  · exact ⟨List.nil_sublist _, nofun, Or.inl rfl⟩
  · obtain ⟨hsub, hlen⟩ := selectOverlapping_spec (notExcluded excl ms)
    exact ⟨hsub.trans List.filter_sublist,
      fun b hb => by simpa [notExcluded] using (List.mem_filter.mp (hsub.subset hb)).2, hlen.imp_right Or.inl⟩
  · exact ⟨hinf.sublist.trans (List.dropLast_sublist ms), hex, Or.inr (hsz.imp_left And.left)⟩

theorem plan_infix {ranges : List Int} {excl : Excl} {ms r : List Meta}
    (hov : selectOverlapping (notExcluded excl ms) = []) (h : plan ranges excl ms = some r) : r <:+: ms.dropLast := by
  rcases plan_branches h with rfl | rfl | ⟨hinf, _⟩
  · exact List.nil_infix
  · exact hov ▸ List.nil_infix
  · exact hinf

/-- Outside the overlap branch a plan of two or more blocks is a run inside one part of `splitByRange`, hence inside
    one aligned range of a configured size.  The blocks need only be ordered by min time (`Planner.Plan`'s
    precondition) and the ranges positive; aligned or non-overlapping input is not needed. -/
theorem plan_one_range {ranges : List Int} {excl : Excl} {ms r : List Meta}
    (hpos : ∀ iv ∈ ranges.tail, 0 < iv) (hs : SortedByMin ms) (hov : selectOverlapping (notExcluded excl ms) = [])
    (h : plan ranges excl ms = some r) (h2 : 2 ≤ r.length) :
    ∃ iv ∈ ranges.tail, ∃ k : Int, ∀ b ∈ r, iv * k ≤ b.min ∧ b.max ≤ iv * k + iv := by
  rcases plan_branches h with rfl | rfl | ⟨_, _, ⟨_, iv, hiv, p, hp, hrp⟩ | ⟨b, rfl, _⟩⟩
  · cases h2
  · rw [hov] at h2
    cases h2
  · obtain ⟨k, hk⟩ := splitByRange_fits (hpos iv hiv) (hs.sublist (List.dropLast_sublist ms)) hp
    exact ⟨iv, hiv, k, fun b hb => hk b (hrp.subset hb)⟩
  · exact absurd h2 (Nat.not_succ_le_self 1)

end Thanos.Planner
