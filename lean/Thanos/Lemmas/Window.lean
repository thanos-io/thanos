import Thanos.Model.ChunkMerge
import Thanos.Lemmas.ListLike
/-
  The range `[mint, maxt]` of a query or of a chunk window.  On sample lists: `dropLt mint` and `takeLe maxt` (the part
  of a list up to `maxt`), by membership on a time-sorted list, which is determined by its members (`ssorted_ext`).  On a
  list-like iterator: what `boundedSeriesIterator`'s `Seek` and `Next` (`bSeek`, `bNext` of Model/ChunkMerge.lean) do.
  Shared by the chunk merge and the read path.
-/
namespace Thanos.Dedup

theorem dropLt_all_ge {t : Int} {l : List Sample} (h : ∀ x ∈ l, t ≤ x.t) : dropLt t l = l :=
  dropLt_eq_self fun x hx => h x (List.mem_of_mem_head? hx)

theorem dropLt_eq_nil_iff {t : Int} {l : List Sample} : dropLt t l = [] ↔ ∀ x ∈ l, x.t < t := by
  induction l with
  | nil => exact ⟨fun _ _ h => (nomatch h), fun _ => rfl⟩
  | cons a l ih =>
    by_cases ha : a.t < t
    · rw [dropLt_cons_lt ha, ih, List.forall_mem_cons]
      exact (and_iff_right ha).symm
    · rw [dropLt_cons_ge (Int.not_lt.mp ha)]
      exact ⟨fun h => (nomatch h), fun h => absurd (h a List.mem_cons_self) ha⟩

theorem dropLt_append (t : Int) (a b : List Sample) :
    dropLt t (a ++ b) = if (dropLt t a).isEmpty then dropLt t b else dropLt t a ++ b :=
  List.dropWhile_append

theorem mem_dropLt_sorted {c : List Sample} (hc : SSorted c) {k : Int} {a : Sample} :
    a ∈ dropLt k c ↔ a ∈ c ∧ k ≤ a.t := by
  rw [← filter_ge_eq_dropLt k hc]
  simp [List.mem_filter]

theorem ssorted_bounds {l : List Sample} (hs : SSorted l) {a b : Sample} (ha : l.head? = some a)
    (hb : l.getLast? = some b) : ∀ x ∈ l, a.t ≤ x.t ∧ x.t ≤ b.t :=
  bounds_of_pairwise Sample.t hs ha hb

theorem ssorted_head_le {Q : List Sample} {g : Sample} (hQ : SSorted Q) (hg : Q.head? = some g) :
    ∀ x ∈ Q, g.t ≤ x.t :=
  fun x hx => (head?_rel hQ hg x hx).elim (· ▸ Int.le_refl _) Int.le_of_lt

theorem ssorted_ext {l1 l2 : List Sample} (h1 : SSorted l1) (h2 : SSorted l2) (h : ∀ x, x ∈ l1 ↔ x ∈ l2) :
    l1 = l2 :=
  eq_of_pairwise_of_mem_iff (fun _ _ hab hba => Int.lt_irrefl _ (Int.lt_trans hab hba)) h1 h2 h

theorem ssorted_append_lt {A B : List Sample} (h : SSorted (A ++ B)) :
    ∀ a ∈ A, ∀ b ∈ B, a.t < b.t := (List.pairwise_append.mp h).2.2

theorem ssorted_sublist_of_subset {A S : List Sample} (hA : SSorted A) (hS : SSorted S) (h : A ⊆ S) :
    A.Sublist S := by
  induction S generalizing A with
  | nil => exact List.eq_nil_of_subset_nil h ▸ List.Sublist.refl _
  | cons b S ih =>
    cases A with
    | nil => exact List.nil_sublist _
    | cons a A =>
      have pA := List.pairwise_cons.mp hA
      have pS := List.pairwise_cons.mp hS
      have hsub : ∀ {x}, x ∈ a :: A → b.t < x.t → x ∈ S := fun hx hlt =>
        (List.mem_cons.mp (h hx)).resolve_left fun e => Int.lt_irrefl _ (e ▸ hlt)
      rcases List.mem_cons.mp (h List.mem_cons_self) with rfl | ha
      · exact (ih pA.2 pS.2 fun x hx => hsub (List.mem_cons_of_mem _ hx) (pA.1 x hx)).cons_cons _
      · -- `a` is after `b`, and so is all of `A`
        have hba := pS.1 a ha
        exact (ih hA pS.2 fun x hx => hsub hx
          ((List.mem_cons.mp hx).elim (fun e => e ▸ hba) fun hx => Int.lt_trans hba (pA.1 x hx))).cons _

theorem infix_contig {S d : List Sample} (hS : SSorted S) (hinf : d <:+: S) {z y w : Sample}
    (hz : z ∈ d) (hy : y ∈ d) (hw : w ∈ S) (h1 : z.t ≤ w.t) (h2 : w.t ≤ y.t) : w ∈ d := by
  obtain ⟨s, t, hst⟩ := hinf
  rw [← hst] at hw hS
  rcases List.mem_append.mp hw with hw | hw
  · rcases List.mem_append.mp hw with hw | hw
    · exact absurd (ssorted_append_lt (List.Pairwise.sublist (List.sublist_append_left _ t) hS) w hw z hz)
        (Int.not_lt.mpr h1)
    · exact hw
  · exact absurd (ssorted_append_lt hS y (List.mem_append_right s hy) w hw) (Int.not_lt.mpr h2)

theorem infix_filter {c S : List Sample} (p : Sample → Bool) (hinf : c <:+: S) (hp : ∀ x ∈ c, p x = true) :
    c <:+: S.filter p := by
  obtain ⟨s, t, hst⟩ := hinf
  refine ⟨s.filter p, t.filter p, ?_⟩
  rw [← hst, List.filter_append, List.filter_append, List.filter_eq_self.mpr hp]

def takeLe (maxt : Int) (l : List Sample) : List Sample := l.takeWhile (fun s => decide (s.t ≤ maxt))

theorem takeLe_cons (maxt : Int) (x : Sample) (l : List Sample) :
    takeLe maxt (x :: l) = if x.t ≤ maxt then x :: takeLe maxt l else [] := by
  simp only [takeLe, List.takeWhile_cons, decide_eq_true_eq]

theorem takeLe_eq_nil_iff {M : Int} {l : List Sample} :
    takeLe M l = [] ↔ ∀ x, l.head? = some x → M < x.t := by
  cases l with
  | nil => exact ⟨fun _ _ hx => (nomatch hx), fun _ => rfl⟩
  | cons a l =>
    rw [takeLe, List.takeWhile_cons]
    by_cases hm : a.t ≤ M
    · rw [if_pos (decide_eq_true hm)]
      exact ⟨fun h => (nomatch h), fun h => absurd (h a rfl) (Int.not_lt.mpr hm)⟩
    · rw [if_neg (by rw [decide_eq_true_eq]; exact hm)]
      exact ⟨fun _ x hx => by cases hx; exact Int.not_le.mp hm, fun _ => rfl⟩

theorem head_takeLe {M : Int} {l : List Sample} (h : takeLe M l ≠ []) :
    (takeLe M l).head? = l.head? := by
  cases l with
  | nil => rfl
  | cons a l =>
    by_cases hm : a.t ≤ M
    · rw [takeLe, List.takeWhile_cons, if_pos (decide_eq_true hm)]
      rfl
    · exact absurd (takeLe_eq_nil_iff.mpr fun x hx => by cases hx; exact Int.not_le.mp hm) h

theorem ne_of_takeLe_ne {M : Int} {l : List Sample} (h : takeLe M l ≠ []) : l ≠ [] := by
  intro he; rw [he] at h; simp [takeLe] at h

theorem takeLe_append {l r : List Sample} {maxt : Int} (hl : ∀ x ∈ l, x.t ≤ maxt)
    (hr : ∀ x, r.head? = some x → maxt < x.t) : takeLe maxt (l ++ r) = l := by
  unfold takeLe
  rw [List.takeWhile_append_of_pos (fun a ha => decide_eq_true (hl a ha))]
  cases r with
  | nil => exact List.append_nil l
  | cons y r =>
    rw [List.takeWhile_cons_of_neg (by have := hr y rfl; simp only [decide_eq_true_eq]; omega)]
    exact List.append_nil l

theorem mem_takeLe_le {M : Int} {l : List Sample} {x : Sample} (h : x ∈ takeLe M l) : x.t ≤ M :=
  of_decide_eq_true (List.all_eq_true.mp List.all_takeWhile x h)

theorem takeLe_eq_filter (M : Int) {l : List Sample} (h : SSorted l) :
    takeLe M l = l.filter (fun x => decide (x.t ≤ M)) :=
  takeWhile_eq_filter h fun a b hab ha => decide_eq_false (by have := of_decide_eq_false ha; omega)

theorem mem_takeLe_sorted {l : List Sample} (h : SSorted l) {M : Int} {a : Sample} :
    a ∈ takeLe M l ↔ a ∈ l ∧ a.t ≤ M := by
  rw [takeLe_eq_filter M h, List.mem_filter, decide_eq_true_eq]

theorem takeLe_sublist (M : Int) (l : List Sample) : (takeLe M l).Sublist l := List.takeWhile_sublist _

theorem takeLe_dropLt_comm {M t : Int} {l : List Sample} (h : SSorted l) :
    takeLe M (dropLt t l) = dropLt t (takeLe M l) := by
  have hT : SSorted (takeLe M l) := List.Pairwise.sublist (takeLe_sublist M l) h
  apply ssorted_ext (List.Pairwise.sublist (takeLe_sublist _ _) (ssorted_dropLt t h)) (ssorted_dropLt t hT)
  intro x
  rw [mem_takeLe_sorted (ssorted_dropLt t h), mem_dropLt_sorted h, mem_dropLt_sorted hT, mem_takeLe_sorted h]
  exact ⟨fun ⟨⟨a, b⟩, c⟩ => ⟨⟨a, c⟩, b⟩, fun ⟨⟨a, c⟩, b⟩ => ⟨⟨a, b⟩, c⟩⟩

section
variable {σ : Type} {o : Ops σ} {V : σ → Prop} {abs : σ → List Sample}

theorem bSeek_gt (mint maxt : Int) {t : Int} (h : t > maxt) (s : σ) : bSeek o mint maxt t s = (s, false) := by
  simp [bSeek, h]

theorem bSeek_le (mint maxt : Int) {t : Int} (h : t ≤ maxt) (s : σ) :
    bSeek o mint maxt t s = o.seek (if t < mint then mint else t) s := by
  simp [bSeek, Int.not_lt.mpr h]

/-- the inner `Next` leaves a head that is not before `mint`: `bNext` does not `Seek` -/
theorem bNext_of_ge (mint maxt : Int) (h : ListLike o V abs) {s : σ} {L : List Sample} (hV : V (o.next s).1)
    (habs : abs (o.next s).1 = L) (hok : (o.next s).2 = !L.isEmpty)
    (hge : ∀ y, L.head? = some y → mint ≤ y.t) :
    bNext o mint maxt s = some ((o.next s).1, L.head?.any fun y => decide (y.t ≤ maxt)) := by
  cases L with
  | nil => simp [bNext, hok]
  | cons y r => simp [bNext, hok, h.atT_cons hV habs, Int.not_lt.mpr (hge y rfl)]

end

end Thanos.Dedup
