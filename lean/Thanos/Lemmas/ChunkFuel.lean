import Thanos.Lemmas.ChunkHeap
/-
  C40: `dedupChunksIterator` on a heap of well-formed chunks.  Every chunk it yields is an input
  chunk or a chunk of `om.iterator(base)`, hence well formed; it never panics; and the outer loop
  terminates within the model's fuel.  Measure: the number of count samples held by the heap;
  every `Next` removes at least one.
-/
namespace Thanos.Dedup

theorem cnt_pos {c : AggrChk} (h : chunkWF c = true) : 0 < cnt c :=
  List.length_pos_iff.mpr (chunkWF_agg h).ne

/-- a well-formed chunk's count samples are among the samples `totalSamples` counts -/
theorem cnt_le_samples {c : AggrChk} (h : chunkWF c = true) :
    cnt c ≤ (c.aggr.map fun a => (a.map List.length).getD 0).sum := by
  obtain ⟨l0, l1, l2, l3, l4, he, _⟩ := chunkWF_shape h
  simp only [cnt, agg, AggrChk.get, he]
  simp

theorem dcNext_spec {split : Nat} (hsp : 0 < split) {h : List ChunkIt}
    (hh : HeapAll (fun c => chunkWF c = true) h) :
    match dcNext true true split h with
    | .done => h = []
    | .panic => ¬ NE h
    | .chunk c h' => chunkWF c = true ∧ HeapAll (fun c => chunkWF c = true) h' ∧
        (NE h → NE h' ∧ cntHeap h' + 1 ≤ cntHeap h) := by
  unfold dcNext
  cases hp : hpop h with
  | none => exact hpop_none hp
  | some p =>
    obtain ⟨it, h1⟩ := p
    obtain ⟨hit, hh1⟩ := hpop_forall hp hh
    cases it with
    | nil => exact fun hne => (hpop_forall hp hne).1 rfl
    | cons curr t =>
      have hcurr : chunkWF curr = true := hit curr (List.mem_cons_self ..)
      have hacc := pop_advance_cnt hp (c := curr) rfl
      have hpos := cnt_pos hcurr
      have hr := overlapLoop_all (heapChunks (hadvance h1 (curr :: t)) + 1) _ [] curr.maxt curr
        (hadvance_forall (fun _ c hc => hit c (List.mem_of_mem_tail hc)) hh1) (List.forall_mem_nil _)
      have hn := fun hne : NE h => overlapLoop_cnt (heapChunks (hadvance h1 (curr :: t)) + 1) _ []
        curr.maxt curr (hadvance_forall (it := curr :: t) id (hpop_forall hp hne).2)
      simp only [List.head?_cons]
      generalize overlapLoop (heapChunks (hadvance h1 (curr :: t)) + 1) (hadvance h1 (curr :: t)) []
        curr.maxt curr = r at hr hn
      simp only [List.map_nil, List.sum_nil, Nat.add_zero] at hn
      by_cases hem : (r.2.filterMap (·.get 0)).isEmpty = true
      · rw [if_pos hem]
        exact ⟨hcurr, hr.1, fun hne => ⟨(hn hne).1, by have := (hn hne).2; omega⟩⟩
      · rw [if_neg hem]
        -- `om` is not empty: the group is merged, and the merge has no more count samples
        obtain ⟨out, hout, hwf, hone, hocnt⟩ := aggrOut_wf hsp r.2 curr
          (fun he => hem (by rw [he]; rfl))
          (List.forall_mem_append.mpr ⟨hr.2, List.forall_mem_singleton.mpr hcurr⟩)
        obtain ⟨c, rest, rfl⟩ := List.exists_cons_of_ne_nil hone
        obtain ⟨hc, hrest⟩ := List.forall_mem_cons.mp hwf
        rw [hout]
        simp only [List.map_append, List.sum_append, List.map_cons, List.map_nil, List.sum_cons,
          List.sum_nil] at hocnt
        -- the other merged chunks go back into the heap as an iterator
        refine ⟨hc, pushNE_forall (fun _ => hrest) hr.1, fun hne => ?_⟩
        obtain ⟨hn1, hn2⟩ := hn hne
        rw [pushNE_cnt]
        have := cnt_pos hc
        have : cntIt rest = (rest.map cnt).sum := rfl
        exact ⟨pushNE_forall id hn1, by omega⟩

theorem dcNext_wf {split : Nat} (hsp : 0 < split) {h h' : List ChunkIt} {c : AggrChk}
    (hh : HeapAll (fun c => chunkWF c = true) h) (hn : dcNext true true split h = .chunk c h') :
    chunkWF c = true ∧ HeapAll (fun c => chunkWF c = true) h' := by
  have := dcNext_spec hsp hh
  rw [hn] at this
  exact ⟨this.1, this.2.1⟩

theorem dcNext_total {split : Nat} (hsp : 0 < split) {h : List ChunkIt}
    (hh : HeapAll (fun c => chunkWF c = true) h) (hne : NE h) :
    (h = [] ∧ dcNext true true split h = .done) ∨
    ∃ c h', dcNext true true split h = .chunk c h' ∧ NE h' ∧ cntHeap h' + 1 ≤ cntHeap h := by
  have := dcNext_spec hsp hh
  generalize dcNext true true split h = r at this ⊢
  cases r with
  | done => exact Or.inl ⟨this, rfl⟩
  | panic => exact absurd hne this
  | chunk c h' => exact Or.inr ⟨c, h', rfl, this.2.2 hne⟩

theorem dcDrain_wf {split : Nat} (hsp : 0 < split) : ∀ (f : Nat) (h : List ChunkIt) (out : List AggrChk),
    HeapAll (fun c => chunkWF c = true) h → dcDrain true true split f h = some out →
    ∀ c ∈ out, chunkWF c = true := by
  intro f h out hh hd
  -- case1: out of fuel; case2 … case4: `dcNext` answers `done`, `panic`, a chunk `c` and the heap `h'`
  fun_induction dcDrain true true split f h generalizing out with
  | case1 => cases hd
  | case2 =>
    cases hd
    exact List.forall_mem_nil _
  | case3 => cases hd
  | case4 f h c h' hn ih =>
    obtain ⟨rest, hr, rfl⟩ := Option.map_eq_some_iff.mp hd
    obtain ⟨hc, hh'⟩ := dcNext_wf hsp hh hn
    exact List.forall_mem_cons.mpr ⟨hc, ih rest hh' hr⟩

theorem dcDrain_total {split : Nat} (hsp : 0 < split) : ∀ (f : Nat) (h : List ChunkIt),
    HeapAll (fun c => chunkWF c = true) h → NE h → cntHeap h + 1 ≤ f →
    ∃ out, dcDrain true true split f h = some out := by
  intro f
  induction f with
  | zero => intro h _ _ hf; omega
  | succ f ih =>
    intro h hh hne hf
    unfold dcDrain
    rcases dcNext_total hsp hh hne with ⟨_, hd⟩ | ⟨c, h', hc, hne', hlt⟩
    · rw [hd]; exact ⟨[], rfl⟩
    · rw [hc]
      obtain ⟨out, ho⟩ := ih h' (dcNext_wf hsp hh hc).2 hne' (by omega)
      exact ⟨c :: out, congrArg (Option.map (c :: ·)) ho⟩

end Thanos.Dedup
