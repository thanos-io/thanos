import Thanos.Model.ReaderPool
/-
  The bookkeeping of the reader pool is one statement, `Acct`: map ++ removals is a permutation of the readers'
  numbers (of nothing, when the pool does not sweep); the invariant `PInv` of the C16 theorems is read off it
  (`Acct.pinv`).  `StepOK p p'` says what holds between a state and a later one: `Acct` stays true, no reader is lost,
  and only the numbers of readers created since enter the map — so a closed reader never returns to it.  It is
  reflexive and transitive, every operation has it (`step_ok`: NewBinaryReader appends the new number, Close moves a
  number from the map to the removals), hence every history (`run_ok`).
-/
namespace Thanos.ReaderPool

theorem modify_length (rs : List Rd) (i : Nat) (f : Rd → Rd) : (modify rs i f).length = rs.length := by
  unfold modify; split <;> simp

theorem sweepFrom_length (p : Pool) : ∀ (j : Nat) (rs : List Rd), (sweepFrom p j rs).length = rs.length
  | _, [] => rfl
  | j, r :: rs => by simp [sweepFrom, sweepFrom_length p (j + 1) rs]

theorem sweepFrom_get (p : Pool) (j : Nat) (rs : List Rd) (k : Nat) (r : Rd) (h : rs[k]? = some r) :
    (sweepFrom p j rs)[k]? = some (if idle p (j + k) r then { r with loaded := false } else r) := by
  fun_induction sweepFrom p j rs generalizing k with
  | case1 => cases h
  | case2 j x rs ih =>
    cases k with
    | zero => cases h; rfl
    | succ k => rw [List.getElem?_cons_succ, ih k h, Nat.add_assoc, Nat.add_comm 1]

theorem mem_delete {i j : Nat} {l : List Nat} : j ∈ delete i l ↔ j ∈ l ∧ j ≠ i := by
  simp [delete]

theorem step_close_none {p : Pool} {i : Nat} (h : p.readers[i]? = none) : step p (.close i) = p := by
  simp [step, h]

theorem step_close_some {p : Pool} {i : Nat} {r : Rd} (h : p.readers[i]? = some r) :
    step p (.close i) =
      { p with readers := p.readers.set i { r with loaded := false },
               unloads := if r.loaded then p.unloads + 1 else p.unloads,
               tracked := delete i p.tracked,
               removals := if p.tracked.contains i then p.removals ++ [i] else p.removals } := by
  simp [step, h]

/-- what `C16_pool_bookkeeping` claims of every reachable pool: `tracked` is the map `lazyReaders`, `removals` the
    readers deleted from it, both by number; `cover` and `off` are the two settings of the sweep switch -/
structure PInv (p : Pool) : Prop where
  nodup : p.tracked.Nodup
  inRange : ∀ i, i ∈ p.tracked → i < p.readers.length
  remNodup : p.removals.Nodup
  remRange : ∀ i, i ∈ p.removals → i < p.readers.length
  disjoint : ∀ i, i ∈ p.removals → i ∉ p.tracked
  cover : p.tracking = true → ∀ i, i < p.readers.length → i ∈ p.tracked ∨ i ∈ p.removals
  off : p.tracking = false → p.tracked = [] ∧ p.removals = []

def Acct (p : Pool) : Prop :=
  (p.tracked ++ p.removals).Perm (if p.tracking then List.range p.readers.length else [])

theorem Acct.pinv {p : Pool} (h : Acct p) : PInv p := by
  have hn : (p.tracked ++ p.removals).Nodup := by
    refine h.nodup_iff.mpr ?_
    split
    · exact List.nodup_range
    · exact List.nodup_nil
  have hlt : ∀ i ∈ p.tracked ++ p.removals, i < p.readers.length := fun i hi => by
    have hi := h.mem_iff.mp hi
    split at hi
    · exact List.mem_range.mp hi
    · cases hi
  obtain ⟨h1, h2, h3⟩ := List.nodup_append.mp hn
  exact {
    nodup := h1
    inRange := fun i hi => hlt i (List.mem_append_left _ hi)
    remNodup := h2
    remRange := fun i hi => hlt i (List.mem_append_right _ hi)
    disjoint := fun i hi ht => h3 i ht i hi rfl
    cover := fun ht i hi => List.mem_append.mp (h.mem_iff.mpr (by rw [ht, if_pos rfl]; exact List.mem_range.mpr hi))
    off := fun ht => List.append_eq_nil_iff.mp (by rw [Acct, ht] at h; exact h.eq_nil) }

theorem acct_init (t : Bool) : Acct (init t) := by
  cases t <;> exact .refl _

structure StepOK (p p' : Pool) : Prop where
  acct : Acct p → Acct p'
  len : p.readers.length ≤ p'.readers.length
  fresh : ∀ i ∈ p'.tracked, i ∈ p.tracked ∨ p.readers.length ≤ i

theorem StepOK.refl (p : Pool) : StepOK p p := ⟨id, Nat.le_refl _, fun _ => .inl⟩

theorem StepOK.trans {p p' p'' : Pool} (h : StepOK p p') (h' : StepOK p' p'') : StepOK p p'' where
  acct := h'.acct ∘ h.acct
  len := Nat.le_trans h.len h'.len
  fresh := fun i hi => (h'.fresh i hi).elim (h.fresh i) fun hle => .inr (Nat.le_trans h.len hle)

theorem StepOK.same {p p' : Pool} (hk : p'.tracking = p.tracking) (ht : p'.tracked = p.tracked)
    (hr : p'.removals = p.removals) (hl : p'.readers.length = p.readers.length) : StepOK p p' where
  acct := fun h => by rw [Acct, ht, hr, hl, hk]; exact h
  len := Nat.le_of_eq hl.symm
  fresh := fun _ hi => .inl (ht ▸ hi)

theorem step_ok (p : Pool) (o : Op) : StepOK p (step p o) := by
  cases o with
  | use i => exact .same rfl rfl rfl (modify_length _ _ _)
  | age i => exact .same rfl rfl rfl (modify_length _ _ _)
  | sweep => exact .same rfl rfl rfl (sweepFrom_length _ _ _)
  | new =>
    refine ⟨fun h => ?_, List.length_append ▸ Nat.le_succ _, fun i hi => ?_⟩
    · cases ht : p.tracking with
      | false =>
        simp only [Acct, step, ht, Bool.false_eq_true, if_false] at h ⊢
        exact h
      | true =>
        simp only [Acct, step, ht, if_true] at h ⊢
        -- the new reader's number is not in the map yet
        have hfresh : p.readers.length ∉ p.tracked := fun hm =>
          Nat.lt_irrefl _ (List.mem_range.mp (h.mem_iff.mp (List.mem_append_left _ hm)))
        rw [insert, if_neg (mt List.contains_iff_mem.mp hfresh), List.length_append, List.length_singleton,
          List.range_succ]
        exact (h.cons _).trans (List.perm_append_singleton _ _).symm
    · simp only [step, insert] at hi
      split at hi
      · split at hi
        · exact .inl hi
        · exact (List.mem_cons.mp hi).symm.imp id fun e => Nat.le_of_eq e.symm
      · exact .inl hi
  | close i =>
    cases hr : p.readers[i]? with
    | none => rw [step_close_none hr]; exact .refl p
    | some r =>
      rw [step_close_some hr]
      refine ⟨fun h => ?_, Nat.le_of_eq List.length_set.symm, fun j hj => .inl (mem_delete.mp hj).1⟩
      have hnd := h.pinv.nodup
      unfold Acct at h ⊢
      simp only [List.length_set]
      refine .trans ?_ h
      by_cases hc : p.tracked.contains i = true
      · -- `i` moves from the map to the removals
        rw [if_pos hc, delete, ← hnd.erase_eq_filter, ← List.append_assoc]
        exact (List.perm_append_singleton _ _).trans
          ((List.perm_cons_erase (List.contains_iff_mem.mp hc)).symm.append_right _)
      · -- `i` was not in the map: nothing moves
        rw [if_neg hc, delete, List.filter_eq_self.mpr fun a ha =>
          bne_iff_ne.mpr fun (e : a = i) => hc (List.contains_iff_mem.mpr (e ▸ ha))]

theorem run_ok : ∀ (ops : List Op) (p : Pool), StepOK p (run p ops)
  | [], p => .refl p
  | o :: os, p => (step_ok p o).trans (run_ok os _)

theorem close_untracks {p : Pool} {i : Nat} (hi : i < p.readers.length) :
    i < (step p (.close i)).readers.length ∧ i ∉ (step p (.close i)).tracked := by
  rw [step_close_some (List.getElem?_eq_getElem hi)]
  exact ⟨Nat.lt_of_lt_of_eq hi List.length_set.symm, fun hm => (mem_delete.mp hm).2 rfl⟩

end Thanos.ReaderPool
