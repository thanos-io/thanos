import Thanos.Model.Gate
/-
  C24, one gate: no step changes the capacity; the invariant `Inv` of the skeleton `step false`
  (`Start`, error check, `defer Done`: tokens = running requests = gauge) is kept by every shape of
  update a step can make, hence by every step, every run and by the wake-ups, which are runs of
  `acquire`.
-/
namespace Thanos.Gate

theorem done_cap (s : St) : (done s).cap = s.cap := by
  unfold done
  split <;> rfl

theorem step_cap (df : Bool) (s : St) (e : Ev) : (step df s e).cap = s.cap := by
  cases e <;> simp only [step, enter, enterNoop, apply_ite St.cap, done_cap, ite_self]

theorem foldl_step_cap (df : Bool) (evs : List Ev) (s : St) : (evs.foldl (step df) s).cap = s.cap :=
  List.foldlRecOn (motive := fun t => t.cap = s.cap) evs _ rfl fun t h e _ => (step_cap df t e).trans h

/-- Three conjuncts.  (1) No panic.  (2) With a gate (`1 ≤ cap`), four facts: tokens held = running
    requests, held ≤ cap, high-water mark ≤ cap, gauge = held.  (3) `cap = 0` stands for no gate
    (`gate.NewNoop()`), four facts: nothing is held, nobody waits, gauge and total stay 0. -/
def Inv (s : St) : Prop :=
  s.panics = 0 ∧
  (1 ≤ s.cap → s.held = s.running ∧ s.held ≤ s.cap ∧ s.maxRunning ≤ s.cap ∧ s.gauge = (s.held : Int)) ∧
  (s.cap = 0 → s.held = 0 ∧ s.waiting = 0 ∧ s.gauge = 0 ∧ s.total = 0)

theorem inv_init (cap : Nat) : Inv (St.init cap) := by simp [Inv, St.init]

theorem Inv.of_running {s : St} (h : Inv s) (hc : s.cap = 0) {r m : Nat} :
    Inv { s with running := r, maxRunning := m } :=
  ⟨h.1, fun h1 => absurd hc (Nat.ne_of_gt h1), h.2.2⟩

theorem Inv.of_waiting {s : St} (h : Inv s) (hc : s.cap ≠ 0) {w t : Nat} :
    Inv { s with waiting := w, total := t } :=
  ⟨h.1, h.2.1, fun h0 => absurd h0 hc⟩

theorem inv_enter {s : St} (h : Inv s) (hlt : s.held < s.cap) : Inv (enter s) := by
  obtain ⟨hp, hg, _⟩ := h
  obtain ⟨h1, _, h3, h5⟩ := hg (Nat.zero_lt_of_lt hlt)
  exact ⟨hp, fun _ => ⟨congrArg (· + 1) h1, hlt, Nat.max_le.2 ⟨h3, h1 ▸ hlt⟩, congrArg (· + 1) h5⟩,
    fun h0 => absurd hlt (h0 ▸ Nat.not_lt_zero _)⟩

/-- the deferred `Done` of a running request finds its token: tokens = running requests -/
theorem inv_finish {s : St} (h : Inv s) (hc : s.cap ≠ 0) (hr : s.running ≠ 0) :
    Inv (done { s with running := s.running - 1 }) := by
  obtain ⟨hp, hg, _⟩ := h
  obtain ⟨h1, h2, h3, h5⟩ := hg (Nat.pos_of_ne_zero hc)
  have hpos : s.held > 0 := h1 ▸ Nat.pos_of_ne_zero hr
  rw [done, if_pos hpos]
  exact ⟨hp, fun _ => ⟨congrArg (· - 1) h1, Nat.le_trans (Nat.sub_le _ _) h2, h3,
    (congrArg (· - 1) h5).trans (Int.natCast_sub hpos).symm⟩, fun h0 => absurd h0 hc⟩

theorem inv_step {s : St} (h : Inv s) (e : Ev) : Inv (step false s e) := by
  cases e with
  | arrive =>
    simp only [step]
    split
    · exact h.of_running ‹_›
    · split
      · exact inv_enter (h.of_waiting ‹_›) ‹_›
      · exact h.of_waiting ‹_›
  | arriveCancelled =>
    simp only [step, Bool.false_eq_true, if_false]
    split
    · exact h.of_running ‹_›
    · exact h.of_waiting ‹_›
  | acquire =>
    rw [step]
    split
    · rename_i hh
      exact inv_enter (h.of_waiting (Nat.ne_zero_of_lt hh.2)) hh.2
    · exact h
  | cancel =>
    simp only [step, Bool.false_eq_true, if_false]
    split
    · exact h
    · -- somebody waits, so there is a gate
      exact h.of_waiting fun hc => absurd (h.2.2 hc).2.1 ‹_›
  | cancelRunning => exact h
  | finish =>
    rw [step]
    split
    · exact h
    · split
      · exact h.of_running ‹_›
      · exact inv_finish h ‹_› ‹_›

theorem Inv.safe {s : St} (h : Inv s) : Safe s :=
  ⟨fun hc => have ⟨h1, h2, h3, _⟩ := h.2.1 hc; ⟨h1 ▸ h2, h3⟩, h.1⟩

theorem inv_foldl {s : St} (h : Inv s) (evs : List Ev) : Inv (evs.foldl (step false) s) :=
  List.foldlRecOn evs _ h fun _ hs e _ => inv_step hs e

theorem inv_run (cap : Nat) (evs : List Ev) : Inv (run false cap evs) := inv_foldl (inv_init cap) evs

theorem run_cap (df : Bool) (cap : Nat) (evs : List Ev) : (run df cap evs).cap = cap :=
  foldl_step_cap df evs (St.init cap)

theorem wake_is_run (df : Bool) (fuel : Nat) (s : St) : ∃ evs : List Ev, wake df fuel s = evs.foldl (step df) s := by
  fun_induction wake df fuel s with
  | case1 s => exact ⟨[], rfl⟩
  | case2 fuel s h ih =>
    obtain ⟨evs, he⟩ := ih
    exact ⟨.acquire :: evs, he⟩
  | case3 fuel s h => exact ⟨[], rfl⟩

theorem inv_wake {n : Nat} {s : St} (h : Inv s) : Inv (wake false n s) := by
  obtain ⟨evs, he⟩ := wake_is_run false n s
  exact he ▸ inv_foldl h evs

theorem wake_cap (df : Bool) (n : Nat) (s : St) : (wake df n s).cap = s.cap := by
  obtain ⟨evs, he⟩ := wake_is_run df n s
  exact he ▸ foldl_step_cap df evs s

end Thanos.Gate
