import Thanos.Model.Merge
import Thanos.Lemmas.Order
import Thanos.Lemmas.OrderedInsert
/-
  `AggrChunk.Compare` is a total order on the visible content of a chunk (MinTime, MaxTime and, per
  aggregate, presence / encoding / data bytes): lexicographic product of lawful comparisons.  Hence
  the sorted chunk list of a merged series is determined by the set of its chunks when their visible
  content tells them apart (`sorted_unique`; the comparison does not read the field hashes).
  The (MinTime, MaxTime) order C03 speaks of (`timeLe`) is the order of the first two components.
-/
namespace Thanos.Merge

def optCmp {α : Type} (c : α → α → Ordering) : Option α → Option α → Ordering
  | none, none => .eq
  | some _, none => .lt
  | none, some _ => .gt
  | some a, some b => c a b

theorem lawful_opt {α : Type} {c : α → α → Ordering} (h : Lawful c) : Lawful (optCmp c) := by
  refine ⟨?_, ?_, ?_, ?_⟩
  · intro a; cases a <;> simp [optCmp, h.refl]
  · intro a b he
    cases a <;> cases b <;> simp_all [optCmp]
    exact h.eq _ _ he
  · intro a b
    cases a <;> cases b <;> simp [optCmp]
    exact h.swap _ _
  · intro a b d h1 h2
    cases a <;> cases b <;> cases d <;> simp_all [optCmp]
    exact h.trans _ _ _ h1 h2

abbrev FKey := Option (Nat × Bytes)
def fkey (f : Option Field) : FKey := f.map (fun f => (f.ty, f.data))

abbrev CKey := Int × Int × FKey × FKey × FKey × FKey × FKey × FKey
def ckey (c : Chunk) : CKey :=
  (c.mint, c.maxt, fkey c.raw, fkey c.count, fkey c.sum, fkey c.min, fkey c.max, fkey c.counter)

/-- `Chunk.Compare` on keys: smaller type first, then data in *descending* byte order -/
def cmpFKey : FKey → FKey → Ordering := optCmp (lexCmp cmpNatO (fun a b => cmpBytes b a))

theorem lawful_fkey : Lawful cmpFKey := lawful_opt (lawful_lex lawful_nat (lawful_rev lawful_bytes))

def cmpCKey : CKey → CKey → Ordering :=
  lexCmp cmpIntO (lexCmp cmpIntO (lexCmp cmpFKey (lexCmp cmpFKey (lexCmp cmpFKey (lexCmp cmpFKey (lexCmp cmpFKey cmpFKey))))))

theorem lawful_ckey : Lawful cmpCKey :=
  lawful_lex lawful_int (lawful_lex lawful_int (lawful_lex lawful_fkey (lawful_lex lawful_fkey
    (lawful_lex lawful_fkey (lawful_lex lawful_fkey (lawful_lex lawful_fkey lawful_fkey))))))

/-- sign of a `Compare` result as an ordering: positive = "comes first" -/
def signO (x : Int) : Ordering := if x > 0 then .lt else if x = 0 then .eq else .gt

/-- one step of a Go `Compare` (1, -1, or go on with `r`) as one step of a lexicographic comparison -/
theorem signO_ite {α : Type} [LT α] [DecidableRel (α := α) (· < ·)] (x y : α) (r : Int) :
    signO (if x < y then 1 else if y < x then -1 else r) =
      (if x < y then Ordering.lt else if y < x then .gt else .eq).then (signO r) := by
  by_cases h1 : x < y
  · rw [if_pos h1, if_pos h1]; rfl
  · by_cases h2 : y < x
    · rw [if_neg h1, if_neg h1, if_pos h2, if_pos h2]; rfl
    · rw [if_neg h1, if_neg h1, if_neg h2, if_neg h2]; rfl

theorem signO_cmpField (f g : Option Field) : signO (cmpField f g) = cmpFKey (fkey f) (fkey g) := by
  cases f with
  | none => cases g <;> rfl
  | some a =>
    cases g with
    | none => rfl
    | some b =>
      show signO (if a.ty < b.ty then 1 else if b.ty < a.ty then -1 else _) =
        (cmpNatO a.ty b.ty).then (cmpBytes b.data a.data)
      rw [signO_ite]
      congr 1
      -- `Chunk.Compare` hands on `bytes.Compare(m.Data, b.Data)`: larger data first
      cases hc : cmpBytes a.data b.data with
      | lt => rw [(lawful_bytes.swap _ _).mp hc]; rfl
      | gt => rw [(lawful_bytes.swap _ _).mpr hc]; rfl
      | eq => rw [lawful_bytes.eq_symm hc]; rfl

theorem signO_firstNonZero (x : Int) (r : List Int) :
    signO (firstNonZero (x :: r)) = (signO x).then (signO (firstNonZero r)) := by
  rw [show firstNonZero (x :: r) = (if x = 0 then firstNonZero r else x) from rfl]
  by_cases hx : x = 0
  · rw [hx]; rfl
  · rw [if_neg hx]
    unfold signO
    by_cases hp : x > 0
    · rw [if_pos hp]; rfl
    · rw [if_neg hp, if_neg hx]; rfl

theorem signO_cmpChunk (a b : Chunk) : signO (cmpChunk a b) = cmpCKey (ckey a) (ckey b) := by
  unfold cmpChunk cmpCKey ckey
  rw [signO_ite, signO_ite]
  simp only [signO_firstNonZero, signO_cmpField, lexCmp]
  -- `firstNonZero [] = 0` leaves a last `.then .eq`, which is the identity only by cases
  cases cmpFKey (fkey a.counter) (fkey b.counter) <;> rfl

theorem chunkBefore_iff (a b : Chunk) : chunkBefore a b = true ↔ cmpCKey (ckey a) (ckey b) = .lt := by
  rw [← signO_cmpChunk]
  unfold chunkBefore signO
  by_cases h : cmpChunk a b > 0
  · simp [h]
  · by_cases h0 : cmpChunk a b = 0 <;> simp [h, h0]

def chunkLe (a b : Chunk) : Prop := cmpCKey (ckey a) (ckey b) ≠ .gt

theorem chunkLe_of_before {a b : Chunk} (h : chunkBefore a b = true) : chunkLe a b := by
  unfold chunkLe; rw [(chunkBefore_iff a b).mp h]; nofun

theorem chunkLe_of_not_before {a b : Chunk} (h : chunkBefore a b = false) : chunkLe b a :=
  lawful_ckey.le_of_not_lt (fun hlt => by rw [(chunkBefore_iff a b).mpr hlt] at h; cases h)

theorem insertChunk_eq_ins (c : Chunk) (l : List Chunk) :
    insertChunk c l = OrderedInsert.ins (fun c d => ¬ chunkBefore d c = true) c l := by
  induction l with
  | nil => rfl
  | cons d r ih => simp only [insertChunk, OrderedInsert.ins, ih, ite_not]

theorem sortChunks_perm (l : List Chunk) : (sortChunks l).Perm l := OrderedInsert.sort_perm insertChunk_eq_ins l

theorem sortChunks_sortedFull (l : List Chunk) : (sortChunks l).Pairwise chunkLe :=
  OrderedInsert.sort_pairwise insertChunk_eq_ins (R := chunkLe) (fun _ _ _ => lawful_ckey.le_trans) l
    (List.pairwise_of_forall fun _ _ => ⟨fun h => chunkLe_of_not_before (Bool.eq_false_iff.mpr h),
      fun h => chunkLe_of_before (Decidable.not_not.mp h)⟩)

def timeLe (a b : Chunk) : Prop := a.mint < b.mint ∨ (a.mint = b.mint ∧ a.maxt ≤ b.maxt)

theorem timeLe_of_chunkLe {a b : Chunk} (h : chunkLe a b) : timeLe a b := by
  unfold chunkLe cmpCKey ckey at h
  simp only [lexCmp, cmpIntO] at h
  unfold timeLe
  by_cases h1 : a.mint < b.mint
  · exact Or.inl h1
  · by_cases h2 : b.mint < a.mint
    · rw [if_neg h1, if_pos h2] at h; exact absurd rfl h
    · rw [if_neg h1, if_neg h2] at h
      refine Or.inr ⟨Int.le_antisymm (Int.not_lt.mp h2) (Int.not_lt.mp h1), ?_⟩
      by_cases h3 : b.maxt < a.maxt
      · rw [if_neg (Int.lt_asymm h3), if_pos h3] at h; exact absurd rfl h
      · exact Int.not_lt.mp h3

theorem sortChunks_sorted (l : List Chunk) : (sortChunks l).Pairwise timeLe :=
  (sortChunks_sortedFull l).imp timeLe_of_chunkLe

theorem sorted_unique (l1 l2 : List Chunk) (h1 : l1.Pairwise chunkLe) (h2 : l2.Pairwise chunkLe)
    (n1 : l1.Nodup) (n2 : l2.Nodup) (hm : ∀ c, c ∈ l1 ↔ c ∈ l2)
    (hk : ∀ c ∈ l1, ∀ d ∈ l1, ckey c = ckey d → c = d) : l1 = l2 :=
  ((List.perm_ext_iff_of_nodup n1 n2).mpr hm).eq_of_pairwise
    (fun a b ha hb hab hba => hk a ha b ((hm b).mpr hb) (lawful_ckey.eq_of_le_le hab hba)) h1 h2

end Thanos.Merge
