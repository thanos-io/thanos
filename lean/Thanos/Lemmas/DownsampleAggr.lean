import Thanos.Lemmas.Downsample
/-
  For C36 / C38: what the snapshots of a partition of the samples into segments conserve (`Totals`; no ordering
  of the samples is needed); `bOut`, the output of one downsampleBatch call as a total function, through which both
  downsampleFloatBatch (`chunkOf`, Lemmas/DownsampleRaw.lean) and genericAggregate are read (`bOut_totals`, `bOut_ts`
  on the buffers that meet `BatchOK`, `bOut_runs` on time-ordered ones, `bOut_ts_congr` for buffers with the same
  timestamps).
-/
namespace Thanos.Downsample

/-- lists with the same `foldl op` from every start have the same reduction; `red` is the reduction by `op`
    (`min?` for `min`, `max?` for `max`), `s a` a start value that `a` beats -/
theorem red_eq_of_foldl_all (op : Int → Int → Int) (red : List Int → Option Int) (s : Int → Int)
    (hfold : ∀ (l : List Int) M, l.foldl op M = op M ((red l).getD M)) (hself : ∀ a, op a a = a)
    (hcomm : ∀ a b, op a b = op b a) (hs : ∀ a, op (s a) a = a ∧ s a ≠ a)
    (l1 l2 : List Int) (h : ∀ M, l1.foldl op M = l2.foldl op M) : red l1 = red l2 := by
  simp only [hfold] at h
  generalize red l1 = o1 at h ⊢
  generalize red l2 = o2 at h ⊢
  match o1, o2 with
  | none, none => rfl
  | none, some b => exact absurd ((hself _).symm.trans ((h (s b)).trans (hs b).1)) (hs b).2
  | some a, none => exact absurd ((hself _).symm.trans ((h (s a)).symm.trans (hs a).1)) (hs a).2
  | some a, some b =>
    exact congrArg some (((hself a).symm.trans (h a)).trans ((hcomm a b).trans ((h b).trans (hself b))))

theorem min?_eq_of_foldl_all (l1 l2 : List Int) (h : ∀ M, l1.foldl min M = l2.foldl min M) : l1.min? = l2.min? :=
  red_eq_of_foldl_all min List.min? (· + 1) (fun _ _ => List.foldl_min) Int.min_self Int.min_comm
    (fun a => ⟨Int.min_eq_right (by omega), by omega⟩) l1 l2 h

theorem max?_eq_of_foldl_all (l1 l2 : List Int) (h : ∀ M, l1.foldl max M = l2.foldl max M) : l1.max? = l2.max? :=
  red_eq_of_foldl_all max List.max? (· - 1) (fun _ _ => List.foldl_max) Int.max_self Int.max_comm
    (fun a => ⟨Int.max_eq_right (by omega), by omega⟩) l1 l2 h

theorem sum_lengths (gs : List (Int × List Pt)) :
    (gs.map fun g => (g.2.length : Int)).sum = ((gs.flatMap (·.2)).length : Int) := by
  induction gs with
  | nil => rfl
  | cons g gs ih =>
    simp only [List.map_cons, List.sum_cons, List.flatMap_cons, List.length_append, ih]
    omega

theorem sum_sums (gs : List (Int × List Pt)) :
    (gs.map fun g => (g.2.map (·.2)).sum).sum = ((gs.flatMap (·.2)).map (·.2)).sum := by
  induction gs with
  | nil => rfl
  | cons g gs ih =>
    rw [List.map_cons, List.sum_cons, List.flatMap_cons, List.map_append, List.sum_append, ih]

/-- folding the reductions of non-empty groups is folding the concatenation (`red` as in `red_eq_of_foldl_all`) -/
theorem foldl_groups (op : Int → Int → Int) [Std.Associative op] (red : List Int → Option Int)
    (hnil : red [] = none) (hcons : ∀ x xs, red (x :: xs) = some (xs.foldl op x))
    (gs : List (Int × List Pt)) (l : List Int) (M : Int) (h : l.map some = gs.map (fun g => red (g.2.map (·.2)))) :
    l.foldl op M = ((gs.flatMap (·.2)).map (·.2)).foldl op M := by
  induction gs generalizing l M with
  | nil => rw [List.map_eq_nil_iff.mp h]; rfl
  | cons g gs ih =>
    obtain ⟨m, l, rfl⟩ := List.exists_cons_of_ne_nil fun hl : l = [] => nomatch hl ▸ h
    obtain ⟨hm, h'⟩ : some m = red (g.2.map (·.2)) ∧ _ := List.cons.inj h
    rw [List.foldl_cons, ih l _ h', List.flatMap_cons, List.map_append, List.foldl_append]
    congr 1
    cases hv : g.2.map (·.2) with
    | nil => rw [hv, hnil] at hm; exact nomatch hm
    | cons x xs =>
      rw [hv, hcons] at hm
      rw [List.foldl_cons, List.foldl_assoc, Option.some.inj hm]

/-- the snapshots `out` carry the totals of the samples `data`: Σ sum and (finite values) the least minimum and
    the greatest maximum from every start.  (Re-downsampling sums the count samples too: the count aggregate is
    conserved through `sum`.) -/
structure Totals (out : List (Int × Agg)) (data : List Pt) : Prop where
  sum : (out.map fun e => e.2.sum).sum = (data.map (·.2)).sum
  min : (∀ p ∈ data, p.2 ≤ maxFloat) → ∀ M, (out.map fun e => e.2.min).foldl min M = (data.map (·.2)).foldl min M
  max : (∀ p ∈ data, -maxFloat ≤ p.2) → ∀ M, (out.map fun e => e.2.max).foldl max M = (data.map (·.2)).foldl max M

theorem specEmit_conserves (lastT : Int) (gs : List (Int × List Pt)) (hist : List Int)
    (hne : ∀ g ∈ gs, g.2 ≠ []) : Totals (specEmit lastT gs hist) (gs.flatMap (·.2)) := by
  refine ⟨?_, fun hf M => ?_, fun hf M => ?_⟩
  · rw [specEmit_map lastT (fun _ x => x) (·.sum) List.sum gs hist (fun g _ hist => snap_sum hist _)]
    exact sum_sums gs
  · refine foldl_groups min List.min? rfl (fun _ _ => List.min?_cons') gs _ M ?_
    rw [List.map_map]
    exact specEmit_map lastT (fun _ x => x) (fun a => some a.min) List.min? gs hist (fun g hg hist =>
      snap_min hist (hne g hg) fun p hp => hf p (List.mem_flatMap.mpr ⟨g, hg, hp⟩))
  · refine foldl_groups max List.max? rfl (fun _ _ => List.max?_cons') gs _ M ?_
    rw [List.map_map]
    exact specEmit_map lastT (fun _ x => x) (fun a => some a.max) List.max? gs hist (fun g hg hist =>
      snap_max hist (hne g hg) fun p hp => hf p (List.mem_flatMap.mpr ⟨g, hg, hp⟩))

/-- the samples downsampleBatch emits (nothing for the empty slice, which no caller passes) -/
def bOut (r : Int) (data : List Pt) : List (Int × Agg) :=
  match downsampleBatch data r with
  | some (o, _) => o
  | none => []

theorem bOut_of_eq {r : Int} {data : List Pt} {out : List (Int × Agg)} {nt : Int}
    (h : downsampleBatch data r = some (out, nt)) : bOut r data = out := by
  simp only [bOut, h]

theorem bOut_totals (r : Int) (hr : 0 < r) {data : List Pt} {t0 lastT : Int} (h : BatchOK data t0 lastT) :
    Totals (bOut r data) data := by
  obtain ⟨gs, he, hflat, hne, _⟩ := downsampleBatch_segs r hr h
  exact bOut_of_eq he ▸ hflat ▸ specEmit_conserves lastT gs [] hne

theorem bOut_ts (r : Int) (hr : 0 < r) (data : List Pt) (t0 lastT : Int) (h : BatchOK data t0 lastT) :
    (bOut r data).map (·.1) ≠ [] ∧ ((bOut r data).map (·.1)).Pairwise (· < ·) ∧
      (∀ t ∈ (bOut r data).map (·.1), t0 ≤ t ∧ t ≤ lastT) := by
  obtain ⟨gs, he, _, _, hk1, hk2, hk3⟩ := downsampleBatch_segs r hr h
  rw [bOut_of_eq he]
  exact ⟨fun hc => by rw [hc] at hk3; simp at hk3, hk1, hk2⟩

theorem bOut_runs (r : Int) (hr : 0 < r) {b : List Pt} {lastT lv : Int} (hlast : b.getLast? = some (lastT, lv))
    (h0 : ∀ p ∈ b, minInt64 < p.1) (hs : Sorted b) : bOut r b = specEmit lastT (runs r b) [] :=
  bOut_of_eq (downsampleBatch_runs r hr b lastT lv hlast h0 (hs.imp Int.le_of_lt))

/-- the emission timestamps depend on the input timestamps only -/
theorem batchEmit_ts_congr (r lastT : Int) (d1 d2 : List Pt) (nextT : Int) (a1 a2 : Agg)
    (h : d1.map (·.1) = d2.map (·.1)) (ha : a1.total = a2.total) :
    (batchEmit r lastT d1 nextT a1).map (·.1) = (batchEmit r lastT d2 nextT a2).map (·.1) := by
  induction d1 generalizing d2 nextT a1 a2 with
  | nil =>
    cases d2 with
    | nil =>
      simp only [batchEmit, ha]
      split <;> rfl
    | cons _ _ => exact nomatch h
  | cons p d1 ih =>
    cases d2 with
    | nil => exact nomatch h
    | cons q d2 =>
      obtain ⟨hpq, h'⟩ := List.cons.inj h
      obtain ⟨t, v⟩ := p
      obtain ⟨_, v'⟩ := q
      cases hpq
      simp only [batchEmit]
      split
      · rw [List.map_append, List.map_append, ih d2 _ (a1.reset.add v) (a2.reset.add v') h' (congrArg (· + 1) ha)]
        split <;> rfl
      · exact ih d2 _ (a1.add v) (a2.add v') h' (congrArg (· + 1) ha)

theorem bOut_eq (r : Int) : ∀ (d : List Pt),
    bOut r d = batchEmit r ((d.map (·.1)).getLast?.getD 0) d minInt64 Agg.zero
  | [] => rfl
  | p :: ps => by
    simp only [bOut, downsampleBatch, List.getLast?_map, List.getLast?_cons]
    rfl

theorem bOut_ts_congr (r : Int) (d1 d2 : List Pt) (h : d1.map (·.1) = d2.map (·.1)) :
    (bOut r d1).map (·.1) = (bOut r d2).map (·.1) := by
  rw [bOut_eq, bOut_eq, h]
  exact batchEmit_ts_congr r _ d1 d2 _ _ _ h rfl

end Thanos.Downsample
