import Thanos.Model.CachingBucketOps
import Thanos.Lemmas.BucketKey
import Thanos.Lemmas.CachingBucket
/-
  Honest caches keyed by key strings: what an entry may say, and why a lookup by the key string
  of one item can only return that item's value (key injectivity, `view_truth`).  Then the two parts
  GetRange is made of: cachedAttributes (`kAttrs_ok`), and the passage between the key strings and the
  range cache of `getRange` (`honest_subranges` for what is read, `honestK_subranges` for what is stored;
  `getRange_ok` is what `getRange` gives in return).  `kStep_ok` is the result: every verb answers as the
  wrapped bucket does and stores the truth, verb by verb along the arms of its definition.
  At the end `KHistOK`, the histories of `kRun` in which `C14_k_history` is stated.
-/
namespace Thanos.CachingBucket
open Thanos.CacheKeys

/-- what the wrapped bucket says about the item a key stands for -/
def truth (w : World) (k : BucketKey) : Option Val :=
  match k.verb with
  | .subrange => (w.obj k.name).map fun b => .bytes (slice b k.start k.stop)
  | .content => (w.obj k.name).map .bytes
  | .exists_ => some (.flag (w.obj k.name).isSome)
  | .attrs => (w.obj k.name).map fun b => .size b.length
  | .iter => some (.names (w.list k.name false))
  | .iterRecursive => some (.names (w.list k.name true))

/-- every entry is the truth about the (well-formed) key it is stored under -/
def HonestK (w : World) (c : KCache) : Prop :=
  ∀ ks v, (ks, v) ∈ c → ∃ k, WFB w.hash k ∧ ks = bucketKeyString k ∧ truth w k = some v

/-- a Fetch returns part of what is stored -/
def SubViewK (c : KCache) (view : Str → Option Val) : Prop :=
  ∀ ks v, view ks = some v → (ks, v) ∈ c

theorem honestK_nil (w : World) : HonestK w [] := by
  intro ks v h; simp at h

theorem honestK_append {w : World} {c d : KCache} (hc : HonestK w c) (hd : HonestK w d) : HonestK w (c ++ d) :=
  fun ks v h => (List.mem_append.mp h).elim (hc ks v) (hd ks v)

theorem honestK_singleton {w : World} {k : BucketKey} {v : Val} (wk : WFB w.hash k) (ht : truth w k = some v) :
    HonestK w [(bucketKeyString k, v)] := by
  intro ks v' hm
  cases List.mem_singleton.mp hm
  exact ⟨k, wk, rfl, ht⟩

theorem view_truth {w : World} {c : KCache} {view : Str → Option Val} (hc : HonestK w c)
    (hv : SubViewK c view) {k : BucketKey} (wk : WFB w.hash k) {v : Val}
    (h : view (bucketKeyString k) = some v) : truth w k = some v := by
  obtain ⟨k', wk', hks, ht⟩ := hc _ _ (hv _ _ h)
  have := bucketKey_inj w.hash k k' wk wk' hks
  rw [this]; exact ht

theorem asBytes_some {o : Option Val} {b : Bytes} (h : asBytes o = some b) : o = some (.bytes b) := by
  unfold asBytes at h
  split at h
  · cases h; rfl
  · cases h

theorem asFlag_some {o : Option Val} {b : Bool} (h : asFlag o = some b) : o = some (.flag b) := by
  unfold asFlag at h
  split at h
  · cases h; rfl
  · cases h

theorem asSize_some {o : Option Val} {n : Nat} (h : asSize o = some n) : o = some (.size n) := by
  unfold asSize at h
  split at h
  · cases h; rfl
  · cases h

theorem asNames_some {o : Option Val} {l : List Str} (h : asNames o = some l) : o = some (.names l) := by
  unfold asNames at h
  split at h
  · cases h; rfl
  · cases h

theorem wfb_plain (H : Str) (verb : Verb) (name : Str)
    (h : verb ≠ .subrange ∧ ¬ (verb = .iter ∨ verb = .iterRecursive)) : WFB H ⟨verb, name, 0, 0, []⟩ :=
  ⟨fun e => absurd e h.1, fun _ => ⟨rfl, rfl⟩, fun e => absurd e h.2, fun _ => rfl⟩

theorem wfb_subrange (H : Str) (name : Str) (a e : Nat) (h : a < e) : WFB H ⟨.subrange, name, a, e, []⟩ := by
  refine ⟨fun _ => h, fun h' => absurd rfl h', ?_, fun _ => rfl⟩
  intro h'
  rcases h' with h' | h' <;> simp at h'

theorem wfb_iter (H : Str) (dir : Str) (recursive : Bool) :
    WFB H ⟨if recursive then .iterRecursive else .iter, dir, 0, 0, H⟩ := by
  cases recursive <;> exact ⟨by simp, fun _ => ⟨rfl, rfl⟩, ⟨fun _ => rfl, by simp⟩⟩

theorem kAttrs_ok (w : World) (name : Str) (view : Str → Option Val) (c : KCache)
    (hc : HonestK w c) (hv : SubViewK c view) :
    ∃ calls st, kAttrs w name view = ((w.obj name).map (·.length), calls, st) ∧ HonestK w st := by
  have wk := wfb_plain w.hash .attrs name (by decide)
  -- the arms in the order of `kAttrs`: the size is cached; a miss on an absent object; a miss that stores the size
  fun_cases kAttrs w name view
  case case1 n hsz =>
    obtain ⟨b, ho, hb⟩ := Option.map_eq_some_iff.mp (view_truth hc hv wk (asSize_some hsz))
    cases hb
    exact ⟨_, _, by rw [ho]; rfl, honestK_nil w⟩
  case case2 _ ho => exact ⟨_, _, by rw [ho]; rfl, honestK_nil w⟩
  case case3 _ b ho => exact ⟨_, _, by rw [ho]; rfl, honestK_singleton wk (by simp [truth, ho])⟩

/-- the subrange entries of one object, read through their key strings the way `kGetRange` does, are an honest
    range cache: what `getRange` needs of its cache -/
theorem honest_subranges {w : World} {c : KCache} {view : Str → Option Val} (hc : HonestK w c)
    (hv : SubViewK c view) {name : Str} {b : Bytes} (ho : w.obj name = some b) :
    Honest b fun a e => if a < e then asBytes (view (keyOf .subrange name a e [])) else none := by
  intro a e bs hcache
  by_cases hae : a < e
  · simp only [hae, if_true] at hcache
    have ht := view_truth hc hv (wfb_subrange w.hash name a e hae) (asBytes_some hcache)
    simpa [truth, ho] using ht.symm
  · simp [hae] at hcache

/-- and back: what `getRange` stores, written under the key strings, are honest entries -/
theorem honestK_subranges {w : World} {name : Str} {b : Bytes} (ho : w.obj name = some b)
    {st : List ((Nat × Nat) × Bytes)} (hst : StoresHonest b st) :
    HonestK w (st.map fun e => (keyOf .subrange name e.1.1 e.1.2 [], .bytes e.2)) := by
  intro ks v hm
  obtain ⟨e, he, heq⟩ := List.mem_map.mp hm
  cases heq
  obtain ⟨hlt, hdata⟩ := hst e he
  exact ⟨_, wfb_subrange w.hash name e.1.1 e.1.2 hlt, rfl, by simp [truth, ho, hdata]⟩

/-- With the guard a range read is transparent for every offset and length and stores true subranges: a request
    that starts at or past the end goes to the wrapped bucket alone and stores nothing. -/
theorem getRange_ok (obj : Bytes) (S maxSub : Nat) (cache : Nat → Nat → Option Bytes) (p off len : Nat)
    (hS : S ≥ 1) (hp : p ≥ 1) (hlen : len ≥ 1) (hon : Honest obj cache) :
    (getRange true obj S maxSub cache p off len).out = .ok (bucketGetRange obj off len) ∧
    StoresHonest obj (getRange true obj S maxSub cache p off len).stores := by
  by_cases hoff : off ≥ obj.length
  · unfold getRange
    simp only [hoff, and_self, if_true]
    exact ⟨trivial, nofun⟩
  · exact getRange_inside true obj S maxSub cache p off len hS hp hlen hon hoff

/-- **Every verb of the caching bucket is transparent and stores the truth**: on an honest cache, seen through any
    part of it, the answer is the wrapped bucket's and what is stored is honest.  Each `C14_k_*` is this at one
    verb, `C14_k_history` its iteration.  Only range reads need `hpos`. -/
theorem kStep_ok {w : World} {c : KCache} {view : Str → Option Val} (hc : HonestK w c) (hv : SubViewK c view)
    (cfg : Cfg) (op : KOp)
    (hpos : ∀ name off len p, op = .getRange name off len p → cfg.S ≥ 1 ∧ len ≥ 1 ∧ p ≥ 1) :
    (kStep w cfg op view).ans = bStep w op ∧ HonestK w (kStep w cfg op view).stores := by
  cases op <;> dsimp only [kStep, bStep]
  case attributes name =>
    obtain ⟨calls, st, hk, h2⟩ := kAttrs_ok w name view c hc hv
    unfold kAttributes bAttributes
    rw [hk]
    cases w.obj name <;> exact ⟨rfl, h2⟩
  case getRange name off len p =>
    obtain ⟨hS, hlen, hp⟩ := hpos name off len p rfl
    obtain ⟨calls, st, hk, h2⟩ := kAttrs_ok w name view c hc hv
    unfold kGetRange bGetRange
    rw [hk]
    cases ho : w.obj name with
    | none => exact ⟨rfl, h2⟩
    | some b =>
      simp only [Option.map_some]
      obtain ⟨hout, hst⟩ := getRange_ok b cfg.S cfg.maxSub _ p off len hS hp hlen (honest_subranges hc hv ho)
      simp only [hout]
      exact ⟨trivial, honestK_append h2 (honestK_subranges ho hst)⟩
  case get name mode =>
    have wc := wfb_plain w.hash .content name (by decide)
    have we := wfb_plain w.hash .exists_ name (by decide)
    unfold bGet
    -- the arms in the order of `kGet`: the content is cached; "does not exist" is cached; a read of an absent
    -- object; a read of a present one
    fun_cases kGet w cfg.maxGet name mode view
    case case1 b hvc =>
      obtain ⟨b', ho, hb⟩ := Option.map_eq_some_iff.mp (view_truth hc hv wc (asBytes_some hvc))
      cases hb
      rw [ho]
      exact ⟨rfl, honestK_nil w⟩
    case case2 _ hve =>
      -- the flag is the truth: the object is absent
      have ho := Val.flag.inj (Option.some.inj (view_truth hc hv we (asFlag_some hve)))
      rw [Option.isSome_eq_false_iff, Option.isNone_iff_eq_none] at ho
      rw [ho]
      exact ⟨rfl, honestK_nil w⟩
    case case3 _ ho _ =>
      rw [ho]
      exact ⟨rfl, honestK_singleton we (by simp [truth, ho])⟩
    case case4 _ b ho _ =>
      rw [ho]
      refine ⟨rfl, ?_⟩
      have h1 := honestK_singleton we (v := .flag true) (by simp [truth, ho])
      split
      · exact honestK_append h1 (honestK_singleton wc (by simp [truth, ho]))
      · exact h1
  case exists_ name =>
    have we := wfb_plain w.hash .exists_ name (by decide)
    -- a cached flag; a miss
    fun_cases kExists w name view
    case case1 e hve =>
      cases Val.flag.inj (Option.some.inj (view_truth hc hv we (asFlag_some hve)))
      exact ⟨rfl, honestK_nil w⟩
    case case2 => exact ⟨rfl, honestK_singleton we (by simp [truth])⟩
  case iter dir recursive =>
    have wi := wfb_iter w.hash dir recursive
    have htruth : truth w ⟨if recursive then .iterRecursive else .iter, dir, 0, 0, w.hash⟩ =
        some (.names (w.list dir recursive)) := by
      cases recursive <;> simp [truth]
    -- a cached listing; a miss
    fun_cases kIter w dir recursive view
    case case1 l hvi =>
      cases Val.names.inj (Option.some.inj (htruth.symm.trans (view_truth hc hv wi (asNames_some hvi))))
      exact ⟨rfl, honestK_nil w⟩
    case case2 => exact ⟨rfl, honestK_singleton wi htruth⟩

/-- the history of views is well formed: every view shows part of what is stored at that point,
    lengths and read buffers are positive.  `kRun` accumulates `c` the same way and reads it nowhere: its answers
    depend on the views alone, and it is this predicate that ties each view to `c`. -/
def KHistOK (w : World) (cfg : Cfg) : List (KOp × (Thanos.CacheKeys.Str → Option Val)) → KCache → Prop
  | [], _ => True
  | (op, view) :: rest, c =>
    SubViewK c view ∧
    (∀ name off len p, op = .getRange name off len p → len ≥ 1 ∧ p ≥ 1) ∧
    KHistOK w cfg rest (c ++ (kStep w cfg op view).stores)

end Thanos.CachingBucket
