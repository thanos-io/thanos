import Thanos.Model.Reloader
import Thanos.Lemmas.ListFacts
/-
  The reloader (Model/Reloader.lean) for Props/C47.  First the notions the theorems of C47 are stated in.  Then the
  retry loop and the scan of `expandEnv`; the output files as a finite map (`get_set`, `get_removeStale`); the pass
  over the config directories, in two statements, each one induction along `passDirs`: what it returns when it
  completes (`passDirs_ok`: hashes, change flag, tracked lists) and what it does to the output files
  (`passDirs_out`); and `apply` as a list of outcomes (`apply_outcomes`), from which `apply_ok_cases` reads off the
  reload bookkeeping.
-/
namespace Thanos.Reloader

/-! ### the notions the theorems of Props/C47 are stated in -/

/-- what `apply` hashes: the config file, every config directory, the watched directories -/
def contentOf (c : Conf) (s : Snap) : Option Hash × List Hash × Option Hash :=
  (cfgHashOf c s, s.dirs.map hashFiles, s.watched.map hashFiles)

/-- what the reloader remembers of the last successful reload -/
def lastOf (st : St) : Option Hash × List Hash × Option Hash := (st.lastCfg, st.lastDirs, st.lastWatched)

/-- The record of directory hashes is empty (no successful reload yet) or has one entry per directory: what turns
    the positional comparison of `passDirs` (`lastDirs[i]?` against the hash of directory `i`) into an equality of
    lists (`dirsStep_ok`).  It holds of the initial state, and `apply` writes `lastDirs` only on a successful reload,
    one hash per directory of its snapshot: so it is kept as long as the next snapshot has as many directories as the
    last one reloaded (the side condition of `C47_removed_full`).  No theorem states this along `runHistory`. -/
def LenInv (st : St) (s : Snap) : Prop := st.lastDirs = [] ∨ st.lastDirs.length = s.dirs.length

/-- the test of `apply` for "nothing to reload" -/
def quiet (c : Conf) (st : St) (s : Snap) (p : Pass) : Bool :=
  !st.force && !p.changed && st.lastCfg == cfgHashOf c s && st.lastWatched == s.watched.map hashFiles

/-- what a file's output has to be: the text after gunzip with the variables substituted -/
def expected (c : Conf) (env : List (String × String)) (f : File) : Option String :=
  match f.plain with
  | none => none
  | some p => match expandEnv (lookupEnv env) c.tolerate p with
    | .ok v => some v
    | .error _ => none

/-- the tracked output lists, from CfgDir `i` on, only name outputs of their own directory.  The offset is there for
    `keysOf_iff`, which splits it into head and tail for `[]` as for a cons, so that the induction along `passDirs`
    needs no case split on the lists it is given. -/
def KeysOf (i : Nat) (files : List (Option (List Key))) : Prop :=
  ∀ j l, files[j]? = some (some l) → ∀ k ∈ l, ∃ nm, k = Key.dir (i + j) nm

/-- every output present in an output directory is named by `A` or by one of the tracked lists.  No positions here:
    inside `passDirs_out`, `A` is what the directories already walked track. -/
def Tracked (A : Key → Prop) (files : List (Option (List Key))) (o : OutFS) : Prop :=
  ∀ m nm, o.get (.dir m nm) ≠ none → A (.dir m nm) ∨ ∃ a ∈ files, Key.dir m nm ∈ a.getD []

theorem retry_pos : ∀ (script : List Bool), script ≠ [] → 0 < (retry script).1
  | [], h => absurd rfl h
  | true :: _, _ => Nat.one_pos
  | false :: _, _ => Nat.succ_pos _

theorem map_error {α β ε} (f : α → β) (x : Except ε α) (e : ε) (h : x.map f = .error e) : x = .error e := by
  cases x with
  | error e' => cases h; rfl
  | ok a => cases h

theorem matchVar_length (rest name after : List Char) (h : matchVar rest = some (name, after)) :
    after.length < rest.length := by
  unfold matchVar at h
  split at h
  · rename_i h2
    have := (List.dropWhile_sublist isVarChar (l := rest)).length_le
    rw [h2] at this
    cases h
    exact this
  · cases h

theorem refAt_length (l name after : List Char) (h : refAt l = some (name, after)) : after.length + 2 < l.length := by
  unfold refAt at h
  split at h
  · exact Nat.add_lt_add_right (matchVar_length _ name after h) 2
  · cases h

theorem expandGo_error (env : String → Option String) (tol : Bool) (fuel : Nat) (l : List Char) (e : ExpErr)
    (h : expandGo env tol fuel l = .error e) :
    (e = .fuel ∧ fuel ≤ l.length) ∨ ((∃ n, e = .unset n) ∧ tol = false) := by
  fun_induction expandGo env tol fuel l with
  -- out of fuel
  | case1 => cases h; exact Or.inl ⟨rfl, Nat.zero_le _⟩
  -- end of the input
  | case2 => cases h
  -- a reference, to a variable that is set | to an unset one, tolerated: the scan goes on behind it
  | case3 fuel c rest name after href v hv ih | case4 fuel c rest name after href hv htol ih =>
    have := refAt_length _ _ _ href
    exact (ih (map_error _ _ _ h)).imp_left fun ⟨he, hf⟩ => ⟨he, by simp only [List.length_cons] at this ⊢; omega⟩
  -- a reference to an unset variable, not tolerated
  | case5 fuel c rest name after href hv htol => cases h; exact Or.inr ⟨⟨_, rfl⟩, by simpa using htol⟩
  -- no reference starts at `c`
  | case6 fuel c rest href ih =>
    exact (ih (map_error _ _ _ h)).imp_left fun ⟨he, hf⟩ => ⟨he, Nat.succ_le_succ hf⟩

/-- the fuel `expandEnv` gives is never used up -/
theorem expandEnv_error (env : String → Option String) (tol : Bool) (s : String) (e : ExpErr)
    (h : expandEnv env tol s = .error e) : (∃ n, e = .unset n) ∧ tol = false := by
  rcases expandGo_error env tol _ _ e (map_error _ _ _ h) with ⟨_, hf⟩ | hu
  · rw [String.length_toList] at hf; omega
  · exact hu

theorem refAt_none_of_ne (c : Char) (rest : List Char) (h : c ≠ '$') : refAt (c :: rest) = none := by
  unfold refAt
  split
  · rename_i heq; injection heq with h1 _; exact absurd h1 h
  · rfl

theorem expandGo_plain (env : String → Option String) (tol : Bool) :
    ∀ (l : List Char) (fuel : Nat), l.length < fuel → (∀ c ∈ l, c ≠ '$') → expandGo env tol fuel l = .ok l
  | _, 0, h, _ => absurd h (Nat.not_lt_zero _)
  | [], _ + 1, _, _ => rfl
  | c :: rest, f + 1, h, hc => by
    have ih := expandGo_plain env tol rest f (Nat.lt_of_succ_lt_succ h) (fun x hx => hc x (List.mem_cons_of_mem _ hx))
    simp only [expandGo, refAt_none_of_ne c rest (hc c List.mem_cons_self), ih]
    rfl

theorem get_del (o : OutFS) (k k' : Key) :
    (o.del k).get k' = if k' = k then none else o.get k' := by
  unfold OutFS.del OutFS.get
  rw [find?_filter_key (key := (·.1)) (k := k) (k' := k') (by simp) (by simp)]
  split <;> rfl

theorem get_set (o : OutFS) (k k' : Key) (v : String) :
    (o.set k v).get k' = if k' = k then some v else o.get k' := by
  have h := get_del o k k'
  unfold OutFS.set OutFS.get OutFS.del at *
  rw [List.find?_cons]
  by_cases e : k' = k
  · simp [e]
  · rw [if_neg e] at h ⊢
    rw [show (k == k') = false from beq_false_of_ne fun e' => e e'.symm, h]

theorem get_foldl_del (ks : List Key) : ∀ (o : OutFS) (k' : Key),
    (ks.foldl OutFS.del o).get k' = if k' ∈ ks then none else o.get k' := by
  induction ks with
  | nil => intro o k'; rfl
  | cons k ks ih =>
    intro o k'
    simp only [List.foldl_cons, ih, get_del, List.mem_cons]
    by_cases h1 : k' ∈ ks <;> by_cases h2 : k' = k <;> simp [h1, h2]

theorem get_removeStale (lastHere : Option (List Key)) (cur : List Key) (o : OutFS) (key : Key) :
    (removeStale lastHere cur o).get key = if key ∈ lastHere.getD [] ∧ key ∉ cur then none else o.get key := by
  cases lastHere with
  | none => simp [removeStale]
  | some last => simp [removeStale, get_foldl_del, List.mem_filter]

theorem normalize_ok (c : Conf) (env : List (String × String)) (f : File) (k : Key) (o o' : OutFS)
    (h : normalize c env f k o = .ok o') : ∃ v, expected c env f = some v ∧ o' = o.set k v := by
  revert h
  -- of the five arms (dangling link, broken gzip, expanded, unset variable, out of fuel) only the third is `.ok`
  fun_cases normalize c env f k o with
  | case3 _ p hp v he => intro h; cases h; exact ⟨v, by simp only [expected, hp, he], rfl⟩
  | case1 | case2 | case4 | case5 => intro h; cases h

theorem cfgStep_ok {c : Conf} {st : St} {s : Snap} {o0 : OutFS} (h : cfgStep c st s = .ok o0) :
    (c.hasCfg = true → c.hasOut = true →
      ∃ f v, s.cfg = some f ∧ expected c s.env f = some v ∧ o0 = st.out.set .cfg v) ∧
    ∀ m nm, o0.get (.dir m nm) = st.out.get (.dir m nm) := by
  unfold cfgStep at h
  split at h
  · split at h
    · cases h
    · rename_i f hcfg
      split at h
      · obtain ⟨v, hv, rfl⟩ := normalize_ok c s.env f .cfg st.out o0 h
        exact ⟨fun _ _ => ⟨f, v, hcfg, hv, rfl⟩, fun m nm => by rw [get_set, if_neg Key.noConfusion]⟩
      · rename_i ho
        cases h
        exact ⟨fun _ h => absurd h ho, fun _ _ => rfl⟩
  · rename_i hc
    cases h
    exact ⟨fun h => absurd h hc, fun _ _ => rfl⟩

/-- `dn`: the files the entries loop got through before it stopped (all of them when it completes) -/
theorem writeEntries_spec (c : Conf) (env : List (String × String)) (i : Nat)
    (fs : List File) (o : OutFS) (w : List Key) (o1 : OutFS) (written : List Key) (e : Option Err)
    (h : writeEntries c env i fs o w = (o1, written, e)) : ∃ dn : List File,
      written = w ++ dn.map (fun f => Key.dir i f.name) ∧ (e = none → dn = fs) ∧
      (∀ key, key ∉ dn.map (fun f => Key.dir i f.name) → o1.get key = o.get key) ∧
      ((dn.map (·.name)).Nodup → ∀ f ∈ dn, ∃ v, expected c env f = some v ∧ o1.get (.dir i f.name) = some v) := by
  -- no entry left; the entry is written; it fails
  fun_induction writeEntries c env i fs o w with
  | case1 o w =>
    cases h
    exact ⟨[], (List.append_nil _).symm, fun _ => rfl, fun _ _ => rfl, fun _ _ hf => nomatch hf⟩
  | case2 f fs o w o' hn ih =>
    obtain ⟨v, hv, rfl⟩ := normalize_ok c env f _ o o' hn
    obtain ⟨dn, hwr, hall, hframe, hexp⟩ := ih h
    refine ⟨f :: dn, by rw [hwr, List.append_assoc]; rfl, fun h => by rw [hall h], ?_, ?_⟩
    · intro key hk
      rw [List.map_cons, List.mem_cons, not_or] at hk
      rw [hframe key hk.2, get_set, if_neg hk.1]
    · intro hnd g hg
      rw [List.map_cons, List.nodup_cons] at hnd
      rcases List.mem_cons.mp hg with rfl | hg
      · refine ⟨v, hv, ?_⟩
        rw [hframe, get_set, if_pos rfl]
        intro hm
        obtain ⟨g', hg', heq⟩ := List.mem_map.mp hm
        exact hnd.1 ((Key.dir.inj heq).2 ▸ List.mem_map_of_mem hg')
      · exact hexp hnd.2 g hg
  | case3 f fs o w e' hn =>
    cases h
    exact ⟨[], (List.append_nil _).symm, (fun h => nomatch h), fun _ _ => rfl, fun _ _ hf => nomatch hf⟩

theorem mem_dirKeys {i : Nat} {l : List File} {k : Key} (h : k ∈ l.map fun f => Key.dir i f.name) :
    ∃ nm, k = Key.dir i nm := by
  obtain ⟨f, _, rfl⟩ := List.mem_map.mp h
  exact ⟨f.name, rfl⟩

theorem writeEntries_other {c : Conf} {env : List (String × String)} {i : Nat} {fs : List File} {o o1 : OutFS}
    {w written : List Key} {e : Option Err} (h : writeEntries c env i fs o w = (o1, written, e)) {key : Key}
    (hne : ∀ nm, key ≠ Key.dir i nm) : o1.get key = o.get key := by
  obtain ⟨dn, _, _, hframe, _⟩ := writeEntries_spec c env i fs o w o1 written e h
  exact hframe key fun hm => (mem_dirKeys hm).elim hne

theorem keysOf_iff (i : Nat) (files : List (Option (List Key))) :
    KeysOf i files ↔ (∀ k ∈ files.head?.join.getD [], ∃ nm, k = Key.dir i nm) ∧ KeysOf (i + 1) files.tail := by
  cases files with
  | nil => exact ⟨fun _ => ⟨(fun _ h => nomatch h), fun _ _ h => nomatch h⟩, fun _ _ _ h => nomatch h⟩
  | cons a t =>
    refine ⟨fun h => ⟨fun k hk => ?_, fun j l hj => Nat.add_right_comm i 1 j ▸ h (j + 1) l hj⟩, fun ⟨h0, ht⟩ j l hj => ?_⟩
    · cases a with
      | none => nomatch hk
      | some l => exact h 0 l rfl k hk
    · cases j with
      | zero => cases hj; exact h0
      | succ j => exact Nat.add_right_comm i 1 j ▸ ht j l hj

theorem mem_head_or_tail {α} {a : Option (List α)} {l : List (Option (List α))} {k : α} (ha : a ∈ l)
    (hk : k ∈ a.getD []) : k ∈ l.head?.join.getD [] ∨ a ∈ l.tail := by
  cases l with
  | nil => cases ha
  | cons b t => exact (List.mem_cons.mp ha).imp (fun (e : a = b) => e ▸ hk) id

theorem passDirs_ok {c : Conf} {track : Bool} {env : List (String × String)} {lastDirs : List Hash}
    {ds : List (List File)} {i : Nat} {lastFiles : List (Option (List Key))} {o : OutFS} {hs : List Hash} {ch : Bool}
    {p : Pass} (hp : passDirs c track env lastDirs i ds lastFiles o hs ch = p) (herr : p.err = none) :
    p.hashes = hs ++ ds.map hashFiles ∧
    (p.changed = false ↔ ch = false ∧ ∀ x ∈ ds.zipIdx i, lastDirs[x.2]? = some (hashFiles x.1)) ∧
    p.files = (ds.zipIdx i).map fun x => some (x.1.map fun f => Key.dir x.2 f.name) := by
  subst hp
  -- no directory left; the entries loop fails in directory `i`; it completes
  fun_induction passDirs c track env lastDirs i ds lastFiles o hs ch with
  | case1 => simp
  | case2 => cases herr
  | case3 i d ds lf o hs ch o1 written lastHere restFiles cur o2 h ch' r hw ih =>
    obtain ⟨ih1, ih2, ih3⟩ := ih herr
    refine ⟨by rw [ih1, List.append_assoc]; rfl, ih2.trans ?_, by rw [ih3]; rfl⟩
    rw [Bool.or_eq_false_iff, bne_eq_false_iff_eq, List.zipIdx_cons, List.forall_mem_cons, and_assoc]

/-- The pass and the output files.  Under `KeysOf`: outputs of earlier directories and the config output are not
    touched; `KeysOf` again; when the pass completes, every file of every directory has its expected output.
    With tracking (the repaired code) every directory output stays tracked, whether the pass completes or not
    (a pass that has more tracked lists than directories forgets the lists beyond, hence the bound). -/
theorem passDirs_out {c : Conf} {track : Bool} {env : List (String × String)} {lastDirs : List Hash}
    {ds : List (List File)} {i : Nat} {lastFiles : List (Option (List Key))} {o : OutFS} {hs : List Hash} {ch : Bool}
    {p : Pass} (hp : passDirs c track env lastDirs i ds lastFiles o hs ch = p) :
    (KeysOf i lastFiles →
      (∀ key, (∀ m nm, key = Key.dir m nm → m < i) → p.out.get key = o.get key) ∧
      KeysOf i p.files ∧
      (p.err = none → ∀ x ∈ ds.zipIdx i, (x.1.map (·.name)).Nodup → ∀ f ∈ x.1, ∃ v, expected c env f = some v ∧
        p.out.get (.dir x.2 f.name) = some v)) ∧
    (track = true → lastFiles.length ≤ ds.length → ∀ A, Tracked A lastFiles o →
      Tracked A p.files p.out ∧ p.files.length ≤ ds.length) := by
  subst hp
  fun_induction passDirs c track env lastDirs i ds lastFiles o hs ch with
  | case1 =>
    refine ⟨fun _ => ⟨fun _ _ => rfl, (fun _ _ hj => nomatch hj), (fun _ _ hx => nomatch hx)⟩, fun _ hl A ht => ?_⟩
    cases List.eq_nil_of_length_eq_zero (Nat.le_zero.mp hl)
    exact ⟨ht, Nat.le_refl 0⟩
  | case2 i d ds lf o hs ch o1 written lastHere restFiles e here hw =>
    -- the entries loop failed in directory `i`
    obtain ⟨dn, rfl, _, hframe, _⟩ := writeEntries_spec c env i d o [] o1 written _ hw
    -- with tracking, the list kept for this directory is what was tracked followed by what was written
    -- (the model's `match` and `getD` agree only after the case split)
    have hm : track = true → here = some (lf.head?.join.getD [] ++ dn.map fun f => Key.dir i f.name) := by
      intro htr
      subst htr
      dsimp only [here, lastHere]
      cases lf.head?.join <;> rfl
    refine ⟨fun hk => ?_, fun htr hl A ht => ⟨fun m nm hne => ?_,
      Nat.succ_le_succ (List.length_tail ▸ Nat.sub_le_of_le_add hl)⟩⟩
    · obtain ⟨hhead, htail⟩ := (keysOf_iff i lf).mp hk
      refine ⟨fun key hkey => writeEntries_other hw fun nm heq => Nat.lt_irrefl i (hkey i nm heq),
        (keysOf_iff i _).mpr ⟨fun k hk' => ?_, htail⟩, (fun h => nomatch h)⟩
      cases track with
      | false => exact hhead k hk'
      | true => exact (List.mem_append.mp ((hm rfl ▸ hk' :) : k ∈ _ ++ _)).elim (hhead k) mem_dirKeys
    · -- an output present after the loop was written by it or was there before
      rw [hm htr]
      by_cases hmem : Key.dir m nm ∈ dn.map (fun f => Key.dir i f.name)
      · exact Or.inr ⟨_, List.mem_cons_self, List.mem_append_right _ hmem⟩
      · refine (ht m nm (hframe _ hmem ▸ hne)).imp_right fun ⟨a, ha, hk⟩ => ?_
        rcases mem_head_or_tail ha hk with hh | ha
        · exact ⟨_, List.mem_cons_self, List.mem_append_left _ hh⟩
        · exact ⟨a, List.mem_cons_of_mem _ ha, hk⟩
  | case3 i d ds lf o hs ch o1 written lastHere restFiles cur o2 h ch' r hw ih =>
    -- it completed; `r` is the pass over the remaining directories
    obtain ⟨dn, _, hall, hframe, hexp⟩ := writeEntries_spec c env i d o [] o1 written _ hw
    cases hall rfl
    obtain ⟨ihk, iht⟩ := ih
    refine ⟨fun hk => ?_, fun htr hl A ht => ?_⟩
    · obtain ⟨hhead, htail⟩ := (keysOf_iff i lf).mp hk
      obtain ⟨t1, t2, t3⟩ := ihk htail
      -- what the rest of the pass leaves alone: the outputs of directory `i` and of the earlier ones
      have hrest : ∀ {key}, (∀ m nm, key = Key.dir m nm → m ≤ i) → r.out.get key = o2.get key :=
        fun hkey => t1 _ fun m nm heq => Nat.lt_succ_of_le (hkey m nm heq)
      refine ⟨fun key hkey => ?_, (keysOf_iff i _).mpr ⟨fun k => mem_dirKeys, t2⟩, ?_⟩
      · -- directory `i` leaves alone everything that is not one of its outputs
        rw [hrest fun m nm heq => Nat.le_of_lt (hkey m nm heq), get_removeStale,
          if_neg fun hs => (hhead key hs.1).elim fun nm heq => Nat.lt_irrefl i (hkey i nm heq)]
        exact writeEntries_other hw fun nm heq => Nat.lt_irrefl i (hkey i nm heq)
      · intro herr x hx hnd f hf
        rcases List.mem_cons.mp (List.zipIdx_cons ▸ hx) with rfl | hx
        · obtain ⟨v, hv, hget⟩ := hexp hnd f hf
          refine ⟨v, hv, ?_⟩
          rw [hrest fun m nm heq => Nat.le_of_eq (Key.dir.inj heq).1.symm, get_removeStale,
            if_neg fun hs => hs.2 (List.mem_map_of_mem hf)]
          exact hget
        · exact t3 herr x hx hnd f hf
    · -- for the rest of the pass the outputs of directory `i` are tracked by `cur`
      obtain ⟨u1, u2⟩ := iht htr (List.length_tail ▸ Nat.sub_le_of_le_add hl) (fun k => A k ∨ k ∈ cur)
        fun m nm hne => by
          -- an output present after the stale ones were removed was written, or was there and not tracked here
          rw [get_removeStale] at hne
          split at hne
          · exact absurd rfl hne
          · rename_i hs
            by_cases hcur : Key.dir m nm ∈ cur
            · exact Or.inl (Or.inr hcur)
            · refine (ht m nm (hframe _ hcur ▸ hne)).imp Or.inl fun ⟨a, ha, hk⟩ => ?_
              exact (mem_head_or_tail ha hk).elim (fun hh => absurd ⟨hh, hcur⟩ hs) fun ha => ⟨a, ha, hk⟩
      refine ⟨fun m nm hne => ?_, Nat.succ_le_succ u2⟩
      rcases u1 m nm hne with (hA | hc) | ⟨a, ha, hk⟩
      · exact Or.inl hA
      · exact Or.inr ⟨some cur, List.mem_cons_self, hc⟩
      · exact Or.inr ⟨a, List.mem_cons_of_mem _ ha, hk⟩

/-- the pass as `apply` starts it: under `LenInv` its positional comparison is an equality of lists -/
theorem dirsStep_ok (c : Conf) (track : Bool) (st : St) (s : Snap) (o0 : OutFS)
    (h : (dirsStep c track st s o0).err = none) :
    (dirsStep c track st s o0).hashes = s.dirs.map hashFiles ∧
    (LenInv st s → ((dirsStep c track st s o0).changed = false ↔ st.lastDirs = s.dirs.map hashFiles)) := by
  obtain ⟨hh, hc, _⟩ := passDirs_ok (p := dirsStep c track st s o0) rfl h
  refine ⟨hh, fun hlen => hc.trans ⟨fun ⟨h0, hk⟩ => ?_, fun heq => ?_⟩⟩
  · rcases hlen with hnil | hl
    · rw [hnil] at h0 ⊢
      cases hd : s.dirs with
      | nil => rfl
      | cons _ _ => rw [hd] at h0; cases h0
    · apply List.ext_getElem?
      intro k
      rw [List.getElem?_map]
      cases hd : s.dirs[k]? with
      | none => exact List.getElem?_eq_none (hl ▸ List.getElem?_eq_none_iff.mp hd)
      | some d => exact hk (d, k) (List.mem_zipIdx_iff_getElem?.mpr hd)
  · rw [heq]
    refine ⟨by cases s.dirs <;> rfl, fun x hx => ?_⟩
    rw [List.getElem?_map, List.mem_zipIdx_iff_getElem?.mp hx]
    rfl

theorem watchStep_fields (s : Snap) (p : Pass) :
    (watchStep s p).out = p.out ∧ (watchStep s p).files = p.files ∧ (watchStep s p).hashes = p.hashes ∧
    (watchStep s p).changed = p.changed ∧ ((watchStep s p).err = none → p.err = none) := by
  unfold watchStep
  split
  · rename_i hb
    refine ⟨rfl, rfl, rfl, rfl, fun _ => ?_⟩
    exact Option.isNone_iff_eq_none.mp (Bool.and_eq_true _ _ ▸ hb).1
  · exact ⟨rfl, rfl, rfl, rfl, id⟩

theorem quiet_iff (c : Conf) (st : St) (s : Snap) (p : Pass)
    (hc : p.changed = false ↔ st.lastDirs = s.dirs.map hashFiles) :
    quiet c st s p = true ↔ st.force = false ∧ lastOf st = contentOf c s := by
  simp only [quiet, lastOf, contentOf, Bool.and_eq_true, Bool.not_eq_true', beq_iff_eq, Prod.mk.injEq, hc]
  exact ⟨fun ⟨⟨⟨a, b⟩, c⟩, d⟩ => ⟨a, c, b, d⟩, fun ⟨a, c, b, d⟩ => ⟨⟨⟨a, b⟩, c⟩, d⟩⟩

theorem apply_cases (c : Conf) (track : Bool) (st : St) (s : Snap) :
    (∃ e, cfgStep c st s = .error e ∧ apply c track st s = (st, .err e)) ∨
    ∃ o0, cfgStep c st s = .ok o0 ∧ apply c track st s = finish c st s (watchStep s (dirsStep c track st s o0)) := by
  unfold apply
  cases cfgStep c st s with
  | error e => exact Or.inl ⟨e, rfl, rfl⟩
  | ok o0 => exact Or.inr ⟨o0, rfl, rfl⟩

/-- Everything `apply` can do.  It fails on the config file and changes nothing; or the pass `p` over the
    config directories is made, its outputs and tracked lists are kept, and then: an error (of the pass, or
    of the walk over the watched directories); no request (nothing to reload, or watch interval 0); a reload
    that succeeded; a reload that failed. -/
theorem apply_outcomes (c : Conf) (track : Bool) (st : St) (s : Snap) :
    (∃ e, cfgStep c st s = .error e ∧ apply c track st s = (st, .err e)) ∨
    ∃ o0 p, cfgStep c st s = .ok o0 ∧ p = dirsStep c track st s o0 ∧
      ((∃ e, apply c track st s = ({ st with out := p.out, lastDirFiles := p.files }, .err e)) ∨
        p.err = none ∧
        ((quiet c st s p = true ∨ c.watchZero = true) ∧
            apply c track st s = ({ st with out := p.out, lastDirFiles := p.files }, .ok 0) ∨
          quiet c st s p = false ∧ c.watchZero = false ∧
            ((retry s.script).2 = true ∧ apply c track st s =
                ({ st with out := p.out, lastDirFiles := p.files, force := false, lastCfg := cfgHashOf c s,
                           lastDirs := p.hashes, lastWatched := s.watched.map hashFiles }, .ok (retry s.script).1) ∨
              (retry s.script).2 = false ∧ apply c track st s =
                ({ st with out := p.out, lastDirFiles := p.files, force := true }, .ok (retry s.script).1)))) := by
  rcases apply_cases c track st s with h | ⟨o0, hc, ha⟩
  · exact Or.inl h
  · refine Or.inr ⟨o0, _, hc, rfl, ?_⟩
    -- `finish` sees the pass through `watchStep`, which only adds an error
    obtain ⟨wo, wf, wh, wc, we⟩ := watchStep_fields s (dirsStep c track st s o0)
    rw [ha, quiet, ← wo, ← wf, ← wh, ← wc]
    generalize watchStep s (dirsStep c track st s o0) = q at we ⊢
    unfold finish
    cases hq : q.err with
    | some e => exact Or.inl ⟨e, rfl⟩
    | none =>
      refine Or.inr ⟨we hq, ?_⟩
      dsimp only
      cases (!st.force && !q.changed && st.lastCfg == cfgHashOf c s && st.lastWatched == s.watched.map hashFiles) with
      | true => exact Or.inl ⟨Or.inl rfl, rfl⟩
      | false =>
        cases c.watchZero with
        | true => exact Or.inl ⟨Or.inr rfl, rfl⟩
        | false =>
          refine Or.inr ⟨rfl, rfl, ?_⟩
          cases (retry s.script).2 with
          | true => exact Or.inl ⟨rfl, rfl⟩
          | false => exact Or.inr ⟨rfl, rfl⟩

theorem apply_pass (c : Conf) (track : Bool) (st : St) (s : Snap) :
    (∃ e, cfgStep c st s = .error e ∧ apply c track st s = (st, .err e)) ∨
    ∃ o0, cfgStep c st s = .ok o0 ∧ (apply c track st s).1.out = (dirsStep c track st s o0).out ∧
      (apply c track st s).1.lastDirFiles = (dirsStep c track st s o0).files ∧
      ∀ n, (apply c track st s).2 = .ok n → (dirsStep c track st s o0).err = none := by
  -- config file failed | error after the pass | no request | reload succeeded | reload failed
  rcases apply_outcomes c track st s with h | ⟨o0, p, hc, rfl, ⟨e, hf⟩ | ⟨hpe, ⟨_, hf⟩ | ⟨_, _, ⟨_, hf⟩ | ⟨_, hf⟩⟩⟩⟩
  · exact Or.inl h
  · exact Or.inr ⟨o0, hc, by rw [hf]; exact ⟨rfl, rfl, fun n hn => nomatch hn⟩⟩
  all_goals exact Or.inr ⟨o0, hc, by rw [hf]; exact ⟨rfl, rfl, fun _ _ => hpe⟩⟩

/-- Everything `apply` does to the reload bookkeeping, when it returns without error and the
    watch interval is not zero. -/
theorem apply_ok_cases (c : Conf) (track : Bool) (st : St) (s : Snap) (n : Nat)
    (hok : (apply c track st s).2 = .ok n) (hw : c.watchZero = false) (hlen : LenInv st s) :
    let st' := (apply c track st s).1
    let needs := st.force = true ∨ lastOf st ≠ contentOf c s
    (¬ needs → n = 0 ∧ lastOf st' = lastOf st ∧ st'.force = st.force) ∧
    (needs → n = (retry s.script).1 ∧
      ((retry s.script).2 = true → lastOf st' = contentOf c s ∧ st'.force = false) ∧
      ((retry s.script).2 = false → lastOf st' = lastOf st ∧ st'.force = true)) := by
  dsimp only
  -- the two errors first; `h` holds the three arms in which the pass completed
  rcases apply_outcomes c track st s with ⟨_, _, hf⟩ | ⟨o0, p, _, rfl, ⟨_, hf⟩ | ⟨hpe, h⟩⟩
  · rw [hf] at hok; cases hok
  · rw [hf] at hok; cases hok
  · obtain ⟨hh, hchg⟩ := dirsStep_ok c track st s o0 hpe
    -- `needs` is the negation of the test `apply` makes
    have hq : quiet c st s (dirsStep c track st s o0) = true ↔ ¬ (st.force = true ∨ lastOf st ≠ contentOf c s) := by
      rw [quiet_iff c st s _ (hchg hlen), not_or, Bool.not_eq_true, Classical.not_not]
    -- no request (nothing to reload | watch interval 0) | reload succeeded | reload failed
    rcases h with ⟨hq' | hz, hf⟩ | ⟨hq', _, ⟨hr, hf⟩ | ⟨hr, hf⟩⟩
    · rw [hf] at hok ⊢
      cases hok
      exact ⟨fun _ => ⟨rfl, rfl, rfl⟩, fun hn => absurd hn (hq.mp hq')⟩
    · rw [hw] at hz; cases hz
    · rw [hf] at hok ⊢
      cases hok
      exact ⟨fun hn => (by rw [hq.mpr hn] at hq'; cases hq'),
        fun _ => ⟨rfl, fun _ => ⟨by simp only [lastOf, contentOf, hh], rfl⟩, fun h => by rw [hr] at h; cases h⟩⟩
    · rw [hf] at hok ⊢
      cases hok
      exact ⟨fun hn => (by rw [hq.mpr hn] at hq'; cases hq'),
        fun _ => ⟨rfl, fun h => (by rw [hr] at h; cases h), fun _ => ⟨rfl, rfl⟩⟩⟩

end Thanos.Reloader
