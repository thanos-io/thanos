import Thanos.Model.Downsample
import Thanos.Model.DownsampleSpec
import Thanos.Lemmas.ListFacts
/-
  downsampleBatch (pkg/compact/downsample), for C36 / C37 / C38.  Window arithmetic goes through the window
  number `t / r` (`currentWindow_div`).  The loop is analysed once: it emits one aggregator snapshot (`snap`) per
  segment of `loopSegs`, the cut its own test makes (a partition with strictly increasing emission timestamps,
  `loopSegs_spec`); on time-ordered samples the segments are the window runs `runs` (`loopSegs_eq_runs`), which is
  also where the order of the runs' emission timestamps and windows comes from (`runs_ts`, `runs_keys_sorted`).  The
  other modules cite two theorems: `downsampleBatch_segs` (any batch meeting `BatchOK`, the partition left abstract)
  and `downsampleBatch_runs` (time-ordered batch: the partition is `runs`).
-/
namespace Thanos.Downsample

set_option exponentiation.threshold 1100 in
theorem maxFloat_eq : maxFloat = 2 ^ 1024 - 2 ^ 971 := by decide

theorem minInt64_eq : minInt64 = -(2 ^ 63) := by decide
theorem maxInt64_val : maxInt64 = 9223372036854775807 := rfl

/-- for a positive resolution `currentWindow` is the floored window end, for negative timestamps too -/
theorem currentWindow_eq {t r : Int} (hr : 0 < r) : currentWindow t r = t - t % r + r - 1 := by
  have h1 := Int.emod_nonneg t (Int.ne_of_gt hr)
  have h2 := Int.emod_lt_of_pos t hr
  have hn : (r.natAbs : Int) = r := Int.natAbs_of_nonneg (Int.le_of_lt hr)
  rw [currentWindow, Int.tmod_eq_emod]
  -- the truncating remainder is `t % r`, or `t % r - r` (negative) for a negative `t` not divisible by `r`
  by_cases h : 0 ≤ t ∨ r ∣ t
  · rw [if_pos h, if_neg (by omega)]
    omega
  · rw [if_neg h, if_pos (by omega)]
    omega

/-- not used below; F36 in numbers (`C36_truncating_window_false`) -/
theorem currentWindowTrunc_negative : currentWindowTrunc (-5) 50 = 49 ∧ currentWindow (-5) 50 = -1 ∧
    currentWindowTrunc 3 50 = 49 := by decide

/-- the window end by the window number `t / r`: comparing window ends is comparing window numbers -/
theorem currentWindow_div {t r : Int} (hr : 0 < r) : currentWindow t r = r * (t / r) + r - 1 := by
  have := Int.emod_add_mul_ediv t r
  rw [currentWindow_eq hr]; omega

theorem currentWindow_ge {t r : Int} (hr : 0 < r) : t ≤ currentWindow t r := by
  rw [currentWindow_eq hr]
  have := Int.emod_lt_of_pos t hr
  omega

theorem currentWindow_lt {t r : Int} (hr : 0 < r) : currentWindow t r < t + r := by
  rw [currentWindow_eq hr]
  have := Int.emod_nonneg t (Int.ne_of_gt hr)
  omega

/-- not used below -/
theorem currentWindow_nonneg {t r : Int} (ht : 0 ≤ t) (hr : 0 < r) : 0 ≤ currentWindow t r :=
  Int.le_trans ht (currentWindow_ge hr)

theorem currentWindow_aligned {t r : Int} (hr : 0 < r) : (currentWindow t r + 1) % r = 0 := by
  rw [currentWindow_div hr, show r * (t / r) + r - 1 + 1 = r + r * (t / r) by omega,
    Int.add_mul_emod_self_left, Int.emod_self]

theorem currentWindow_eq_iff {s t r : Int} (hr : 0 < r) :
    currentWindow s r = currentWindow t r ↔ s / r = t / r := by
  rw [currentWindow_div hr, currentWindow_div hr]
  constructor
  · intro h
    exact Int.eq_of_mul_eq_mul_left (Int.ne_of_gt hr) (by omega)
  · intro h
    rw [h]

theorem currentWindow_le_of_div_le {s t r : Int} (hr : 0 < r) (h : s / r ≤ t / r) :
    currentWindow s r ≤ currentWindow t r := by
  rw [currentWindow_div hr, currentWindow_div hr]
  have := Int.mul_le_mul_of_nonneg_left h (Int.le_of_lt hr)
  omega

/-- not used below; the proofs go through `currentWindow_le_of_le` -/
theorem currentWindow_mono {s t r : Int} (hst : s ≤ t) (hr : 0 < r) :
    currentWindow s r ≤ currentWindow t r :=
  currentWindow_le_of_div_le hr (Int.ediv_le_ediv hr hst)

theorem currentWindow_lt_iff {s t r : Int} (hr : 0 < r) : currentWindow s r < t ↔ s / r < t / r := by
  rw [currentWindow_div hr, Int.lt_iff_add_one_le (a := s / r), Int.le_ediv_iff_mul_le hr, Int.add_mul, Int.one_mul,
    Int.mul_comm (s / r) r]
  omega

theorem gt_currentWindow_iff {s t r : Int} (hst : s ≤ t) (hr : 0 < r) :
    t > currentWindow s r ↔ currentWindow t r ≠ currentWindow s r := by
  rw [gt_iff_lt, currentWindow_lt_iff hr, Ne, currentWindow_eq_iff hr]
  have := Int.ediv_le_ediv hr hst
  omega

theorem currentWindow_le_of_le {s t r : Int} (hr : 0 < r) (h : t ≤ currentWindow s r) :
    currentWindow t r ≤ currentWindow s r :=
  currentWindow_le_of_div_le hr (Int.not_lt.mp (mt (currentWindow_lt_iff hr).mpr (Int.not_lt.mpr h)))

theorem currentWindow_mul {t r : Int} (hr : 0 < r) : currentWindow t r = r * (t / r + 1) - 1 := by
  rw [currentWindow_div hr, Int.mul_add, Int.mul_one]

/-- the windows of a multiple of `r1` are unions of windows of `r1` -/
theorem currentWindow_nested {t r1 k : Int} (hr : 0 < r1) (hk : 0 < k) :
    currentWindow t r1 ≤ currentWindow t (k * r1) := by
  rw [currentWindow_mul hr, currentWindow_mul (Int.mul_pos hk hr), Int.mul_comm k r1,
    ← Int.ediv_ediv_of_nonneg (Int.le_of_lt hr), Int.mul_assoc]
  -- with `q = t / r1`: `q + 1 ≤ k * (q / k + 1)`, because `q < k * (q / k) + k`
  have h2 : t / r1 + 1 ≤ k * (t / r1 / k + 1) := by rw [Int.mul_add, Int.mul_one]; exact Int.lt_mul_ediv_self_add hk
  exact Int.sub_le_sub_right (Int.mul_le_mul_of_nonneg_left h2 (Int.le_of_lt hr)) 1

def feed (a : Agg) (vs : List Int) : Agg := vs.foldl Agg.add a

/-- the aggregator after the values `hist` of earlier windows and the values `cur` of the
    current window -/
def snap (hist cur : List Int) : Agg := feed (feed Agg.zero hist).reset cur

/-- what `downsampleBatch` must emit for the runs `gs`, `hist` being the values before them -/
def specEmit (lastT : Int) : List (Int × List Pt) → List Int → List (Int × Agg)
  | [], _ => []
  | (w, g) :: gs, hist =>
    (min w lastT, snap hist (g.map (·.2))) :: specEmit lastT gs (hist ++ g.map (·.2))

@[simp] theorem feed_nil (a : Agg) : feed a [] = a := rfl
@[simp] theorem feed_cons (a : Agg) (v : Int) (vs : List Int) : feed a (v :: vs) = feed (a.add v) vs := rfl
theorem feed_append (a : Agg) (xs ys : List Int) : feed a (xs ++ ys) = feed (feed a xs) ys := by
  simp [feed, List.foldl_append]

/-- `reset` only touches the per-window fields, `add` treats the cumulative fields independently -/
theorem reset_add_reset (a : Agg) (v : Int) : (a.reset.add v).reset = (a.add v).reset := rfl

theorem reset_feed_congr (vs : List Int) (a b : Agg) (h : a.reset = b.reset) : (feed a vs).reset = (feed b vs).reset := by
  induction vs generalizing a b with
  | nil => exact h
  | cons v vs ih =>
    apply ih
    rw [← reset_add_reset a, h, reset_add_reset]

theorem reset_reset (a : Agg) : a.reset.reset = a.reset := by simp [Agg.reset]

theorem reset_feed_reset (a : Agg) (vs : List Int) : (feed a.reset vs).reset = (feed a vs).reset :=
  reset_feed_congr vs _ _ (reset_reset a)

theorem add_min_eq (a : Agg) (v : Int) : (a.add v).min = min a.min v := by
  show (if v < a.min then v else a.min) = min a.min v
  by_cases h : v < a.min
  · rw [if_pos h, Int.min_eq_right (Int.le_of_lt h)]
  · rw [if_neg h, Int.min_eq_left (Int.not_lt.mp h)]

theorem add_max_eq (a : Agg) (v : Int) : (a.add v).max = max a.max v := by
  show (if v > a.max then v else a.max) = max a.max v
  by_cases h : v > a.max
  · rw [if_pos h, Int.max_eq_right (Int.le_of_lt h)]
  · rw [if_neg h, Int.max_eq_left (Int.not_lt.mp h)]

/-- the fields that `add` updates from themselves, after feeding `vs` -/
theorem feed_fields (vs : List Int) (a : Agg) :
    (feed a vs).min = vs.foldl min a.min ∧ (feed a vs).max = vs.foldl max a.max ∧
      (feed a vs).total = a.total + vs.length ∧ (feed a vs).count = a.count + vs.length ∧ (feed a vs).sum = a.sum + vs.sum := by
  induction vs generalizing a with
  | nil => exact ⟨rfl, rfl, rfl, rfl, (Int.add_zero _).symm⟩
  | cons v vs ih =>
    obtain ⟨h1, h2, h3, h4, h5⟩ := ih (a.add v)
    rw [feed_cons, h1, h2, h3, h4, h5, add_min_eq, add_max_eq, List.length_cons, List.sum_cons]
    exact ⟨rfl, rfl, Nat.add_right_comm .., Nat.add_right_comm .., Int.add_assoc ..⟩

theorem snap_total (hist cur : List Int) : (snap hist cur).total = hist.length + cur.length := by
  simp [snap, feed_fields, Agg.reset, Agg.zero]

theorem snap_snoc (hist cur : List Int) (v : Int) : (snap hist cur).add v = snap hist (cur ++ [v]) := by
  simp [snap, feed_append]

theorem snap_next (hist cur : List Int) (v : Int) : (snap hist cur).reset.add v = snap (hist ++ cur) [v] := by
  simp [snap, feed_append, reset_feed_reset]

theorem snap_count (hist cur : List Int) : (snap hist cur).count = cur.length := by
  simp [snap, feed_fields, Agg.reset]

theorem snap_sum (hist cur : List Int) : (snap hist cur).sum = cur.sum := by
  simp [snap, feed_fields, Agg.reset]

/-- `v` stands for a finite float64: these lie in [−MaxFloat64, MaxFloat64] -/
def Finite (v : Int) : Prop := -maxFloat ≤ v ∧ v ≤ maxFloat

instance (v : Int) : Decidable (Finite v) := by unfold Finite; infer_instance

theorem snap_min (hist : List Int) {g : List Pt} (hg : g ≠ []) (hv : ∀ p ∈ g, p.2 ≤ maxFloat) :
    some (snap hist (g.map (·.2))).min = (g.map (·.2)).min? := by
  obtain ⟨p, ps, rfl⟩ := List.exists_cons_of_ne_nil hg
  rw [List.map_cons, List.min?_cons', snap, feed_cons, (feed_fields _ _).1, add_min_eq]
  -- `reset` leaves `maxFloat` as the minimum, which the first value replaces
  exact congrArg (fun m => some (List.foldl min m _)) (Int.min_eq_right (hv p List.mem_cons_self))

theorem snap_max (hist : List Int) {g : List Pt} (hg : g ≠ []) (hv : ∀ p ∈ g, -maxFloat ≤ p.2) :
    some (snap hist (g.map (·.2))).max = (g.map (·.2)).max? := by
  obtain ⟨p, ps, rfl⟩ := List.exists_cons_of_ne_nil hg
  rw [List.map_cons, List.max?_cons', snap, feed_cons, (feed_fields _ _).2.1, add_max_eq]
  exact congrArg (fun m => some (List.foldl max m _)) (Int.max_eq_right (hv p List.mem_cons_self))

/-- whatever was fed: `reset` puts ±MaxFloat64, `add` only moves inwards -/
theorem snap_fin (hist cur : List Int) : (snap hist cur).min ≤ maxFloat ∧ -maxFloat ≤ (snap hist cur).max := by
  rw [snap, (feed_fields _ _).1, (feed_fields _ _).2.1, List.foldl_min, List.foldl_max]
  exact ⟨Int.min_le_left _ _, Int.le_max_left _ _⟩

theorem feed_counter (vs : List Int) (a : Agg) (h : 0 < a.total) :
    ((feed a vs).counter, (feed a vs).last) = vs.foldl adjStep (a.counter, a.last) := by
  induction vs generalizing a with
  | nil => rfl
  | cons v vs ih =>
    rw [feed_cons, List.foldl_cons, ih (a.add v) (Nat.succ_pos _)]
    congr 1
    simp [Agg.add, adjStep, h]

theorem feed_zero_counter (v : Int) (vs : List Int) : (feed Agg.zero (v :: vs)).counter = adjusted (v :: vs) :=
  congrArg Prod.fst (feed_counter vs (Agg.zero.add v) (Nat.succ_pos _))

theorem snap_counter (hist cur : List Int) (h : hist ++ cur ≠ []) :
    (snap hist cur).counter = adjusted (hist ++ cur) := by
  -- `reset` leaves the counter alone, and up to `reset` a snapshot is the aggregator fed with everything
  have hr : (snap hist cur).reset = (feed Agg.zero (hist ++ cur)).reset := by
    rw [snap, reset_feed_reset, feed_append]
  obtain ⟨v, vs, hl⟩ := List.exists_cons_of_ne_nil h
  rw [hl] at hr ⊢
  exact (congrArg Agg.counter hr).trans (feed_zero_counter v vs)

theorem batchEmit_cons_gt {r lastT t v nextT : Int} {rest : List Pt} {a : Agg} (h : t > nextT)
    (hn : nextT ≠ minInt64) :
    batchEmit r lastT ((t, v) :: rest) nextT a =
      (nextT, a) :: batchEmit r lastT rest (min (currentWindow t r) lastT) (a.reset.add v) := by
  simp only [batchEmit, h, if_true, hn, ne_eq, not_false_eq_true, List.singleton_append]

theorem batchEmit_cons_le {r lastT t v nextT : Int} {rest : List Pt} {a : Agg} (h : ¬ t > nextT) :
    batchEmit r lastT ((t, v) :: rest) nextT a = batchEmit r lastT rest nextT (a.add v) := by
  simp only [batchEmit, h, if_false]

theorem batchEmit_getLast (r lastT : Int) (data : List Pt) (nextT : Int) (a : Agg) (h : 0 < a.total) :
    ((batchEmit r lastT data nextT a).map (·.1)).getLast? = some (batchNextT r lastT data nextT) := by
  -- arms: end of data with / without a sample in the aggregator; a sample beyond `nextT` (emission); one within
  fun_induction batchEmit r lastT data nextT a with
  | case1 nextT a h' => rfl
  | case2 nextT a h' => exact absurd h h'
  | case3 t v rest nextT a hgt ih =>
    rw [List.map_append, List.getLast?_append, ih (Nat.succ_pos _), batchNextT, if_pos hgt]
    rfl
  | case4 t v rest nextT a hgt ih =>
    rw [batchNextT, if_neg hgt]
    exact ih (Nat.succ_pos _)

/-- something is emitted: the loop ends with a non-empty aggregator (not used below: the users read it off the
    last conjunct of `downsampleBatch_segs`) -/
theorem batchEmit_ne_nil (r lastT : Int) (data : List Pt) (nextT : Int) (a : Agg) (h : 0 < a.total) :
    batchEmit r lastT data nextT a ≠ [] :=
  fun hc => nomatch hc ▸ batchEmit_getLast r lastT data nextT a h

/-- the cut of `cur ++ data` that the loop of downsampleBatch makes, without the aggregator: `cur`
    is the segment being collected, `w` the end of its window; a sample beyond `min w lastT`
    starts the next segment.  On time-ordered samples these are the window runs
    (`loopSegs_eq_runsAux`); on any samples they still partition the input, which is all the
    conservation of totals needs. -/
def loopSegs (r lastT : Int) : List Pt → Int → List Pt → List (Int × List Pt)
  | [], w, cur => [(w, cur)]
  | p :: rest, w, cur =>
    if p.1 > min w lastT then (w, cur) :: loopSegs r lastT rest (currentWindow p.1 r) [p]
    else loopSegs r lastT rest w (cur ++ [p])

/-- the loop's state stands for the window ending at `w` with samples `cur`; no order of the samples is assumed -/
theorem batchEmit_loopSegs (r lastT : Int) (hr : 0 < r) (hl : minInt64 < lastT) (data cur : List Pt)
    (hist : List Int) (w : Int) (hc : cur ≠ []) (hw : minInt64 < w) (h0 : ∀ p ∈ data, minInt64 < p.1) :
    batchEmit r lastT data (min w lastT) (snap hist (cur.map (·.2))) =
      specEmit lastT (loopSegs r lastT data w cur) hist := by
  -- arms: end of data; a sample beyond `min w lastT` (closes the segment); one within
  fun_induction loopSegs r lastT data w cur generalizing hist with
  | case1 w cur =>
    have : 0 < (snap hist (cur.map (·.2))).total := by
      rw [snap_total, List.length_map]
      exact Nat.add_pos_right _ (List.length_pos_iff.mpr hc)
    simp [batchEmit, specEmit, this]
  | case2 p rest w cur hgt ih =>
    obtain ⟨ht, h0'⟩ := List.forall_mem_cons.mp h0
    rw [batchEmit_cons_gt hgt (Int.ne_of_gt (Int.lt_min.mpr ⟨hw, hl⟩)), snap_next, specEmit,
      ← ih _ (List.cons_ne_nil _ _) (Int.lt_of_lt_of_le ht (currentWindow_ge hr)) h0']
    rfl
  | case3 p rest w cur hgt ih =>
    rw [batchEmit_cons_le hgt, snap_snoc, ← ih hist (by simp) hw (List.forall_mem_cons.mp h0).2]
    simp

theorem loopSegs_spec (r lastT : Int) (hr : 0 < r) (data : List Pt) (w : Int) (cur : List Pt) (hc : cur ≠ [])
    (hb : ∀ p ∈ data, p.1 ≤ lastT) :
    (loopSegs r lastT data w cur).flatMap (·.2) = cur ++ data ∧ (∀ g ∈ loopSegs r lastT data w cur, g.2 ≠ []) ∧
      ((loopSegs r lastT data w cur).map fun g => min g.1 lastT).Pairwise (· < ·) ∧
      ∀ k ∈ (loopSegs r lastT data w cur).map fun g => min g.1 lastT, min w lastT ≤ k ∧ k ≤ lastT := by
  fun_induction loopSegs r lastT data w cur with
  | case1 w cur =>
    exact ⟨by simp, by simpa using hc, List.pairwise_singleton _ _, fun k hk => by
      rw [List.mem_singleton.mp hk]; exact ⟨Int.le_refl _, Int.min_le_right _ _⟩⟩
  | case2 p rest w cur hgt ih =>
    obtain ⟨hp, hb'⟩ := List.forall_mem_cons.mp hb
    obtain ⟨h1, h2, h3, h4⟩ := ih (List.cons_ne_nil _ _) hb'
    -- every later timestamp is at least `min (window end of p) lastT ≥ p.1 > min w lastT`
    have hlt : ∀ k ∈ (loopSegs r lastT rest (currentWindow p.1 r) [p]).map fun g => min g.1 lastT,
        min w lastT < k := fun k hk => Int.lt_of_lt_of_le hgt
      (Int.le_trans (Int.le_min.mpr ⟨currentWindow_ge hr, hp⟩) (h4 k hk).1)
    rw [List.map_cons]
    exact ⟨by rw [List.flatMap_cons, h1]; rfl, List.forall_mem_cons.mpr ⟨hc, h2⟩, List.pairwise_cons.mpr ⟨hlt, h3⟩,
      List.forall_mem_cons.mpr
        ⟨⟨Int.le_refl _, Int.min_le_right _ _⟩, fun k hk => ⟨Int.le_of_lt (hlt k hk), (h4 k hk).2⟩⟩⟩
  | case3 p rest w cur _ ih =>
    have := ih (by simp) (List.forall_mem_cons.mp hb).2
    rwa [List.append_assoc] at this

theorem loopSegs_eq_runsAux (r lastT : Int) (hr : 0 < r) (rest cur : List Pt) (w t0 : Int)
    (hw : w = currentWindow t0 r) (hb : ∀ p ∈ rest, t0 ≤ p.1 ∧ p.1 ≤ lastT)
    (hs : rest.Pairwise (fun a b => a.1 ≤ b.1)) :
    loopSegs r lastT rest w cur = runsAux r w cur rest := by
  fun_induction loopSegs r lastT rest w cur generalizing t0 with
  | case1 w cur => rfl
  | case2 p rest w cur hgt ih =>
    obtain ⟨hp, hb'⟩ := List.forall_mem_cons.mp hb
    have hs' := List.pairwise_cons.mp hs
    have hne : currentWindow p.1 r ≠ w := by
      rw [hw, ← gt_currentWindow_iff hp.1 hr]
      omega
    rw [runsAux, if_neg hne, ih p.1 rfl (fun q hq => ⟨hs'.1 q hq, (hb' q hq).2⟩) hs'.2]
  | case3 p rest w cur hgt ih =>
    obtain ⟨hp, hb'⟩ := List.forall_mem_cons.mp hb
    have heq : currentWindow p.1 r = w := Decidable.not_not.mp fun hne =>
      hgt (Int.lt_of_le_of_lt (Int.min_le_left _ _) (hw ▸ (gt_currentWindow_iff hp.1 hr).mpr (hw ▸ hne)))
    rw [runsAux, if_pos heq, ih t0 hw hb' (List.pairwise_cons.mp hs).2]

/-- on a time-ordered batch with no timestamp beyond `lastT` the loop cuts the window runs -/
theorem loopSegs_eq_runs (r lastT : Int) (hr : 0 < r) {q : Pt} {rest : List Pt}
    (hs : (q :: rest).Pairwise (fun a b => a.1 ≤ b.1)) (hle : ∀ p ∈ q :: rest, p.1 ≤ lastT) :
    loopSegs r lastT rest (currentWindow q.1 r) [q] = runs r (q :: rest) :=
  have hs' := List.pairwise_cons.mp hs
  loopSegs_eq_runsAux r lastT hr rest [q] _ q.1 rfl (fun p hp => ⟨hs'.1 p hp, hle p (List.mem_cons_of_mem _ hp)⟩) hs'.2

/-- `loopSegs_spec` read for the runs: their emission timestamps strictly increase from the first timestamp on (and stay
    at or below `lastT`, being minima with it) -/
theorem runs_ts (r lastT : Int) (hr : 0 < r) {q : Pt} {rest : List Pt}
    (hs : (q :: rest).Pairwise (fun a b => a.1 ≤ b.1)) (hle : ∀ p ∈ q :: rest, p.1 ≤ lastT) :
    ((runs r (q :: rest)).map fun g => min g.1 lastT).Pairwise (· < ·) ∧
      ∀ k ∈ (runs r (q :: rest)).map fun g => min g.1 lastT, q.1 ≤ k := by
  obtain ⟨_, _, h3, h4⟩ := loopSegs_spec r lastT hr rest (currentWindow q.1 r) [q] (List.cons_ne_nil _ _)
    fun p hp => hle p (List.mem_cons_of_mem _ hp)
  rw [loopSegs_eq_runs r lastT hr hs hle] at h3 h4
  exact ⟨h3, fun k hk => Int.le_trans (Int.le_min.mpr ⟨currentWindow_ge hr, hle q List.mem_cons_self⟩) (h4 k hk).1⟩

theorem specEmit_fin (lastT : Int) (gs : List (Int × List Pt)) (hist : List Int) :
    ∀ e ∈ specEmit lastT gs hist, e.2.min ≤ maxFloat ∧ -maxFloat ≤ e.2.max := by
  induction gs generalizing hist with
  | nil => exact fun _ he => nomatch he
  | cons g gs ih => exact List.forall_mem_cons.mpr ⟨snap_fin _ _, ih _⟩

/-- projecting the emitted snapshots to one aggregate (`G` says what is kept of the timestamp) -/
theorem specEmit_map {β γ : Type} (lastT : Int) (G : Int → β → γ) (f : Agg → β) (F : List Int → β)
    (gs : List (Int × List Pt)) (hist : List Int)
    (h : ∀ g ∈ gs, ∀ hist, f (snap hist (g.2.map (·.2))) = F (g.2.map (·.2))) :
    (specEmit lastT gs hist).map (fun e => G e.1 (f e.2)) =
      gs.map (fun g => G (min g.1 lastT) (F (g.2.map (·.2)))) := by
  induction gs generalizing hist with
  | nil => rfl
  | cons g gs ih =>
    obtain ⟨hg, h'⟩ := List.forall_mem_cons.mp h
    rw [specEmit, List.map_cons, List.map_cons, hg hist, ih _ h']

theorem specEmit_keys (lastT : Int) (gs : List (Int × List Pt)) (hist : List Int) :
    (specEmit lastT gs hist).map (·.1) = gs.map fun g => min g.1 lastT :=
  specEmit_map lastT (fun k (_ : Unit) => k) (fun _ => ()) (fun _ => ()) gs hist (fun _ _ _ => rfl)

theorem le_getLast_of_pairwise {β : Type} {l : List (Int × β)} (hs : l.Pairwise (fun a b => a.1 ≤ b.1))
    {x : Int × β} (hl : l.getLast? = some x) : ∀ p ∈ l, p.1 ≤ x.1 :=
  fun p hp => (rel_getLast? hs hl p hp).elim (· ▸ Int.le_refl _) id

theorem batchNextT_last (r lastT : Int) (hr : 0 < r) (rest : List Pt) (nextT v : Int) (hle : nextT ≤ lastT)
    (hlast : rest.getLast? = some (lastT, v)) : batchNextT r lastT rest nextT = lastT := by
  induction rest generalizing nextT with
  | nil => exact nomatch hlast
  | cons p rest ih =>
    rw [batchNextT]
    cases rest with
    | nil =>
      obtain rfl : p = (lastT, v) := Option.some.inj hlast
      rw [batchNextT, batchNextT]
      split
      · exact Int.min_eq_right (currentWindow_ge hr)
      · omega
    | cons q rest =>
      rw [List.getLast?_cons_cons] at hlast
      split
      · exact ih _ (Int.min_le_right _ _) hlast
      · exact ih _ hle hlast

/-- downsampleBatch on any batch whose last sample carries the largest timestamp; the last snapshot is emitted at
    that timestamp, which is also the returned `nextT` -/
theorem downsampleBatch_loopSegs (r : Int) (hr : 0 < r) (t0 v0 : Int) (rest : List Pt) (lastT lv : Int)
    (hlast : ((t0, v0) :: rest).getLast? = some (lastT, lv))
    (hb : ∀ p ∈ (t0, v0) :: rest, minInt64 < p.1 ∧ p.1 ≤ lastT) :
    downsampleBatch ((t0, v0) :: rest) r =
      some (specEmit lastT (loopSegs r lastT rest (currentWindow t0 r) [(t0, v0)]) [], lastT) ∧
    ((loopSegs r lastT rest (currentWindow t0 r) [(t0, v0)]).map fun g => min g.1 lastT).getLast? = some lastT := by
  have ht0 := hb (t0, v0) List.mem_cons_self
  have hl : minInt64 < lastT := Int.lt_of_lt_of_le ht0.1 ht0.2
  have hn : batchNextT r lastT ((t0, v0) :: rest) minInt64 = lastT :=
    batchNextT_last r lastT hr _ _ lv (Int.le_of_lt hl) hlast
  have hgt : t0 > minInt64 := ht0.1
  simp only [batchNextT, hgt, if_true] at hn
  have he := batchEmit_loopSegs r lastT hr hl rest [(t0, v0)] [] (currentWindow t0 r) (List.cons_ne_nil _ _)
    (Int.lt_of_lt_of_le ht0.1 (currentWindow_ge hr)) (fun p hp => (hb p (List.mem_cons_of_mem _ hp)).1)
  constructor
  · -- the first sample always starts a window: nothing is emitted for the state "no window yet"
    simp only [downsampleBatch, hlast, batchEmit, batchNextT, hgt, if_true, ne_eq, not_true_eq_false, if_false,
      List.nil_append, hn]
    exact congrArg (fun o => some (o, lastT)) he
  · rw [← specEmit_keys lastT _ [], ← he]
    exact (batchEmit_getLast r lastT rest _ (snap [] [v0]) (Nat.succ_pos _)).trans (congrArg some hn)

/-- `data`: timestamps above MinInt64, the last one the largest -/
structure BatchOK (data : List Pt) (t0 lastT : Int) : Prop where
  head : ∃ v0, data.head? = some (t0, v0)
  last : ∃ lv, data.getLast? = some (lastT, lv)
  bounds : ∀ p ∈ data, minInt64 < p.1 ∧ p.1 ≤ lastT

/-- `downsampleBatch_loopSegs` and `loopSegs_spec` with the partition `gs` left abstract -/
theorem downsampleBatch_segs (r : Int) (hr : 0 < r) {data : List Pt} {t0 lastT : Int} (h : BatchOK data t0 lastT) :
    ∃ gs, downsampleBatch data r = some (specEmit lastT gs [], lastT) ∧
      gs.flatMap (·.2) = data ∧ (∀ g ∈ gs, g.2 ≠ []) ∧
      ((specEmit lastT gs []).map (·.1)).Pairwise (· < ·) ∧
      (∀ k ∈ (specEmit lastT gs []).map (·.1), t0 ≤ k ∧ k ≤ lastT) ∧
      ((specEmit lastT gs []).map (·.1)).getLast? = some lastT := by
  obtain ⟨v0, hhead⟩ := h.head
  obtain ⟨lv, hlast⟩ := h.last
  have hb := h.bounds
  obtain ⟨rest, rfl⟩ := List.head?_eq_some_iff.mp hhead
  obtain ⟨he, hlk⟩ := downsampleBatch_loopSegs r hr t0 v0 rest lastT lv hlast hb
  obtain ⟨hflat, hne, hk1, hk2⟩ := loopSegs_spec r lastT hr rest (currentWindow t0 r) [(t0, v0)] (List.cons_ne_nil _ _)
    (fun p hp => (hb p (List.mem_cons_of_mem _ hp)).2)
  refine ⟨_, he, hflat, hne, ?_⟩
  rw [specEmit_keys]
  refine ⟨hk1, fun k h => ⟨?_, (hk2 k h).2⟩, hlk⟩
  exact Int.le_trans (Int.le_min.mpr ⟨currentWindow_ge hr, (hb _ List.mem_cons_self).2⟩) (hk2 k h).1

/-- **downsampleBatch on a time-ordered batch**: one snapshot per window run, the last at the batch's last timestamp -/
theorem downsampleBatch_runs (r : Int) (hr : 0 < r) (data : List Pt) (lastT lv : Int)
    (hlast : data.getLast? = some (lastT, lv)) (h0 : ∀ p ∈ data, minInt64 < p.1)
    (hs : data.Pairwise (fun a b => a.1 ≤ b.1)) :
    downsampleBatch data r = some (specEmit lastT (runs r data) [], lastT) := by
  have hle : ∀ p ∈ data, p.1 ≤ lastT := le_getLast_of_pairwise hs hlast
  cases data with
  | nil => simp at hlast
  | cons p rest =>
    rw [(downsampleBatch_loopSegs r hr p.1 p.2 rest lastT lv hlast fun p hp => ⟨h0 p hp, hle p hp⟩).1,
      loopSegs_eq_runs r lastT hr hs hle]

theorem runsAux_parts (r : Int) (rest cur : List Pt) (w : Int) (hc : cur ≠ [])
    (hw : ∀ p ∈ cur, currentWindow p.1 r = w) :
    (runsAux r w cur rest).flatMap (·.2) = cur ++ rest ∧
      ∀ g ∈ runsAux r w cur rest, g.2 ≠ [] ∧ ∀ p ∈ g.2, currentWindow p.1 r = g.1 := by
  -- arms: end of data; next sample in the window `w`; next sample in another window (closes the run)
  fun_induction runsAux r w cur rest with
  | case1 w cur => exact ⟨by simp, List.forall_mem_singleton.mpr ⟨hc, hw⟩⟩
  | case2 cur q rest ih =>
    have := ih (by simp) (List.forall_mem_append.mpr ⟨hw, List.forall_mem_singleton.mpr rfl⟩)
    rwa [List.append_assoc] at this
  | case3 w cur q rest _ ih =>
    obtain ⟨ih1, ih2⟩ := ih (List.cons_ne_nil _ _) (List.forall_mem_singleton.mpr rfl)
    exact ⟨by rw [List.flatMap_cons, ih1]; rfl, List.forall_mem_cons.mpr ⟨⟨hc, hw⟩, ih2⟩⟩

theorem runs_parts (r : Int) : ∀ (l : List Pt), (runs r l).flatMap (·.2) = l ∧
    ∀ g ∈ runs r l, g.2 ≠ [] ∧ ∀ p ∈ g.2, currentWindow p.1 r = g.1
  | [] => ⟨rfl, fun _ hg => nomatch hg⟩
  | q :: rest => runsAux_parts r rest [q] _ (List.cons_ne_nil _ _) (fun p hp => by rw [List.mem_singleton.mp hp])

theorem runs_flatten (r : Int) (l : List Pt) : (runs r l).flatMap (·.2) = l := (runs_parts r l).1

theorem runs_ne_nil (r : Int) (l : List Pt) : ∀ g ∈ runs r l, g.2 ≠ [] := fun g hg => ((runs_parts r l).2 g hg).1

theorem runs_window (r : Int) (l : List Pt) : ∀ g ∈ runs r l, ∀ p ∈ g.2, currentWindow p.1 r = g.1 :=
  fun g hg => ((runs_parts r l).2 g hg).2

/-- the runs' window ends strictly increase: `runs_ts` for `lastT` the last timestamp, and `min · lastT` is monotone -/
theorem runs_keys_sorted (r : Int) (hr : 0 < r) (l : List Pt)
    (hs : l.Pairwise (fun a b => a.1 ≤ b.1)) : (runs r l).Pairwise (fun a b => a.1 < b.1) := by
  cases l with
  | nil => exact List.Pairwise.nil
  | cons q rest =>
    exact (List.pairwise_map.mp (runs_ts r _ hr hs (le_getLast_of_pairwise hs List.getLast?_cons)).1).imp
      fun h => by omega

theorem filter_flatMap_key (key : Pt → Int) (gs : List (Int × List Pt))
    (hp : gs.Pairwise (fun a b => a.1 ≠ b.1)) (hk : ∀ g ∈ gs, ∀ p ∈ g.2, key p = g.1) :
    ∀ g ∈ gs, (gs.flatMap (·.2)).filter (fun p => key p = g.1) = g.2 := by
  intro g hg
  induction gs with
  | nil => exact nomatch hg
  | cons g0 gs ih =>
    obtain ⟨hp1, hp2⟩ := List.pairwise_cons.mp hp
    obtain ⟨hk0, hk'⟩ := List.forall_mem_cons.mp hk
    rw [List.flatMap_cons, List.filter_append]
    rcases List.mem_cons.mp hg with rfl | h
    · -- the first group is kept whole, the later ones have other keys
      rw [List.filter_eq_self.mpr fun p hp => decide_eq_true (hk0 p hp), List.filter_eq_nil_iff.mpr, List.append_nil]
      intro p hpm hd
      obtain ⟨g', hg', hpg'⟩ := List.mem_flatMap.mp hpm
      exact hp1 g' hg' ((of_decide_eq_true hd).symm.trans (hk' g' hg' p hpg'))
    · rw [List.filter_eq_nil_iff.mpr, List.nil_append]
      · exact ih hp2 hk' h
      · exact fun p hpm hd => hp1 g h ((hk0 p hpm).symm.trans (of_decide_eq_true hd))

theorem runs_eq_filter (r : Int) (hr : 0 < r) (l : List Pt)
    (hs : l.Pairwise (fun a b => a.1 ≤ b.1)) :
    ∀ g ∈ runs r l, g.2 = l.filter (fun p => currentWindow p.1 r = g.1) := by
  intro g hg
  have hk := runs_keys_sorted r hr l hs
  have := filter_flatMap_key (fun p => currentWindow p.1 r) (runs r l)
    (hk.imp Int.ne_of_lt) (runs_window r l) g hg
  rw [runs_flatten] at this
  exact this.symm

end Thanos.Downsample
