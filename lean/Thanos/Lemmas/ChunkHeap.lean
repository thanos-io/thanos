import Thanos.Lemmas.ChunkMerge
/-
  C40: `container/heap` only permutes the slice of chunk iterators.  Hence whatever holds of
  every iterator in the heap, and every sum over them, carries over push, pop and advance; and
  `Pop` returns the root.  The "detect overlaps" loop is a repetition of pop-and-advance.
-/
namespace Thanos.Dedup

def HeapAll (P : AggrChk → Prop) (h : List ChunkIt) : Prop := ∀ it ∈ h, ∀ c ∈ it, P c

/-- no exhausted iterator sits in the heap -/
def NE (h : List ChunkIt) : Prop := ∀ it ∈ h, it ≠ []

/-- count samples of an iterator / of the heap -/
def cntIt (it : ChunkIt) : Nat := (it.map cnt).sum
def cntHeap (h : List ChunkIt) : Nat := (h.map cntIt).sum

theorem hswap_perm (h : List ChunkIt) (i j : Nat) : (hswap h i j).Perm h := by
  unfold hswap
  split
  · rename_i x y hx hy
    obtain ⟨hi, rfl⟩ := List.getElem?_eq_some_iff.mp hx
    obtain ⟨hj, rfl⟩ := List.getElem?_eq_some_iff.mp hy
    exact List.set_set_perm hi hj
  · exact List.Perm.refl h

theorem hup_perm (f : Nat) (h : List ChunkIt) (j : Nat) : (hup f h j).Perm h := by
  -- case1: out of fuel; case2: at the root, or not less than the parent `i`; case3: swapped with the parent
  fun_induction hup f h j with
  | case1 => exact List.Perm.refl _
  | case2 => exact List.Perm.refl _
  | case3 f h j i hc ih => exact ih.trans (hswap_perm h i j)

theorem hdown_perm (f : Nat) (h : List ChunkIt) (i n : Nat) : (hdown f h i n).Perm h := by
  -- case1: out of fuel; case2: no child below `n`; case3: the smaller child is not less; case4: swapped with it
  fun_induction hdown f h i n with
  | case1 => exact List.Perm.refl _
  | case2 => exact List.Perm.refl _
  | case3 => exact List.Perm.refl _
  | case4 f h i n _ _ ih => exact ih.trans (hswap_perm h i _)

theorem hpush_perm (h : List ChunkIt) (x : ChunkIt) : (hpush h x).Perm (x :: h) :=
  (hup_perm _ _ _).trans (List.perm_append_singleton x h)

/-- `heap.Pop`: swap root and last, sift the new root down below the last index, cut the last off -/
theorem hpop_eq {h h' : List ChunkIt} {x : ChunkIt} (hp : hpop h = some (x, h')) :
    hdown (h.length + 1) (hswap h 0 (h.length - 1)) 0 (h.length - 1) = h' ++ [x] := by
  unfold hpop at hp
  split at hp
  · cases hp
  · simp only at hp
    split at hp
    · rename_i y hy
      cases hp
      obtain ⟨ys, hys⟩ := List.getLast?_eq_some_iff.mp hy
      rw [hys, List.dropLast_concat]
    · cases hp

theorem hpop_perm {h h' : List ChunkIt} {x : ChunkIt} (hp : hpop h = some (x, h')) : (x :: h').Perm h := by
  have := (hdown_perm (h.length + 1) _ 0 (h.length - 1)).trans (hswap_perm h 0 (h.length - 1))
  rw [hpop_eq hp] at this
  exact (List.perm_append_singleton x h').symm.trans this

theorem hpop_none {h : List ChunkIt} (hp : hpop h = none) : h = [] := by
  unfold hpop at hp
  split at hp
  · rename_i he; exact List.isEmpty_iff.mp he
  · simp only at hp
    split at hp
    · cases hp
    · rename_i hne hl
      have := ((hdown_perm (h.length + 1) _ 0 (h.length - 1)).trans (hswap_perm h 0 (h.length - 1))).length_eq
      rw [List.getLast?_eq_none_iff.mp hl] at this
      exact List.length_eq_zero_iff.mp this.symm

theorem hpush_forall {Q : ChunkIt → Prop} {h : List ChunkIt} {x : ChunkIt} (hx : Q x)
    (hh : ∀ it ∈ h, Q it) : ∀ it ∈ hpush h x, Q it :=
  fun it hit => List.forall_mem_cons.mpr ⟨hx, hh⟩ it ((hpush_perm h x).mem_iff.mp hit)

theorem hpop_forall {Q : ChunkIt → Prop} {h h' : List ChunkIt} {x : ChunkIt}
    (hp : hpop h = some (x, h')) (hh : ∀ it ∈ h, Q it) : Q x ∧ ∀ it ∈ h', Q it :=
  List.forall_mem_cons.mp fun it hit => hh it ((hpop_perm hp).mem_iff.mp hit)

/-- a non-empty iterator is pushed, an exhausted one dropped: how `hadvance`, `dcNext` (the merged chunks) and
    `chunkMerge` (the initial heap) put an iterator into the heap -/
theorem pushNE_forall {Q : ChunkIt → Prop} {h : List ChunkIt} {s : ChunkIt} (hs : s ≠ [] → Q s)
    (hh : ∀ it ∈ h, Q it) : ∀ it ∈ (if s.isEmpty then h else hpush h s), Q it := by
  split
  · exact hh
  · rename_i hne
    exact hpush_forall (hs fun he => hne (by rw [he]; rfl)) hh

theorem hadvance_forall {Q : ChunkIt → Prop} {h : List ChunkIt} {it : ChunkIt}
    (ht : it.tail ≠ [] → Q it.tail) (hh : ∀ it ∈ h, Q it) : ∀ it' ∈ hadvance h it, Q it' :=
  pushNE_forall ht hh

theorem cntHeap_perm {h h' : List ChunkIt} (hp : h.Perm h') : cntHeap h = cntHeap h' :=
  (hp.map cntIt).sum_nat

theorem cntIt_cons (c : AggrChk) (t : List AggrChk) : cntIt (c :: t) = cnt c + cntIt t := by
  simp [cntIt]

theorem hpush_cnt (h : List ChunkIt) (x : ChunkIt) : cntHeap (hpush h x) = cntHeap h + cntIt x := by
  rw [cntHeap_perm (hpush_perm h x)]
  exact Nat.add_comm _ _

theorem hpop_cnt {h h' : List ChunkIt} {x : ChunkIt} (hp : hpop h = some (x, h')) :
    cntHeap h' + cntIt x = cntHeap h := by
  rw [← cntHeap_perm (hpop_perm hp)]
  exact Nat.add_comm _ _

theorem pushNE_cnt (h : List ChunkIt) (s : ChunkIt) :
    cntHeap (if s.isEmpty then h else hpush h s) = cntHeap h + cntIt s := by
  split
  · rename_i he
    rw [List.isEmpty_iff.mp he]; rfl
  · exact hpush_cnt _ _

theorem hadvance_cnt (h : List ChunkIt) (it : ChunkIt) :
    cntHeap (hadvance h it) = cntHeap h + cntIt it.tail :=
  pushNE_cnt h it.tail

theorem seriesWF_chunks {series : List (List AggrChk)} (hwf : series.all seriesWF = true) :
    HeapAll (fun c => chunkWF c = true) series := by
  intro s hs
  have := List.all_eq_true.mp hwf s hs
  simp only [seriesWF, Bool.and_eq_true] at this
  exact List.all_eq_true.mp this.1.2

/-- the initial heap of `NewChunkSeriesMerger` holds the chunks of the non-empty series -/
theorem initHeap_spec {P : AggrChk → Prop} : ∀ (ss : List (List AggrChk)) (h : List ChunkIt),
    HeapAll P h → NE h → HeapAll P ss →
    HeapAll P (ss.foldl (fun h s => if s.isEmpty then h else hpush h s) h) ∧
    NE (ss.foldl (fun h s => if s.isEmpty then h else hpush h s) h) ∧
    cntHeap (ss.foldl (fun h s => if s.isEmpty then h else hpush h s) h) = cntHeap h + cntHeap ss := by
  intro ss
  induction ss with
  | nil => exact fun _ hh hn _ => ⟨hh, hn, rfl⟩
  | cons s ss ih =>
    intro h hh hn hs
    obtain ⟨hs1, hs2⟩ := List.forall_mem_cons.mp hs
    obtain ⟨i1, i2, i3⟩ := ih _ (pushNE_forall (fun _ => hs1) hh) (pushNE_forall id hn) hs2
    exact ⟨i1, i2, i3.trans (by rw [pushNE_cnt, Nat.add_assoc]; rfl)⟩

theorem hswap_get_other (h : List ChunkIt) (i j k : Nat) (hi : k ≠ i) (hj : k ≠ j) :
    (hswap h i j)[k]? = h[k]? := by
  unfold hswap
  split
  · rw [List.getElem?_set_ne (Ne.symm hj), List.getElem?_set_ne (Ne.symm hi)]
  · rfl

theorem hswap_get_right {h : List ChunkIt} {i j : Nat} (hi : i < h.length) (hj : j < h.length) :
    (hswap h i j)[j]? = h[i]? := by
  unfold hswap
  rw [List.getElem?_eq_getElem hi, List.getElem?_eq_getElem hj]
  exact List.getElem?_set_self (by rw [List.length_set]; exact hj)

theorem hchild_lt (h : List ChunkIt) (j1 n : Nat) (hj : j1 < n) : hchild h j1 n < n := by
  unfold hchild
  split
  · rename_i hc
    simp only [Bool.and_eq_true, decide_eq_true_eq] at hc
    exact hc.1
  · exact hj

theorem hdown_get_ge (f : Nat) (h : List ChunkIt) (i n k : Nat) (hk : n ≤ k) :
    (hdown f h i n)[k]? = h[k]? := by
  fun_induction hdown f h i n with
  | case1 => rfl
  | case2 => rfl
  | case3 => rfl
  | case4 f h i n hlt _ ih =>
    have hj := hchild_lt h (2 * i + 1) n (by omega)
    rw [ih hk, hswap_get_other _ _ _ _ (by omega) (by omega)]

theorem hpop_head {h h' : List ChunkIt} {x : ChunkIt} (hp : hpop h = some (x, h')) : h.head? = some x := by
  have hlen : h'.length + 1 = h.length := (hpop_perm hp).length_eq
  have hx : (h' ++ [x])[h.length - 1]? = some x := by
    rw [← hlen]; exact List.getElem?_concat_length
  rw [← hpop_eq hp, hdown_get_ge _ _ _ _ _ (Nat.le_refl _),
    hswap_get_right (by omega) (by omega)] at hx
  rw [List.head?_eq_getElem?]
  exact hx

/-- The loop pops the top iterator, advances it, and hands the popped head chunk to `addChunk`
    or drops it as a duplicate: an invariant of that step is an invariant of the loop. -/
theorem overlapLoop_inv {I : List ChunkIt → List AggrChk → Prop}
    (step : ∀ {h h1 : List ChunkIt} {om : List AggrChk} {it : ChunkIt} {next : AggrChk}, I h om →
      hpop h = some (it, h1) → it.head? = some next →
      I (hadvance h1 it) om ∧ I (hadvance h1 it) (om ++ [next]))
    (f : Nat) (h : List ChunkIt) (om : List AggrChk) (oMax : Int) (prev : AggrChk) (hI : I h om) :
    I (overlapLoop f h om oMax prev).1 (overlapLoop f h om oMax prev).2 := by
  -- the loop ends: out of fuel (1), no next chunk (2), it starts after `oMax` (3), empty heap (4); it goes on: the next
  -- chunk repeats `prev` and is dropped (5), or is added to `om` (6)
  fun_induction overlapLoop f h om oMax prev with
  | case1 => exact hI
  | case2 => exact hI
  | case3 => exact hI
  | case4 => exact hI
  | case5 f h om oMax prev next hnext _ dup it h1 hp h2 hdup ih =>
    rw [hpop_head hp] at hnext
    exact ih (step hI hp hnext).1
  | case6 f h om oMax prev next hnext _ dup it h1 hp h2 hdup ih =>
    rw [hpop_head hp] at hnext
    exact ih (step hI hp hnext).2

theorem overlapLoop_all {P : AggrChk → Prop} (f : Nat) (h : List ChunkIt) (om : List AggrChk)
    (oMax : Int) (prev : AggrChk) (hh : HeapAll P h) (hom : ∀ c ∈ om, P c) :
    HeapAll P (overlapLoop f h om oMax prev).1 ∧ ∀ c ∈ (overlapLoop f h om oMax prev).2, P c := by
  refine overlapLoop_inv (I := fun h om => HeapAll P h ∧ ∀ c ∈ om, P c) ?_ f h om oMax prev ⟨hh, hom⟩
  intro h h1 om it next hI hp hn
  obtain ⟨hit, hh1⟩ := hpop_forall hp hI.1
  have hh2 : HeapAll P (hadvance h1 it) :=
    hadvance_forall (fun _ c hc => hit c (List.mem_of_mem_tail hc)) hh1
  exact ⟨⟨hh2, hI.2⟩, hh2, List.forall_mem_append.mpr
    ⟨hI.2, List.forall_mem_singleton.mpr (hit next (List.mem_of_mem_head? hn))⟩⟩

theorem pop_advance_cnt {h h1 : List ChunkIt} {it : ChunkIt} {c : AggrChk}
    (hp : hpop h = some (it, h1)) (hc : it.head? = some c) :
    cntHeap (hadvance h1 it) + cnt c = cntHeap h := by
  cases it with
  | nil => cases hc
  | cons a t =>
    cases hc
    rw [hadvance_cnt, ← hpop_cnt hp, cntIt_cons, List.tail_cons]
    omega

theorem overlapLoop_cnt : ∀ (f : Nat) (h : List ChunkIt) (om : List AggrChk) (oMax : Int) (prev : AggrChk),
    NE h →
    NE (overlapLoop f h om oMax prev).1 ∧
    cntHeap (overlapLoop f h om oMax prev).1 + ((overlapLoop f h om oMax prev).2.map cnt).sum
      ≤ cntHeap h + (om.map cnt).sum := by
  intro f h om oMax prev hne
  refine overlapLoop_inv
    (I := fun h' om' => NE h' ∧ cntHeap h' + (om'.map cnt).sum ≤ cntHeap h + (om.map cnt).sum)
    ?_ f h om oMax prev ⟨hne, Nat.le_refl _⟩
  intro h' h1 om' it next hI hp hn
  have hacc := pop_advance_cnt hp hn
  have hne2 : NE (hadvance h1 it) := hadvance_forall id (hpop_forall hp hI.1).2
  refine ⟨⟨hne2, by omega⟩, hne2, ?_⟩
  simp only [List.map_append, List.sum_append, List.map_cons, List.map_nil, List.sum_cons, List.sum_nil]
  omega

end Thanos.Dedup
