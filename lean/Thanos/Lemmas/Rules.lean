import Thanos.Model.Rules
import Thanos.Lemmas.SortCmp
/-
  C45: the compaction loop of `dedupRules` over a sorted slice keeps exactly one
  (the best) element per class; the merge loop of `dedupGroups` keeps one group per key.
-/
namespace Thanos.Rules
open Std

section
attribute [local instance] lexOrd
instance instTransRuleCmp : TransCmp ruleCmp := by unfold ruleCmp; infer_instance
end

/-- `W1`, `W2`: inside a class of `cmp`, `wrs` is asymmetric and negatively transitive.  Then of a sorted slice the
    loop leaves one element per class (strictly increasing), each taken from the slice, and every element of the
    slice has in the result one of its class that is not worse. -/
theorem dedupLoop_spec {α} (cmp : α → α → Ordering) [TransCmp cmp] (wrs : α → α → Bool)
    (W1 : ∀ a b, cmp a b = .eq → wrs a b = true → wrs b a = false)
    (W2 : ∀ a b c, cmp a b = .eq → cmp b c = .eq → wrs a b = false → wrs b c = false → wrs a c = false)
    (cur : α) (xs : List α) (hs : (cur :: xs).Pairwise (fun a b => (cmp a b).isLE = true)) :
    (dedupLoop (fun a b => cmp a b == .eq) wrs cur xs).Pairwise (fun a b => cmp a b = .lt) ∧
    dedupLoop (fun a b => cmp a b == .eq) wrs cur xs ⊆ cur :: xs ∧
    (∀ r ∈ cur :: xs, ∃ o ∈ dedupLoop (fun a b => cmp a b == .eq) wrs cur xs,
        cmp o r = .eq ∧ wrs o r = false) := by
  have wrefl : ∀ a, wrs a a = false := fun a => by
    cases h : wrs a a
    · rfl
    · exact h.symm.trans (W1 a a ReflCmp.compare_self h)
  fun_induction dedupLoop (fun a b => cmp a b == .eq) wrs cur xs with
  | case1 cur =>
    exact ⟨List.pairwise_singleton _ _, List.Subset.refl _,
      fun r hr => ⟨r, hr, ReflCmp.compare_self, wrefl r⟩⟩
  | case2 cur x xs hne ih =>
    -- a new class starts at `x`
    obtain ⟨hcur, hxs⟩ := List.pairwise_cons.mp hs
    obtain ⟨h1, h2, h3⟩ := ih hxs
    have hlt : cmp cur x = .lt :=
      (Ordering.isLE_iff_eq_lt_or_eq_eq.mp (hcur x List.mem_cons_self)).resolve_right (by simpa using hne)
    have hx : ∀ o ∈ x :: xs, (cmp x o).isLE = true :=
      List.forall_mem_cons.mpr ⟨ReflCmp.isLE_rfl, (List.pairwise_cons.mp hxs).1⟩
    refine ⟨List.pairwise_cons.mpr ⟨fun o ho => TransCmp.lt_of_lt_of_isLE hlt (hx o (h2 ho)), h1⟩,
      List.cons_subset_cons cur h2, List.forall_mem_cons.mpr ⟨?_, fun r hr => ?_⟩⟩
    · exact ⟨cur, List.mem_cons_self, ReflCmp.compare_self, wrefl cur⟩
    · obtain ⟨o, ho, h⟩ := h3 r hr
      exact ⟨o, List.mem_cons_of_mem _ ho, h⟩
  | case3 cur x xs hsame hw ih =>
    -- same class, `cur` is worse: `x` goes on
    have hsame : cmp cur x = .eq := by simpa using hsame
    obtain ⟨h1, h2, h3⟩ := ih (List.pairwise_cons.mp hs).2
    refine ⟨h1, List.subset_cons_of_subset cur h2, List.forall_mem_cons.mpr ⟨?_, h3⟩⟩
    obtain ⟨o, ho, hox, hwo⟩ := h3 x List.mem_cons_self
    have hxc := OrientedCmp.eq_comm.mp hsame
    exact ⟨o, ho, TransCmp.eq_trans hox hxc, W2 o x cur hox hxc hwo (W1 cur x hsame hw)⟩
  | case4 cur x xs hsame hw ih =>
    -- same class, `cur` is at least as good: it stays
    have hsame : cmp cur x = .eq := by simpa using hsame
    obtain ⟨h1, h2, h3⟩ := ih (hs.sublist ((List.sublist_cons_self x xs).cons_cons cur))
    obtain ⟨o, ho, hoc, hwo⟩ := h3 cur List.mem_cons_self
    exact ⟨h1, h2.trans (List.cons_subset_cons cur (List.subset_cons_self x xs)),
      List.forall_mem_cons.mpr ⟨⟨o, ho, hoc, hwo⟩, List.forall_mem_cons.mpr
        ⟨⟨o, ho, TransCmp.eq_trans hoc hsame, W2 o cur x hoc hsame hwo (Bool.not_eq_true _ ▸ hw)⟩,
          fun r hr => h3 r (List.mem_cons_of_mem _ hr)⟩⟩⟩

/-- `dedupLoop_spec` with the empty slice; `sortDedup_spec` is its instance at `ruleCmp`, `worse` -/
theorem dedupSorted_spec {α} (cmp : α → α → Ordering) [TransCmp cmp] (wrs : α → α → Bool)
    (W1 : ∀ a b, cmp a b = .eq → wrs a b = true → wrs b a = false)
    (W2 : ∀ a b c, cmp a b = .eq → cmp b c = .eq → wrs a b = false → wrs b c = false → wrs a c = false)
    (l : List α) (hs : l.Pairwise (fun a b => (cmp a b).isLE = true)) :
    (dedupSorted (fun a b => cmp a b == .eq) wrs l).Pairwise (fun a b => cmp a b = .lt) ∧
    dedupSorted (fun a b => cmp a b == .eq) wrs l ⊆ l ∧
    (∀ r ∈ l, ∃ o ∈ dedupSorted (fun a b => cmp a b == .eq) wrs l, cmp o r = .eq ∧ wrs o r = false) := by
  cases l with
  | nil => exact ⟨.nil, List.Subset.refl _, fun _ hr => nomatch hr⟩
  | cons x xs => exact dedupLoop_spec cmp wrs W1 W2 x xs hs

section
attribute [local instance] lexOrd
theorem key_eq_of_same {a b : Rule} (h : ruleCmp a b = .eq) : a.key = b.key := by
  unfold ruleCmp compareOn at h
  exact compare_eq_iff_eq.mp h
end

theorem kind_eq_of_same {a b : Rule} (h : ruleCmp a b = .eq) : a.kind = b.kind := by
  have := congrArg (fun k => k.1) (key_eq_of_same h)
  simp only [Rule.key] at this
  cases ha : a.kind <;> cases hb : b.kind <;> simp_all

theorem worse_asymm (a b : Rule) (h : worse a b = true) (hk : a.kind = b.kind) : worse b a = false := by
  -- for one kind `worse` is the strict lexicographic order on (state, lastEval), or on lastEval alone
  unfold worse at *
  rw [← hk]
  cases hka : a.kind
  all_goals
    simp [hka] at h ⊢
    omega

theorem worse_negtrans (a b c : Rule) (hab : a.kind = b.kind)
    (h1 : worse a b = false) (h2 : worse b c = false) : worse a c = false := by
  unfold worse at *
  rw [← hab] at h2
  cases hka : a.kind
  all_goals
    simp [hka] at h1 h2 ⊢
    omega

/-- Sorting by `ruleLe` and compacting leaves, of ANY list of rules, one rule per identity, the best of its class.
    `dedup_one_per_rule` is the case of a list whose replica labels were removed first: the removal plays no part. -/
theorem sortDedup_spec (l : List Rule) :
    let out := dedupSorted sameRule worse (l.mergeSort ruleLe)
    out.Pairwise (fun a b => ruleCmp a b = .lt) ∧ (∀ o ∈ out, o ∈ l) ∧
    (∀ r ∈ l, ∃ o ∈ out, sameRule o r = true ∧ worse o r = false) := by
  have hperm := List.mergeSort_perm l ruleLe
  obtain ⟨h1, h2, h3⟩ := dedupSorted_spec ruleCmp worse
    (fun a b hc hw => worse_asymm a b hw (kind_eq_of_same hc))
    (fun a b c hab _ w1 w2 => worse_negtrans a b c (kind_eq_of_same hab) w1 w2)
    _ (pairwise_mergeSort_isLE ruleCmp l)
  refine ⟨h1, fun o ho => hperm.mem_iff.mp (h2 ho), fun r hr => ?_⟩
  obtain ⟨o, ho, hc, hw⟩ := h3 _ (hperm.mem_iff.mpr hr)
  exact ⟨o, ho, beq_iff_eq.mpr hc, hw⟩

/-- One group per key, holding the rules of all groups with that key (conjuncts 1, 3, 4).  The second conjunct —
    no key of the result lies below `cur`'s — is there for the induction only: it puts `cur` strictly below the
    rest where a new key starts. -/
theorem mergeLoop_spec (cur : Group) (gs : List Group)
    (hs : (cur :: gs).Pairwise (fun a b => (compare a.key b.key).isLE = true)) :
    (mergeLoop cur gs).Pairwise (fun a b => compare a.key b.key = .lt) ∧
    (∀ o ∈ mergeLoop cur gs, (compare cur.key o.key).isLE = true) ∧
    (∀ g ∈ cur :: gs, ∃ o ∈ mergeLoop cur gs, o.key = g.key ∧ ∀ r ∈ g.rules, r ∈ o.rules) ∧
    (∀ o ∈ mergeLoop cur gs, ∀ r ∈ o.rules, ∃ g ∈ cur :: gs, g.key = o.key ∧ r ∈ g.rules) := by
  fun_induction mergeLoop cur gs with
  | case1 cur => simp
  | case2 cur g gs hk ih =>
    -- `g` is merged into `cur`, which keeps its key
    have hk : g.key = cur.key := by simpa using hk
    obtain ⟨hcur, hgs⟩ := List.pairwise_cons.mp hs
    obtain ⟨h1, h2, h3, h4⟩ := ih (List.pairwise_cons.mpr
      ⟨fun y hy => hcur y (List.mem_cons_of_mem _ hy), (List.pairwise_cons.mp hgs).2⟩)
    obtain ⟨oc, hoc, hke, hr⟩ := h3 _ List.mem_cons_self
    refine ⟨h1, h2,
      List.forall_mem_cons.mpr ⟨?_, List.forall_mem_cons.mpr ⟨?_, fun g0 hg0 => h3 g0 (List.mem_cons_of_mem _ hg0)⟩⟩,
      fun o ho r hr => ?_⟩
    · exact ⟨oc, hoc, hke, fun r hr' => hr r (List.mem_append_left _ hr')⟩
    · exact ⟨oc, hoc, hke.trans hk.symm, fun r hr' => hr r (List.mem_append_right _ hr')⟩
    · obtain ⟨g', hg', he, hr'⟩ := h4 o ho r hr
      rcases List.mem_cons.mp hg' with rfl | hg'
      · rcases List.mem_append.mp hr' with hr' | hr'
        · exact ⟨cur, List.mem_cons_self, he, hr'⟩
        · exact ⟨g, List.mem_cons_of_mem _ List.mem_cons_self, hk.trans he, hr'⟩
      · exact ⟨g', List.mem_cons_of_mem _ (List.mem_cons_of_mem _ hg'), he, hr'⟩
  | case3 cur g gs hk ih =>
    -- a new key starts, above `cur`'s and below all that `g` and the rest give
    obtain ⟨hcur, hgs⟩ := List.pairwise_cons.mp hs
    obtain ⟨h1, h2, h3, h4⟩ := ih hgs
    have hlt : ∀ o ∈ mergeLoop g gs, compare cur.key o.key = .lt := fun o ho => TransCmp.lt_of_lt_of_isLE
      ((Ordering.isLE_iff_eq_lt_or_eq_eq.mp (hcur g List.mem_cons_self)).resolve_right
        fun h => hk (by simpa using (compare_eq_iff_eq.mp h).symm)) (h2 o ho)
    refine ⟨List.pairwise_cons.mpr ⟨hlt, h1⟩,
      List.forall_mem_cons.mpr ⟨ReflCmp.isLE_rfl, fun o ho => Ordering.isLE_of_eq_lt (hlt o ho)⟩,
      List.forall_mem_cons.mpr ⟨⟨cur, List.mem_cons_self, rfl, fun _ hr => hr⟩, fun g0 hg0 => ?_⟩,
      List.forall_mem_cons.mpr ⟨fun r hr => ⟨cur, List.mem_cons_self, rfl, hr⟩, fun o ho r hr => ?_⟩⟩
    · obtain ⟨o, ho, h⟩ := h3 g0 hg0
      exact ⟨o, List.mem_cons_of_mem _ ho, h⟩
    · obtain ⟨g', hg', h⟩ := h4 o ho r hr
      exact ⟨g', List.mem_cons_of_mem _ hg', h⟩

end Thanos.Rules
