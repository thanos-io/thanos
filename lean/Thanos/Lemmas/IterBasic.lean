import Thanos.Model.Iter
/- The `Ops` records `leafOps` / `nodeOps` projected as rewrite rules, and `nodeChoose` / `nodeAdjust` as equations, so
   that proofs never unfold these inside other terms: `nodeChoose` by situation for the invariants that follow the
   timestamps (ListLike, TrackM), and the shape of any successful call (`nodeChoose_shape`) for the value invariant of
   DedupMono, which knows nothing of timestamps.  Above `nodeChoose` the node's functions are short compositions and
   are followed by unfolding them (`fun_cases`; the case principles of `nodeChoose` and `nodeNext` are generated here,
   once for the three modules); `Next` above `nodeStep` is followed for the timestamps by `nodeNext_of_step`. -/
namespace Thanos.Dedup

@[simp] theorem leafOps_next : leafOps.next = leafNext := rfl
@[simp] theorem leafOps_seek : leafOps.seek = leafSeek := rfl
@[simp] theorem leafOps_atS : leafOps.atS = Leaf.cur := rfl
@[simp] theorem leafOps_atT (l : Leaf) : leafOps.atT l = l.cur.map (·.t) := rfl
@[simp] theorem leafOps_adjust (v : Int) (l : Leaf) : leafOps.adjust v l = l := rfl
@[simp] theorem leafOps_bad (l : Leaf) : leafOps.bad l = false := rfl
@[simp] theorem leafOps_fuel (l : Leaf) : leafOps.fuel l = l.rest.length := rfl

theorem leaf_drainN (n : Nat) : ∀ (l : List Sample) (st : Bool),
    drainN leafOps n { rest := l, started := st } = (if st then l.tail else l).take n := by
  induction n with
  | zero => intro l st; simp [drainN]
  | succ n ih =>
    intro l st
    unfold drainN
    simp only [leafOps_next, leafOps_atS, leafNext, if_true, Leaf.cur]
    cases (if st then l.tail else l) with
    | nil => rfl
    | cons x tl => simp [ih]

/-- `if it.aval != ValNone { it.aval = it.a.Seek(t) }`, the guarded `Seek` of a side of the node (`stepA`, `stepB`):
    a side that has returned `ValNone` is not sought again -/
def seekIf {γ : Type} (o : Ops γ) (t : Int) (c : γ) (av : Bool) : γ × Bool := if av then o.seek t c else (c, false)

section
variable {α β : Type} (oa : Ops α) (ob : Ops β) (fixed : Bool)
theorem stepA_eq (s : Node α β) : stepA oa s = seekIf oa (s.lastT + 1 + s.penA) s.a s.aval := rfl
theorem stepB_eq (s : Node α β) : stepB ob s = seekIf ob (s.lastT + 1 + s.penB) s.b s.bval := rfl

@[simp] theorem nodeOps_next : (nodeOps oa ob fixed).next = nodeNext oa ob := rfl
@[simp] theorem nodeOps_seek_fixed : (nodeOps oa ob true).seek = nodeSeekFixed oa ob := rfl
@[simp] theorem nodeOps_seek_orig : (nodeOps oa ob false).seek = nodeSeekOrig oa ob := rfl
@[simp] theorem nodeOps_atS : (nodeOps oa ob fixed).atS = nodeAt oa ob := rfl
@[simp] theorem nodeOps_atT : (nodeOps oa ob fixed).atT = nodeAtT oa ob := rfl
@[simp] theorem nodeOps_adjust : (nodeOps oa ob fixed).adjust = nodeAdjust oa ob := rfl
@[simp] theorem nodeOps_bad (s : Node α β) :
    (nodeOps oa ob fixed).bad s = (s.bad || oa.bad s.a || ob.bad s.b) := rfl
@[simp] theorem nodeOps_fuel : (nodeOps oa ob fixed).fuel = nodeFuel oa ob := rfl
end

section
variable {α β : Type} {oa : Ops α} {ob : Ops β}

theorem nodeChoose_none {s : Node α β} (ha : s.aval = false) (hb : s.bval = false) :
    nodeChoose oa ob s = ({ s with useA := false }, false) := by
  unfold nodeChoose
  rw [if_pos (by rw [ha]; rfl), if_neg (by rw [hb]; exact Bool.false_ne_true)]

theorem nodeChoose_a {s : Node α β} {ta : Int} (ha : s.aval = true) (hta : oa.atT s.a = some ta)
    (hb : s.bval = true → ∃ tb, ob.atT s.b = some tb ∧ ta ≤ tb) :
    nodeChoose oa ob s =
      ({ s with useA := true, lastT := ta, lastIsA := true, penA := 0,
                penB := if s.bval then (if s.lastT ≠ minT then 2 * (ta - s.lastT) else initialPenalty)
                        else s.penB }, true) := by
  unfold nodeChoose
  rw [if_neg (by rw [ha]; exact Bool.false_ne_true), hta]
  cases hbv : s.bval with
  | false => rfl
  | true =>
    obtain ⟨tb, htb, hle⟩ := hb hbv
    rw [htb]
    exact if_pos hle

theorem nodeChoose_b {s : Node α β} {tb : Int} (hb : s.bval = true) (htb : ob.atT s.b = some tb)
    (ha : s.aval = true → ∃ ta, oa.atT s.a = some ta ∧ tb < ta) :
    nodeChoose oa ob s =
      ({ s with useA := false, lastT := tb, lastIsA := false, penB := 0,
                penA := if s.aval then (if s.lastT ≠ minT then 2 * (tb - s.lastT) else initialPenalty)
                        else s.penA }, true) := by
  unfold nodeChoose
  cases hav : s.aval with
  | false =>
    rw [if_pos (show (!false) = true from rfl), if_pos hb, htb]
    rfl
  | true =>
    obtain ⟨ta, hta, hlt⟩ := ha hav
    rw [if_neg (show ¬(!true) = true from Bool.false_ne_true),
      if_neg (by rw [hb]; exact Bool.false_ne_true), hta, htb]
    exact if_neg (Int.not_le.mpr hlt)

theorem nodeChoose_shape {s : Node α β} {r : Node α β × Bool} (hr : nodeChoose oa ob s = r)
    (hok : r.2 = true) :
    ∃ u l pa pb, r.1 = { s with useA := u, lastIsA := u, lastT := l, penA := pa, penB := pb } ∧
      (if u then s.aval = true else s.bval = true) := by
  subst hr
  revert hok
  -- arms in the order of the text of `nodeChoose`: only `b` live (1, 2: its `AtT` fails), none live (3), only `a` live
  -- (4, 5: its `AtT` fails), both live: `a` not after `b` (6), `b` first (7), an `AtT` fails (8)
  fun_cases nodeChoose oa ob s with
  | case1 _ hb => exact fun _ => ⟨_, _, _, _, rfl, hb⟩
  | case2 => exact fun h => nomatch h
  | case3 => exact fun h => nomatch h
  | case4 ha => exact fun _ => ⟨_, _, _, _, rfl, by simpa using ha⟩
  | case5 => exact fun h => nomatch h
  | case6 ha => exact fun _ => ⟨_, _, _, _, rfl, by simpa using ha⟩
  | case7 _ hb => exact fun _ => ⟨_, _, _, _, rfl, by simpa using hb⟩
  | case8 => exact fun h => nomatch h

theorem nodeAdjust_eq (v : Int) (s : Node α β) :
    nodeAdjust oa ob v s =
      { s with a := if s.aval then oa.adjust v s.a else s.a,
               b := if s.bval then ob.adjust v s.b else s.b } := by
  obtain ⟨a, b, av, bv, lastT, lastIsA, penA, penB, useA, bad⟩ := s
  cases av <;> cases bv <;> rfl

/-- what holds of `nodeStep` and survives `adjustAtValue` holds of `Next`, provided `lastFloatVal()` finds a sample
    whenever the side in use is live -/
theorem nodeNext_of_step {P : Node α β × Bool → Prop} {s : Node α β}
    (hat : ((s.useA && s.aval) || (!s.useA && s.bval)) = true → ∃ x, nodeAt oa ob s = some x)
    (hstep : P (nodeStep oa ob s)) (hadj : ∀ v r, P r → P (nodeAdjust oa ob v r.1, r.2)) :
    P (nodeNext oa ob s) := by
  -- case1: `lastFloatVal()` panics (`At()` of the side in use shows nothing); case2: it reads `x`, `r` = `nodeStep s`,
  -- then the deferred `nodeFinish`; case3: the side in use is not live, plain `nodeStep`
  fun_cases nodeNext oa ob s with
  | case1 hc hx =>
    obtain ⟨x, hx'⟩ := hat hc
    cases hx.symm.trans hx'
  | case2 _ x _ r =>
    simp only [nodeFinish]
    split
    · exact hadj x.v r hstep
    · exact hstep
  | case3 => exact hstep
end

end Thanos.Dedup
