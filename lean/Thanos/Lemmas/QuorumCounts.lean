import Thanos.Model.Quorum
/-
  C22 / C23 (`fanoutForward`): what a list of answers determines.  The state of the response loop
  after the answers is given by per-series counts (`oks`, `errsOf`, closed form `foldl_step`),
  which do not depend on the order and only grow.  Answers to all writes of
  `distributeTimeseriesToReplicas` are `Complete` (`distribute_complete`).  `relabel` re-classifies
  the errors (another transport); `oks` is untouched, `conflictsOf` if the conflict flag is kept.
-/
namespace Thanos.Quorum

/-- the outcomes that concern series `i`, in arrival order (with multiplicity, should a write
    list an id twice) -/
def evs (rs : List Resp) (i : Nat) : List Outcome :=
  rs.flatMap fun r => List.replicate (r.ids.count i) r.out

def oks (rs : List Resp) (i : Nat) : Nat := (evs rs i).countP (·.isNone)

def errsOf (rs : List Resp) (i : Nat) : List ErrKind := (evs rs i).filterMap id

@[simp] theorem evs_nil (i : Nat) : evs [] i = [] := rfl
@[simp] theorem evs_cons (r : Resp) (rs : List Resp) (i : Nat) :
    evs (r :: rs) i = List.replicate (r.ids.count i) r.out ++ evs rs i := by
  simp [evs]

theorem evs_append (a b : List Resp) (i : Nat) : evs (a ++ b) i = evs a i ++ evs b i := by
  simp [evs]

theorem evs_length (rs : List Resp) (i : Nat) : (evs rs i).length = (rs.map fun r => r.ids.count i).sum := by
  simp only [evs, List.length_flatMap, List.length_replicate]

theorem evs_perm {a b : List Resp} (h : a.Perm b) (i : Nat) : (evs a i).Perm (evs b i) :=
  List.Perm.flatMap_right _ h

theorem oks_perm {a b : List Resp} (h : a.Perm b) (i : Nat) : oks a i = oks b i :=
  (evs_perm h i).countP_eq _

theorem errsOf_perm {a b : List Resp} (h : a.Perm b) (i : Nat) : (errsOf a i).Perm (errsOf b i) :=
  (evs_perm h i).filterMap _

theorem oks_append (a b : List Resp) (i : Nat) : oks (a ++ b) i = oks a i + oks b i := by
  rw [oks, evs_append, List.countP_append]
  rfl

theorem errsOf_append (a b : List Resp) (i : Nat) : errsOf (a ++ b) i = errsOf a i ++ errsOf b i := by
  rw [errsOf, evs_append, List.filterMap_append]
  rfl

theorem counts_mono {a b : List Resp} (h : a <+: b) (i : Nat) :
    oks a i ≤ oks b i ∧ (errsOf a i).length ≤ (errsOf b i).length := by
  obtain ⟨t, rfl⟩ := h
  exact ⟨oks_append a t i ▸ Nat.le_add_right _ _, errsOf_append a t i ▸ List.length_append ▸ Nat.le_add_right _ _⟩

theorem oks_add_errs (rs : List Resp) (i : Nat) : oks rs i + (errsOf rs i).length = (evs rs i).length := by
  rw [oks, errsOf, List.length_filterMap_eq_countP, List.length_eq_countP_add_countP (·.isNone) (l := evs rs i)]
  congr 2
  funext o
  cases o <;> rfl

theorem errsOf_all {P : ErrKind → Prop} {rs : List Resp} (h : ∀ r, r ∈ rs → ∀ k, r.out = some k → P k) (i : Nat) :
    ∀ k, k ∈ errsOf rs i → P k :=
  List.forall_mem_filterMap.2 (List.forall_mem_flatMap.2 fun r hr _ ho k hk =>
    h r hr k (List.eq_of_mem_replicate ho ▸ hk))

theorem count_cons_nat (a i : Nat) (ids : List Nat) : (a :: ids).count i = ids.count i + if i = a then 1 else 0 := by
  simp only [List.count_cons, beq_iff_eq, @eq_comm _ a i]

theorem foldl_addOk (ids : List Nat) (s : St) :
    ids.foldl St.addOk s = ⟨fun i => s.succ i + ids.count i, s.errs⟩ := by
  induction ids generalizing s with
  | nil => rfl
  | cons a ids ih =>
    rw [List.foldl_cons, ih]
    congr 1
    funext i
    rw [count_cons_nat]
    simp only [St.addOk]
    split <;> omega

theorem foldl_addErr (k : ErrKind) (ids : List Nat) (s : St) :
    ids.foldl (St.addErr k) s = ⟨s.succ, fun i => s.errs i ++ List.replicate (ids.count i) k⟩ := by
  induction ids generalizing s with
  | nil => simp
  | cons a ids ih =>
    rw [List.foldl_cons, ih]
    congr 1
    funext i
    rw [count_cons_nat]
    simp only [St.addErr]
    split
    · rw [List.append_assoc, List.replicate_succ]
      rfl
    · rfl

theorem step_eq (s : St) (r : Resp) :
    step s r = ⟨fun i => s.succ i + (List.replicate (r.ids.count i) r.out).countP (·.isNone),
      fun i => s.errs i ++ (List.replicate (r.ids.count i) r.out).filterMap id⟩ := by
  unfold step
  cases r.out with
  | none => simp [foldl_addOk, List.countP_replicate]
  | some k => simp [foldl_addErr, List.countP_replicate]

theorem foldl_step (rs : List Resp) (s : St) :
    rs.foldl step s = ⟨fun i => s.succ i + oks rs i, fun i => s.errs i ++ errsOf rs i⟩ := by
  induction rs generalizing s with
  | nil => simp [oks, errsOf]
  | cons r rs ih =>
    rw [List.foldl_cons, ih, step_eq]
    simp only [oks, errsOf, evs_cons, List.countP_append, List.filterMap_append, Nat.add_assoc, List.append_assoc]

theorem foldl_step_errs (rs : List Resp) (i : Nat) : (rs.foldl step St.init).errs i = errsOf rs i := by
  rw [foldl_step]; rfl

theorem foldl_step_succ (rs : List Resp) (i : Nat) : (rs.foldl step St.init).succ i = oks rs i := by
  rw [foldl_step]; exact Nat.zero_add _

/-- The responses are those of one whole request: every series is answered once per replica. -/
def Complete (n nrep : Nat) (rs : List Resp) : Prop := ∀ i, i < n → (evs rs i).length = nrep

theorem Complete.oks_add_errs {n nrep i : Nat} {rs : List Resp} (hc : Complete n nrep rs) (hi : i < n) :
    oks rs i + (errsOf rs i).length = nrep :=
  (Quorum.oks_add_errs rs i).trans (hc i hi)

theorem Complete.perm {n nrep : Nat} {a b : List Resp} (hc : Complete n nrep b) (hp : a.Perm b) : Complete n nrep a :=
  fun i hi => (evs_perm hp i).length_eq.trans (hc i hi)

/-- the conflicts among the errors of series `i`: with `oks`, what the status depends on (`final_status`) -/
def conflictsOf (rs : List Resp) (i : Nat) : Nat := countConflict (errsOf rs i)

/-- the same answers with the errors re-classified by `f` (e.g. by another transport) -/
def relabel (f : ErrKind → ErrKind) (rs : List Resp) : List Resp := rs.map fun r => ⟨r.ids, r.out.map f⟩

theorem evs_relabel (f : ErrKind → ErrKind) (rs : List Resp) (i : Nat) :
    evs (relabel f rs) i = (evs rs i).map (Option.map f) := by
  simp only [evs, relabel, List.flatMap_map, List.map_flatMap, List.map_replicate]

theorem oks_relabel (f : ErrKind → ErrKind) (rs : List Resp) (i : Nat) : oks (relabel f rs) i = oks rs i := by
  unfold oks
  rw [evs_relabel, List.countP_map]
  congr 1
  funext o
  cases o <;> rfl

theorem errsOf_relabel (f : ErrKind → ErrKind) (rs : List Resp) (i : Nat) :
    errsOf (relabel f rs) i = (errsOf rs i).map f := by
  rw [errsOf, evs_relabel, List.filterMap_map, errsOf, List.map_filterMap]
  rfl

theorem conflictsOf_relabel (f : ErrKind → ErrKind) (hf : ∀ k, (f k).conflict = k.conflict) (rs : List Resp) (i : Nat) :
    conflictsOf (relabel f rs) i = conflictsOf rs i := by
  rw [conflictsOf, errsOf_relabel, countConflict, List.countP_map]
  exact congrArg (List.countP · _) (funext hf)

def totalCount (ws : Writes) (j : Nat) : Nat := (ws.map fun w => w.2.count j).sum

theorem totalCount_cons (w : (Nat × Nat) × List Nat) (ws : Writes) (j : Nat) :
    totalCount (w :: ws) j = w.2.count j + totalCount ws j := rfl

theorem totalCount_addWrite (k : Nat × Nat) (id : Nat) (ws : Writes) (j : Nat) :
    totalCount (addWrite k id ws) j = totalCount ws j + (if j = id then 1 else 0) := by
  induction ws with
  | nil => exact (Nat.add_zero _).trans (count_cons_nat id j [])
  | cons w ws ih =>
    obtain ⟨k', ids⟩ := w
    rw [addWrite]
    split
    · rw [totalCount_cons, totalCount_cons, List.count_append, count_cons_nat, List.count_nil, Nat.zero_add,
        Nat.add_right_comm]
    · rw [totalCount_cons, totalCount_cons, ih, Nat.add_assoc]

-- the indicator is a factor (not `if j = id then rns.length else 0`), so that this induction and the
-- next are chains of rewrites
theorem totalCount_placeSeries {id : Nat} {pl rns : List Nat} {ws ws' : Writes} (j : Nat)
    (h : placeSeries id pl rns ws = some ws') :
    totalCount ws' j = totalCount ws j + rns.length * (if j = id then 1 else 0) := by
  induction rns generalizing ws with
  | nil => cases h; simp
  | cons rn rns ih =>
    rw [placeSeries] at h
    split at h
    · cases h
    · rw [ih h, totalCount_addWrite, Nat.add_assoc, List.length_cons, Nat.succ_mul, Nat.add_comm (_ * _)]

theorem totalCount_distributeFrom {replicas : List Nat} {id0 : Nat} {pls : List (List Nat)} {ws ws' : Writes} (j : Nat)
    (h : distributeFrom replicas id0 pls ws = some ws') :
    totalCount ws' j = totalCount ws j + replicas.length * (List.range' id0 pls.length).count j := by
  induction pls generalizing id0 ws with
  | nil => cases h; rfl
  | cons pl pls ih =>
    rw [distributeFrom] at h
    split at h
    · cases h
    · rename_i ws1 h1
      rw [ih h, totalCount_placeSeries j h1, Nat.add_assoc, List.length_cons, List.range'_succ,
        count_cons_nat, Nat.mul_add, Nat.add_comm (_ * _)]

/-- `distributeTimeseriesToReplicas` lists every series once per replica; hence, if every write
    is answered exactly once, every series is answered once per replica. -/
theorem distribute_complete (replicas : List Nat) (placement : List (List Nat)) (ws : Writes) (rs : List Resp)
    (hd : distribute replicas placement = some ws)
    (hans : (rs.map (·.ids)).Perm (ws.map (·.2))) :
    Complete placement.length replicas.length rs := by
  intro i hi
  have h := totalCount_distributeFrom i hd
  rw [List.count_range_1', if_pos ⟨Nat.zero_le _, (Nat.zero_add _).symm ▸ hi⟩, Nat.mul_one] at h
  have h1 : (rs.map fun r => r.ids.count i) = (rs.map (·.ids)).map (·.count i) := List.map_map.symm
  rw [evs_length, h1, (hans.map _).sum_nat, List.map_map]
  exact h.trans (Nat.zero_add _)

end Thanos.Quorum
