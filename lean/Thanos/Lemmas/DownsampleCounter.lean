import Thanos.Lemmas.Downsample
import Thanos.Lemmas.ListFacts
/-
  For C37, what a counter sub-chunk holds.  The reset-adjusted counter `adjusted` is `gain 0`: the
  first value is booked after a value 0 like every later one after its predecessor
  (`adjusted_eq_gain`), so a prefix of any length splits off (`adjusted_append`) and `adjAt raw` does
  not decrease in `t` anywhere (`adjAt_mono`).  `adjAt raw t` under a prefix and a suffix; and the
  normal form of a counter sub-chunk, `ctrChunk vs T` for a segment `vs` of the raw series and emission
  timestamps `T` (`SegOK`), with the timestamps `segTs vs T` at which it is read back: they increase
  from the first to the last raw timestamp, also across consecutive segments (`groupTs_facts`).  The
  reader (Lemmas/DownsampleCounterRead) and the writer (Lemmas/DownsampleCounterWrite) both speak of
  this form and do not depend on each other.
-/
namespace Thanos.Downsample

/-- the increase the reader (and the aggregator) books for value `y` after value `l` -/
def delta (l y : Int) : Int := if y < l then y else y - l

theorem delta_of_le {l y : Int} (h : l ≤ y) : delta l y = y - l := if_neg (Int.not_lt.mpr h)

theorem delta_nonneg (l : Int) {y : Int} (hy : 0 ≤ y) : 0 ≤ delta l y := by
  unfold delta; split <;> omega

/-- what a counter gains over the values `ys` when the value before them was `l` -/
def gain : Int → List Int → Int
  | _, [] => 0
  | l, y :: ys => delta l y + gain y ys

theorem foldl_adjStep (ys : List Int) (a l : Int) : ys.foldl adjStep (a, l) = (a + gain l ys, ys.getLastD l) := by
  induction ys generalizing a l with
  | nil => rw [gain, Int.add_zero]; rfl
  | cons y ys ih =>
    have : adjStep (a, l) y = (a + delta l y, y) := by
      unfold adjStep delta; split <;> rfl
    rw [List.foldl_cons, this, ih, gain, List.getLastD_cons, Int.add_assoc]

theorem adjusted_cons (v : Int) (vs : List Int) : adjusted (v :: vs) = v + gain v vs := by
  rw [adjusted, foldl_adjStep]

theorem adjusted_eq_gain : ∀ l : List Int, adjusted l = gain 0 l
  | [] => rfl
  | v :: vs => by
    rw [adjusted_cons, gain, delta]
    split
    · rfl
    · rw [Int.sub_zero]

theorem gain_append (xs : List Int) (l : Int) (ys : List Int) :
    gain l (xs ++ ys) = gain l xs + gain (xs.getLastD l) ys := by
  induction xs generalizing l with
  | nil => rw [List.nil_append, gain, Int.zero_add]; rfl
  | cons x xs ih => rw [List.cons_append, gain, gain, ih, List.getLastD_cons, Int.add_assoc]

theorem gain_nonneg (ys : List Int) (l : Int) (h : ∀ y ∈ ys, 0 ≤ y) : 0 ≤ gain l ys := by
  induction ys generalizing l with
  | nil => exact Int.le_refl _
  | cons y ys ih =>
    rw [List.forall_mem_cons] at h
    have := ih y h.2
    have := delta_nonneg l h.1
    rw [gain]; omega

theorem gain_of_mono (ys : List Int) (l : Int) (h : (l :: ys).Pairwise (· ≤ ·)) : gain l ys = ys.getLastD l - l := by
  induction ys generalizing l with
  | nil => exact (Int.sub_self l).symm
  | cons y ys ih =>
    have h1 := List.pairwise_cons.mp h
    rw [gain, delta_of_le (h1.1 y (List.mem_cons_self ..)), ih y h1.2, List.getLastD_cons]
    omega

theorem adjusted_append (xs ys : List Int) : adjusted (xs ++ ys) = adjusted xs + gain (xs.getLastD 0) ys := by
  rw [adjusted_eq_gain, adjusted_eq_gain, gain_append]

theorem adjusted_append_cons (xs : List Int) (y : Int) (ys : List Int) :
    adjusted (xs ++ y :: ys) = adjusted (xs ++ [y]) + gain y ys := by
  rw [List.append_cons, adjusted_append, List.getLastD_concat]

theorem adjusted_mono_append (xs ys : List Int) (h0 : ∀ v ∈ ys, 0 ≤ v) : adjusted xs ≤ adjusted (xs ++ ys) := by
  rw [adjusted_append]
  exact Int.le_add_of_nonneg_right (gain_nonneg ys _ h0)

theorem adjusted_of_mono (v : Int) (vs : List Int) (h : (v :: vs).Pairwise (· ≤ ·)) : adjusted (v :: vs) = vs.getLastD v := by
  rw [adjusted_cons, gain_of_mono vs v h]
  omega

/-- the specification of `C37_raw_stretch` (Props/C37.lean), its only user: the running reset-adjusted totals of
    raw samples, `acc` the total so far, `last` the previous value; the `if` is `delta last v` (`adjScan_cons`) -/
def adjScan : Int → Int → List Pt → List Pt
  | _, _, [] => []
  | acc, last, (t, v) :: rest =>
    (t, if v < last then acc + v else acc + (v - last)) ::
      adjScan (if v < last then acc + v else acc + (v - last)) v rest

theorem adjScan_cons (acc last t v : Int) (rest : List Pt) :
    adjScan acc last ((t, v) :: rest) = (t, acc + delta last v) :: adjScan (acc + delta last v) v rest := by
  unfold delta; rw [adjScan]; split <;> rfl

theorem filter_le_self {l : List Pt} {t : Int} (h : ∀ p ∈ l, p.1 ≤ t) : l.filter (fun p => p.1 ≤ t) = l :=
  List.filter_eq_self.mpr fun p hp => decide_eq_true (h p hp)

theorem filter_le_nil {l : List Pt} {t : Int} (h : ∀ p ∈ l, t < p.1) : l.filter (fun p => p.1 ≤ t) = [] :=
  List.filter_eq_nil_iff.mpr fun p hp hd => Int.lt_irrefl _ (Int.lt_of_lt_of_le (h p hp) (of_decide_eq_true hd))

theorem filter_le_split (pre suf : List Pt) (t : Int) (hpre : ∀ p ∈ pre, p.1 ≤ t) (hsuf : ∀ p ∈ suf, t < p.1) :
    (pre ++ suf).filter (fun p => p.1 ≤ t) = pre := by
  rw [List.filter_append, filter_le_self hpre, filter_le_nil hsuf, List.append_nil]

theorem filter_le_append_gt {l : List Pt} (hs : Sorted l) (t : Int) :
    l.filter (fun p => p.1 ≤ t) ++ l.filter (fun p => !decide (p.1 ≤ t)) = l := by
  have hp : ∀ a b : Pt, a.1 < b.1 → decide (a.1 ≤ t) = false → decide (b.1 ≤ t) = false := fun a b hab ha =>
    decide_eq_false fun hb => of_decide_eq_false ha (Int.le_trans (Int.le_of_lt hab) hb)
  rw [← takeWhile_eq_filter hs hp, ← dropWhile_eq_filter_not hs hp, List.takeWhile_append_dropWhile]

theorem adjAt_of_le {l : List Pt} {t : Int} (h : ∀ p ∈ l, p.1 ≤ t) : adjAt l t = adjusted (l.map (·.2)) := by
  rw [adjAt, filter_le_self h]

theorem adjAt_append_later (l suf : List Pt) (t : Int) (h : ∀ p ∈ suf, t < p.1) :
    adjAt (l ++ suf) t = adjAt l t := by
  rw [adjAt, adjAt, List.filter_append, filter_le_nil h, List.append_nil]

theorem adjAt_mono {vs : List Pt} (hs : Sorted vs) (h0 : ∀ p ∈ vs, 0 ≤ p.2) {t t' : Int} (htt : t ≤ t') :
    adjAt vs t ≤ adjAt vs t' := by
  -- the samples up to `t'` are those up to `t` and some later ones
  have hsplit := congrArg (List.filter fun p : Pt => decide (p.1 ≤ t')) (filter_le_append_gt hs t)
  rw [List.filter_append, filter_le_self fun p hp => Int.le_trans (of_decide_eq_true (List.mem_filter.mp hp).2) htt] at hsplit
  rw [adjAt, adjAt, ← hsplit, List.map_append]
  refine adjusted_mono_append _ _ fun v hv => ?_
  obtain ⟨p, hpm, rfl⟩ := List.mem_map.mp hv
  exact h0 p (List.mem_filter.mp (List.mem_filter.mp hpm).1).1

theorem adjAt_head {vs : List Pt} (hs : Sorted vs) {t0 v0 : Int} (hf : vs.head? = some (t0, v0)) : adjAt vs t0 = v0 := by
  obtain ⟨xs, rfl⟩ := List.head?_eq_some_iff.mp hf
  rw [adjAt, List.filter_cons, if_pos (decide_eq_true (Int.le_refl t0)), filter_le_nil (t := t0) (List.pairwise_cons.mp hs).1]
  rfl

theorem adjAt_append {pre vs : List Pt} {t0 v0 : Int} (hf : vs.head? = some (t0, v0))
    (hpre : ∀ p ∈ pre, p.1 < t0) (t : Int) (ht : t0 ≤ t) :
    adjAt (pre ++ vs) t = adjusted (pre.map (·.2) ++ [v0]) - v0 + adjAt vs t := by
  obtain ⟨xs, rfl⟩ := List.head?_eq_some_iff.mp hf
  rw [adjAt, adjAt, List.filter_append, filter_le_self fun p hp => Int.le_trans (Int.le_of_lt (hpre p hp)) ht,
    List.filter_cons, if_pos (decide_eq_true ht), List.map_append, List.map_cons, adjusted_append_cons, adjusted_cons]
  dsimp only
  omega

theorem filter_lt_cases {t0 : Int} {T : List Int} (hT : T.Pairwise (· < ·)) (h0 : ∀ t ∈ T, t0 ≤ t) :
    T = T.filter (t0 < ·) ∨ T = t0 :: T.filter (t0 < ·) := by
  cases T with
  | nil => exact Or.inl rfl
  | cons x xs =>
    have hx := h0 x (List.mem_cons_self ..)
    have hfil : xs.filter (fun t => decide (t0 < t)) = xs :=
      List.filter_eq_self.mpr fun t ht => decide_eq_true (Int.lt_of_le_of_lt hx ((List.pairwise_cons.mp hT).1 t ht))
    rw [List.filter_cons, hfil]
    by_cases h : t0 < x
    · exact Or.inl (by rw [if_pos (decide_eq_true h)])
    · exact Or.inr (by rw [if_neg (fun hd => h (of_decide_eq_true hd)), show x = t0 by omega])

theorem ends_of_ne_nil {vs : List Pt} (h : vs ≠ []) :
    ∃ t0 v0 lt lv, vs.head? = some (t0, v0) ∧ vs.getLast? = some (lt, lv) := by
  cases vs with
  | nil => exact absurd rfl h
  | cons x xs => exact ⟨x.1, x.2, _, _, rfl, List.getLast?_cons⟩

/-- the counter sub-chunk written for the raw samples `vs` with emission timestamps `T`: first
    raw sample, the adjusted counter at every emission timestamp, last raw sample -/
def ctrChunk (vs : List Pt) (T : List Int) : List Pt :=
  match vs.head?, vs.getLast? with
  | some f, some l => f :: T.map (fun t => (t, adjAt vs t)) ++ [l]
  | _, _ => []

theorem ctrChunk_eq {vs : List Pt} (T : List Int) {f l : Pt} (hf : vs.head? = some f) (hl : vs.getLast? = some l) :
    ctrChunk vs T = f :: T.map (fun t => (t, adjAt vs t)) ++ [l] := by
  simp only [ctrChunk, hf, hl]

/-- a segment `vs` of a raw counter series with emission timestamps `T` for which `ctrChunk vs T` is a counter
    sub-chunk as the writer produces it: `T` increases from the first raw timestamp or later to the last one -/
structure SegOK (vs : List Pt) (T : List Int) : Prop where
  sorted : Sorted vs
  ne : vs ≠ []
  nonneg : ∀ p ∈ vs, 0 ≤ p.2
  tne : T ≠ []
  tsorted : T.Pairwise (· < ·)
  tfirst : ∀ t ∈ T, ∀ f, vs.head? = some f → f.1 ≤ t
  tlast : ∀ l, vs.getLast? = some l → T.getLast? = some l.1

def firstT (vs : List Pt) : Int := match vs.head? with | some f => f.1 | none => 0

/-- the emission timestamps the reader returns for one segment -/
def segTs (vs : List Pt) (T : List Int) : List Int := firstT vs :: T.filter (fun t => firstT vs < t)

theorem segTs_eq {vs : List Pt} (T : List Int) {f : Pt} (hf : vs.head? = some f) :
    segTs vs T = f.1 :: T.filter (f.1 < ·) := by
  rw [segTs, firstT, hf]

/-- the first emission timestamp of a segment is its first raw timestamp or a later one, so
    `segTs vs T` is `T` itself or `T` with the first raw timestamp in front -/
theorem segTs_facts {vs : List Pt} {T : List Int} (ok : SegOK vs T) {f l : Pt} (hf : vs.head? = some f)
    (hl : vs.getLast? = some l) :
    (segTs vs T).Pairwise (· < ·) ∧ (segTs vs T).head? = some f.1 ∧ (segTs vs T).getLast? = some l.1 := by
  have hlast := ok.tlast l hl
  rw [segTs_eq T hf]
  refine ⟨List.pairwise_cons.mpr ⟨fun t ht => of_decide_eq_true (List.mem_filter.mp ht).2, ok.tsorted.filter _⟩, rfl, ?_⟩
  rcases filter_lt_cases ok.tsorted (fun t ht => ok.tfirst t ht f hf) with h | h
  · rw [List.getLast?_cons, ← h, hlast]
    rfl
  · rw [← h]
    exact hlast

theorem segTs_bounds {vs : List Pt} {T : List Int} (ok : SegOK vs T) {f l : Pt} (hf : vs.head? = some f)
    (hl : vs.getLast? = some l) : ∀ t ∈ segTs vs T, f.1 ≤ t ∧ t ≤ l.1 :=
  have h := segTs_facts ok hf hl
  bounds_of_pairwise id h.1 h.2.1 h.2.2

/-- the same for consecutive segments of a time-ordered series, their timestamps concatenated -/
theorem groupTs_facts {segs : List (List Pt × List Int)} (hok : ∀ sg ∈ segs, SegOK sg.1 sg.2)
    (hsorted : Sorted (segs.flatMap (·.1))) {f l : Pt}
    (hf : (segs.flatMap (·.1)).head? = some f) (hl : (segs.flatMap (·.1)).getLast? = some l) :
    (segs.flatMap fun sg => segTs sg.1 sg.2).Pairwise (· < ·) ∧
    (segs.flatMap fun sg => segTs sg.1 sg.2).head? = some f.1 ∧
    (segs.flatMap fun sg => segTs sg.1 sg.2).getLast? = some l.1 := by
  have hends := fun sg hsg => ends_of_ne_nil (hok sg hsg).ne
  have hne : segs ≠ [] := fun h => by rw [h] at hf; cases hf
  have hsr := List.pairwise_flatMap.mp hsorted
  refine ⟨List.pairwise_flatMap.mpr ⟨fun sg hsg => ?_, hsr.2.imp_of_mem fun {a b} ha hb hab x hx y hy => ?_⟩, ?_, ?_⟩
  · obtain ⟨_, _, _, _, h1, h2⟩ := hends sg hsg
    exact (segTs_facts (hok sg hsg) h1 h2).1
  · -- segments are consecutive pieces of the time-ordered raw series
    obtain ⟨_, _, lt, lv, h1, h2⟩ := hends a ha
    obtain ⟨t0, v0, _, _, h3, h4⟩ := hends b hb
    exact Int.lt_of_le_of_lt (segTs_bounds (hok a ha) h1 h2 x hx).2 (Int.lt_of_lt_of_le
      (hab (lt, lv) (List.mem_of_getLast? h2) (t0, v0) (List.mem_of_head? h3)) (segTs_bounds (hok b hb) h3 h4 y hy).1)
  · obtain ⟨sg, rest, rfl⟩ := List.exists_cons_of_ne_nil hne
    obtain ⟨t0, v0, lt, lv, h1, h2⟩ := hends sg (List.mem_cons_self ..)
    rw [List.flatMap_cons, List.head?_append, h1, Option.some_or] at hf
    rw [List.flatMap_cons, List.head?_append, (segTs_facts (hok sg (List.mem_cons_self ..)) h1 h2).2.1, Option.some_or,
      ← Option.some.inj hf]
  · obtain ⟨sg, hsg⟩ : ∃ sg, segs.getLast? = some sg := ⟨_, List.getLast?_eq_some_getLast hne⟩
    obtain ⟨init, rfl⟩ := List.getLast?_eq_some_iff.mp hsg
    obtain ⟨t0, v0, lt, lv, h1, h2⟩ := hends sg (List.mem_of_getLast? hsg)
    rw [List.flatMap_append, List.flatMap_singleton, List.getLast?_append, h2, Option.some_or] at hl
    rw [List.flatMap_append, List.flatMap_singleton, List.getLast?_append,
      (segTs_facts (hok sg (List.mem_of_getLast? hsg)) h1 h2).2.2, Option.some_or, ← Option.some.inj hl]

end Thanos.Downsample
