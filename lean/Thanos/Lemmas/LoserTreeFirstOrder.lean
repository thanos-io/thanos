import Thanos.Model.LoserTree
import Thanos.Lemmas.LoserTreeMerge
/-
  The tournament invariant of pkg/losertree stated first-order over an explicit winner function:
  `win p` is the leaf that wins the subtree at `p`, and the conditions on the nodes are quantified over
  positions (`Tourn`: all internal nodes; `SubTourn`: those below one position), with the
  specification of `playGame`, the loop invariant of `replayGames` and the states between two calls
  of `Next` written in these terms.  Definitions only, a second formulation beside `Won` / `Played` /
  `Running` of Lemmas/LoserTreeBase … LoserTreeMerge, to which no theorem relates it: the proofs use that
  derivation form, which needs no arithmetic on node indices and no winner function to be kept up to
  date.  Only here do the specifications say that `Tree.closed` is left alone.
-/
namespace Thanos.LoserTree

variable {E : Type}

structure Tourn (le : E → E → Prop) (t : Tree E) (n : Nat) (win : Nat → Nat) : Prop where
  leaf : ∀ p, n ≤ p → win p = p
  node : ∀ p, 1 ≤ p → p < n →
    (win p = win (2 * p) ∧ idx t p = (win (2 * p + 1) : Int)) ∨
    (win p = win (2 * p + 1) ∧ idx t p = (win (2 * p) : Int))
  copy : ∀ p, 1 ≤ p → p < n → val t p = val t (idx t p).toNat
  beat : ∀ p, 1 ≤ p → p < n → le (val t (win p)) (val t p)

structure SubTourn (le : E → E → Prop) (t : Tree E) (n pos : Nat) (win : Nat → Nat) : Prop where
  leaf : ∀ p, n ≤ p → win p = p
  node : ∀ p, IsDesc pos p → p < n →
    (win p = win (2 * p) ∧ idx t p = (win (2 * p + 1) : Int)) ∨
    (win p = win (2 * p + 1) ∧ idx t p = (win (2 * p) : Int))
  copy : ∀ p, IsDesc pos p → p < n → val t p = val t (idx t p).toNat
  beat : ∀ p, IsDesc pos p → p < n → le (val t (win p)) (val t p)

structure PlaySpec (le : E → E → Prop) (t : Tree E) (n pos : Nat) (r : Tree E × Nat) : Prop where
  len : r.1.nodes.length = 2 * n
  maxVal : r.1.maxVal = t.maxVal
  less : r.1.less = t.less
  closed : r.1.closed = t.closed
  frame : ∀ q, ¬ (IsDesc pos q ∧ q < n) → getNode r.1 q = getNode t q
  tourn : ∃ win, SubTourn le r.1 n pos win ∧ win pos = r.2

/-- `t1` is the tree the loop started from, `win0` the winner function before the leaf changed -/
structure LoopInv (le : E → E → Prop) (t1 : Tree E) (n : Nat) (win0 : Nat → Nat) (c : Nat)
    (t : Tree E) (pos : Nat) (wv : E) (win : Nat → Nat) : Prop where
  len : t.nodes.length = 2 * n
  less : t.less = t1.less
  maxVal : t.maxVal = t1.maxVal
  closed : t.closed = t1.closed
  sub : SubTourn le t n c win
  top : win c = pos
  posLeaf : n ≤ pos ∧ pos < 2 * n
  wv : val t pos = wv
  frameT : ∀ q, q < 2 * n → ¬ IsDesc c q → getNode t q = getNode t1 q
  leaves : ∀ l, n ≤ l → getNode t l = getNode t1 l
  frameW : ∀ q, ¬ IsDesc c q → win q = win0 q

structure Ready (le : E → E → Prop) (t : Tree E) (n : Nat) (win : Nat → Nat) : Prop where
  len : t.nodes.length = 2 * n
  npos : 1 ≤ n
  tourn : Tourn le t n win
  rootIdx : idx t 0 = (win 1 : Int)
  rootVal : val t 0 = val t (win 1)

def LeafOK (t : Tree E) (n : Nat) : Prop := ∀ l, n ≤ l → l < 2 * n → idx t l = -1 → val t l = t.maxVal

structure Live (le : E → E → Prop) (less0 : E → E → Bool) (maxV : E) (t : Tree E) (n : Nat)
    (win : Nat → Nat) : Prop where
  ready : Ready le t n win
  less : t.less = less0
  maxVal : t.maxVal = maxV
  leafOK : LeafOK t n
  proper : ∀ l, n ≤ l → l < 2 * n → ∀ x ∈ stream t l, ¬ le maxV x

end Thanos.LoserTree
