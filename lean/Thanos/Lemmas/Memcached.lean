import Thanos.Model.Memcached
import Thanos.Lemmas.AssocList
/-
  C49: the jump-hash loop for an arbitrary forward-moving step — where it ends (`jumpGo_range`), and the loops
  over `n` and over `m ≥ n` buckets side by side along the shorter one's recursion (`jumpGo_mono`) — and the
  association-list grouping of PickServerForKeys.
-/
namespace Thanos.Memcached

/-- the only thing the proofs need from the float step: the candidate moves forward -/
def Forward (step : UInt64 → Int → UInt64 × Int) : Prop := ∀ k b, 0 ≤ b → b < (step k b).2

theorem jumpGo_done (step : UInt64 → Int → UInt64 × Int) (n : Int) (fuel : Nat) (key : UInt64) (b j : Int)
    (h : ¬ j < n) : jumpGo step n fuel key b j = some b := by
  cases fuel <;> simp [jumpGo, h]

theorem jumpGo_step (step : UInt64 → Int → UInt64 × Int) (n : Int) (fuel : Nat) (key : UInt64) (b j : Int)
    (h : j < n) : jumpGo step n (fuel + 1) key b j = jumpGo step n fuel (step key j).1 j (step key j).2 := by
  simp [jumpGo, h]

theorem jumpGo_range (step : UInt64 → Int → UInt64 × Int) (hs : Forward step) (n : Int) (fuel : Nat)
    (key : UInt64) (b j : Int) (hj : 0 ≤ j) (hf : n ≤ j + fuel) :
    ∃ r, jumpGo step n fuel key b j = some r ∧ (¬ j < n ∧ r = b ∨ j ≤ r ∧ r < n) := by
  fun_induction jumpGo step n fuel key b j with
  -- out of fuel with `j < n`: excluded by `hf`
  | case1 key b j hlt => omega
  -- stopped, without | with fuel left
  | case2 key b j hge | case4 fuel key b j hge => exact ⟨b, rfl, Or.inl ⟨hge, rfl⟩⟩
  -- one turn: `j` is accepted and the next candidate lies beyond it
  | case3 fuel key b j hlt p ih =>
    have hfwd : j < p.2 := hs key j hj
    obtain ⟨r, h, hr⟩ := ih (Int.le_of_lt (Int.lt_of_le_of_lt hj hfwd)) (by omega)
    exact ⟨r, h, Or.inr (by omega)⟩

/-- While `j < n` the two loops take the same turn; when the shorter one stops, `n ≤ j`, and the longer one stops
    too or ends in a candidate from `j` on (`jumpGo_range`). -/
theorem jumpGo_mono (step : UInt64 → Int → UInt64 × Int) (hs : Forward step) (n m : Int) (hnm : n ≤ m)
    (fuel fuel' : Nat) (key : UInt64) (b j : Int) (hj : 0 ≤ j) (hf' : m ≤ j + fuel') (r : Int) :
    jumpGo step n fuel key b j = some r →
      ∃ r', jumpGo step m fuel' key b j = some r' ∧ (r' = r ∨ n ≤ r' ∧ r' < m) := by
  fun_induction jumpGo step n fuel key b j generalizing fuel' with
  | case1 => exact fun h => nomatch h
  | case2 key b j hge | case4 fuel key b j hge =>
    intro h
    cases h
    obtain ⟨r', h', hr⟩ := jumpGo_range step hs m fuel' key r j hj hf'
    exact ⟨r', h', by omega⟩
  | case3 fuel key b j hlt p ih =>
    have hfwd : j < p.2 := hs key j hj
    cases fuel' with
    | zero => omega
    | succ f =>
      rw [jumpGo_step step m f key b j (Int.lt_of_lt_of_le hlt hnm)]
      exact ih f (Int.le_of_lt (Int.lt_of_le_of_lt hj hfwd)) (by omega)

open AssocList

theorem addKey_eq_alter (m : List (String × List κ)) (s : String) (k : κ) :
    addKey m s k = alter (· ++ [k]) [] m s := by
  induction m with
  | nil => rfl
  | cons e rest ih => simp only [addKey, alter, beq_iff_eq, ih]

theorem groupFold_spec (pick : κ → Option String) (keys : List κ) :
    ∀ (acc : List (String × List κ)), (acc.map (·.1)).Nodup →
      let m := keys.foldl (fun m k => match pick k with | some s => addKey m s k | none => m) acc
      (m.map (·.1)).Nodup ∧ ∀ s, lookD [] m s = lookD [] acc s ++ keys.filter (fun k => pick k == some s) := by
  induction keys with
  | nil => intro acc h; simp [h]
  | cons k ks ih =>
    intro acc h
    simp only [List.foldl_cons]
    cases hp : pick k with
    | none =>
      obtain ⟨h1, h2⟩ := ih acc h
      refine ⟨h1, fun s => ?_⟩
      rw [h2 s]
      simp [hp]
    | some t =>
      obtain ⟨h1, h2⟩ := ih (addKey acc t k) (addKey_eq_alter acc t k ▸ nodup_keys_alter h t)
      refine ⟨h1, fun s => ?_⟩
      rw [h2 s, addKey_eq_alter, lookD_alter]
      by_cases hts : t = s
      · subst hts; simp [hp]
      · simp [hp, hts]

/-- the grouping of `PickServerForKeys`, for any pick function -/
theorem groupKeys_spec {κ : Type} (pick : κ → Option String) (keys : List κ) :
    ((groupKeys pick keys).map (·.1)).Nodup ∧
    (∀ s ks, (s, ks) ∈ groupKeys pick keys → ks = keys.filter (fun k => pick k == some s)) ∧
    (∀ k ∈ keys, ∀ s, pick k = some s → ∃ ks, (s, ks) ∈ groupKeys pick keys ∧ k ∈ ks) := by
  obtain ⟨hnd, hl⟩ := groupFold_spec pick keys [] List.nodup_nil
  refine ⟨hnd, fun s ks h => (lookD_of_mem hnd h).symm.trans (hl s), fun k hk s hs => ?_⟩
  have hin : k ∈ lookD [] (groupKeys pick keys) s :=
    hl s ▸ List.mem_filter.mpr ⟨hk, beq_iff_eq.mpr hs⟩
  exact ⟨_, mem_of_lookD_ne (List.ne_nil_of_mem hin), hin⟩

end Thanos.Memcached
