import Thanos.Model.Bucket
import Thanos.Lemmas.Bucket
import Thanos.Lemmas.OrderedInsert
/-
  The call scripts of the block procedures: which mutating calls an upload / a replication / a Delete consists of
  (`uploadOps_shape`, `ensure_props`, `muts_deleteScript`), and that those of an upload and of a Delete are a `SafeRun`
  from any bucket (`safeRun_upload`, `safeRun_delete`); what a Delete cut anywhere leaves of a block once the
  object it deletes last is gone (`dels_last_gone`).
-/
namespace Thanos.Bucket
open Thanos.OrderedInsert

/-- the hypothesis on the order of `block.upload`'s phases under which C28 holds -/
def MetaLast (order : List String) : Prop :=
  ∃ pre, order = pre ++ ["meta"] ∧ "meta" ∉ pre ∧ "chunks" ∈ pre ∧ "index" ∈ pre

theorem metaLast_code : MetaLast codeUploadOrder :=
  ⟨["chunks", "index"], by decide, by decide, by decide, by decide⟩

theorem phaseOps_data {n : Nat} {b : Block} {ph : String} (hph : ph ≠ "meta") : DataPuts n b (phaseOps n b ph) := by
  intro op h
  unfold phaseOps at h
  split at h
  · obtain ⟨p, hp, rfl⟩ := List.mem_map.mp h
    exact ⟨p.1, p.2, rfl, by simp [Block.files, hp]⟩
  · simp at h
    exact ⟨indexName, b.index, h, by simp [Block.files]⟩
  · exact absurd rfl hph
  · simp at h

theorem uploadOps_shape {order : List String} (ho : MetaLast order) (n : Nat) (b : Block) :
    ∃ d, uploadOps order n b = d ++ [.put (n, metaName) b.metaObj] ∧ DataPuts n b d ∧
      ∀ f sz, (f, sz) ∈ b.files → ∃ o, Op.put (n, f) o ∈ d := by
  obtain ⟨pre, rfl, hm, hc, hi⟩ := ho
  refine ⟨pre.flatMap (phaseOps n b), by simp [uploadOps, List.flatMap_append, phaseOps], fun op hop => ?_,
    fun f sz hf => ⟨.data sz, ?_⟩⟩
  · obtain ⟨ph, hph, hin⟩ := List.mem_flatMap.mp hop
    exact phaseOps_data (fun e => hm (e ▸ hph)) op hin
  · simp only [Block.files, List.mem_append, List.mem_singleton] at hf
    rcases hf with hf | hf
    · exact List.mem_flatMap.mpr ⟨"chunks", hc, List.mem_map.mpr ⟨(f, sz), hf, rfl⟩⟩
    · cases hf
      exact List.mem_flatMap.mpr ⟨"index", hi, List.mem_singleton.mpr rfl⟩

theorem safeRun_upload {w : Nat → Block} {order : List String} (ho : MetaLast order) (n : Nat)
    (s : Bucket) : SafeRun w s (uploadOps order n (w n)) := by
  obtain ⟨d, e, hd, hall⟩ := uploadOps_shape ho n (w n)
  exact e ▸ safeRun_data_meta hd false s fun f sz hf => Or.inr (hall f sz hf)

theorem visible_uploadOps {order : List String} (ho : MetaLast order) (n : Nat) (b : Block) (s : Bucket) :
    Visible (applyAll s (uploadOps order n b)) n := by
  obtain ⟨d, e, _⟩ := uploadOps_shape ho n b
  rw [e, applyAll_append, Visible, applyAll_cons, applyAll_nil, apply, get_put, if_pos rfl]
  rfl

theorem ensureScript_append (n : Nat) (s : Bucket) (fs gs : List (String × Nat)) :
    ensureScript n s (fs ++ gs) =
      ensureScript n s fs ++ ensureScript n (applyAll s (muts (ensureScript n s fs))) gs := by
  -- the arms of `ensureScript`: no object left; the object is in the bucket (`Exists` only); it is not (uploaded)
  fun_induction ensureScript n s fs with
  | case1 s => rfl
  | case2 s f sz rest hpres ih => simp only [List.cons_append, ensureScript, if_pos hpres, ih, muts]
  | case3 s f sz rest hpres ih =>
    simp only [List.cons_append, ensureScript, if_neg hpres, ih, muts, applyAll_cons, apply]

theorem ensure_props {b : Block} (n : Nat) (fs : List (String × Nat)) (s : Bucket) (h : ∀ p ∈ fs, p ∈ b.files) :
    DataPuts n b (muts (ensureScript n s fs)) ∧
    ∀ p ∈ fs, (get s (n, p.1)).isSome = true ∨ ∃ o, Op.put (n, p.1) o ∈ muts (ensureScript n s fs) := by
  fun_induction ensureScript n s fs with
  | case1 s => exact ⟨nofun, nofun⟩
  | case2 s f sz rest hpres ih =>
    obtain ⟨h1, h2⟩ := ih fun p hp => h p (List.mem_cons_of_mem _ hp)
    exact ⟨h1, List.forall_mem_cons.mpr ⟨Or.inl hpres, h2⟩⟩
  | case3 s f sz rest _ ih =>
    obtain ⟨h1, h2⟩ := ih fun p hp => h p (List.mem_cons_of_mem _ hp)
    refine ⟨List.forall_mem_cons.mpr ⟨⟨f, sz, rfl, h _ List.mem_cons_self⟩, h1⟩,
      List.forall_mem_cons.mpr ⟨Or.inr ⟨_, List.mem_cons_self⟩, fun p hp => ?_⟩⟩
    rcases h2 p hp with hs | ⟨o, ho⟩
    · rw [get_put] at hs
      by_cases e : (n, p.1) = (n, f)
      · rw [e]
        exact Or.inr ⟨_, List.mem_cons_self⟩
      · rw [if_neg e] at hs
        exact Or.inl hs
    · exact Or.inr ⟨o, List.mem_cons_of_mem _ ho⟩

theorem muts_map_mu_del (n : Nat) (fs : List String) :
    muts (fs.map fun f => Call.mu (.del (n, f))) = fs.map fun f => Op.del (n, f) :=
  (congrArg muts List.map_map.symm).trans (muts_map_mu _)

/-- the names `block.Delete` deletes, in order: meta.json if present and the other files (those
    of the block directory, then those of `chunks/`); then the deletion mark if present and the
    directory markers.  Bracketed as `A ++ B` with `A` = everything before the mark, the shape `dels_last_gone` takes. -/
def delNames (s : Bucket) (n : Nat) : List String :=
  ((if (get s (n, metaName)).isSome then [metaName] else []) ++
    (((restNames s n).filter fun f => !hasSlash f) ++ (restNames s n).filter hasSlash)) ++
  ((if (get s (n, markName)).isSome then [markName] else []) ++ [dirMarkerChunks, dirMarkerBlock])

theorem muts_guardedDel (c : Prop) [Decidable c] (n : Nat) (f : String) :
    muts (if c then [.mu (.del (n, f))] else []) = (if c then [f] else []).map fun f => Op.del (n, f) := by
  split <;> rfl

theorem muts_deleteScript (s : Bucket) (n : Nat) :
    muts (deleteScript codeDeleteOrder s n) = (delNames s n).map fun f => Op.del (n, f) := by
  have hrest : ∀ r : List String,
      muts (if (r.filter hasSlash).isEmpty then []
        else Call.rd :: ((r.filter hasSlash).map fun f => Call.mu (.del (n, f)))) =
        (r.filter hasSlash).map fun f => Op.del (n, f) := by
    intro r
    cases h : r.filter hasSlash with
    | nil => rfl
    | cons f fs => exact muts_map_mu_del n (f :: fs)
  simp only [deleteScript, codeDeleteOrder, List.flatMap_cons, List.flatMap_nil, deletePhase, List.append_nil,
    muts_append, delNames, List.map_append, muts_guardedDel, List.cons_append, muts, muts_map_mu_del, hrest,
    List.append_assoc, List.map_cons, List.map_nil]

/-- The mutating calls of `block.Delete` are a `SafeRun` from ANY bucket, consistent or not, for any world: meta.json
    goes first, so every later deletion is on an invisible block.  `C28_delete` is `good_exec` over it. -/
theorem safeRun_delete {w : Nat → Block} (s : Bucket) (n : Nat) :
    SafeRun w s (muts (deleteScript codeDeleteOrder s n)) := by
  rw [muts_deleteScript, delNames, List.append_assoc, List.append_assoc, List.map_append, safeRun_append]
  constructor
  · split
    · exact ⟨.delMeta n, trivial⟩
    · trivial
  · -- after the meta phase the block is invisible, and deletions keep it so
    apply safeRun_dels_invisible
    rw [Visible, get_applyAll_dels]
    by_cases hm : (get s (n, metaName)).isSome = true
    · simp [hm]
    · simp [hm]

-- `A` covers the block: the side condition `hcov` of `dels_last_gone` for `block.Delete`
theorem filter_hasSlash_split (r : List String) (f : String) :
    f ∈ r.filter (fun f => !hasSlash f) ++ r.filter hasSlash ↔ f ∈ r := by
  simp only [List.mem_append, List.mem_filter]
  cases hasSlash f <;> simp

theorem insertName_eq (x : String) (l : List String) : insertName x l = ins (· ≤ ·) x l := by
  induction l with
  | nil => rfl
  | cons y ys ih => simp only [insertName, ins, ih]

theorem mem_sortNames (x : String) (l : List String) : x ∈ sortNames l ↔ x ∈ l :=
  (sort_perm insertName_eq l).mem_iff

theorem mem_restNames (s : Bucket) (n : Nat) (f : String) :
    f ∈ restNames s n ↔ f ∈ namesOf s n ∧ f ≠ metaName ∧ f ≠ markName := by
  simp only [restNames, List.mem_append, mem_sortNames, List.mem_filter]
  cases hasSlash f <;> simp

theorem mem_namesOf_of_get {s : Bucket} {n : Nat} {f : String} (h : get s (n, f) ≠ none) :
    f ∈ namesOf s n := by
  rw [get_eq_find] at h
  cases hf : s.find? (·.1 = (n, f)) with
  | none => rw [hf] at h; exact absurd rfl h
  | some p =>
    have e : p.1 = (n, f) := by simpa using List.find?_some hf
    exact List.mem_map.mpr ⟨p, List.mem_filter.mpr ⟨List.mem_of_find?_eq_some hf, by simp [e]⟩, by rw [e]⟩

/-- the cut and `A` are prefixes of one list, and the cut is not the shorter one -/
theorem mem_take_append_of_not_mem {α : Type} {A B : List α} {j : Nat} {x : α}
    (hx : x ∈ (A ++ B).take j) (hA : x ∉ A) : ∀ y ∈ A, y ∈ (A ++ B).take j :=
  (List.prefix_or_prefix_of_prefix (List.prefix_append A B) (List.take_prefix j _)).elim
    (fun h _ hy => h.subset hy) (fun h => absurd (h.subset hx) hA)

/-- Deletions on block `n` in the order `A ++ B`, cut after any prefix (a crash).  If `A` covers whatever else of the
    block is in the bucket, then an object `x` that was there and is not deleted within `A` is gone only when nothing
    of the block is left.  `C28_delete_mark` is the case of `block.Delete`'s order with the deletion mark for `x`: any
    order that deletes the mark after meta.json and the other files would do. -/
theorem dels_last_gone {s : Bucket} {n : Nat} {A B : List String} {x : String} (j : Nat) (hx : x ∉ A)
    (hpres : (get s (n, x)).isSome = true) (hcov : ∀ f, f ≠ x → get s (n, f) ≠ none → f ∈ A)
    (hgone : get (applyAll s (((A ++ B).take j).map fun f => Op.del (n, f))) (n, x) = none) (f : String) :
    get (applyAll s (((A ++ B).take j).map fun f => Op.del (n, f))) (n, f) = none := by
  simp only [get_applyAll_dels, true_and] at hgone ⊢
  -- `x` was there and is gone, so the cut lies beyond it, hence beyond `A`
  have hin : x ∈ (A ++ B).take j := Decidable.by_contra fun hc => by
    rw [if_neg hc] at hgone
    rw [hgone] at hpres
    cases hpres
  refine ite_eq_left_iff.mpr fun hf => Decidable.by_contra fun hg => hf ?_
  by_cases e : f = x
  · exact e ▸ hin
  · exact mem_take_append_of_not_mem hin hx f (hcov f e hg)

/-- the deletions of the block's files other than meta.json and the mark, as one list of calls; no theorem reads it
    (`delNames` has these names inside the whole order) -/
def delRest (s : Bucket) (n : Nat) : List Op := (restNames s n).map fun f => .del (n, f)

end Thanos.Bucket
