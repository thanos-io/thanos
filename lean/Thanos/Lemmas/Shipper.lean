import Thanos.Model.Shipper
import Thanos.Lemmas.BucketProcs
/-
  For C35.  The world of a local TSDB directory (`worldOf`, `LocalsOK`), and `block.Upload` under faults
  (`uploadF_shape`): a failed run leaves data files only, a successful one is the crash-free `block.Upload` of C28.
  The overlap checker of the shipper: a put into a local block keeps every object of the bucket inside a local block
  (`KeysLocal`), so the checker's lazy sync succeeds with ranges of local blocks, which do not overlap when the local
  blocks do not (`NoOverlap`): the overlap check of an iteration passes (`overlapCheck_passes`).
-/
namespace Thanos.Shipper
open Thanos.Bucket

/-- the world (`w` of `WF`, `Good`) of a local TSDB directory -/
def worldOf (locals : List LBlock) (n : Nat) : Block :=
  match locals.find? (·.id = n) with
  | some b => b.files
  | none => ⟨[], 0⟩

def LocalsOK (locals : List LBlock) : Prop :=
  (locals.map (·.id)).Nodup ∧ ∀ b ∈ locals, WFBlock b.files

theorem worldOf_mem {locals : List LBlock} (hn : (locals.map (·.id)).Nodup) {b : LBlock} (hb : b ∈ locals) :
    worldOf locals b.id = b.files := by
  unfold worldOf
  cases hf : locals.find? (·.id = b.id) with
  | none => exact absurd (List.find?_eq_none.mp hf b hb) (by simp)
  | some b' => rw [inj_of_nodup_map hn (List.mem_of_find?_eq_some hf) hb (by simpa using List.find?_some hf)]

theorem wf_empty_block : WFBlock ⟨[], 0⟩ :=
  ⟨fun f a c h1 h2 => by cases List.mem_singleton.mp h1; cases List.mem_singleton.mp h2; rfl,
   fun f sz h => by cases List.mem_singleton.mp h; decide +kernel⟩

theorem wf_worldOf {locals : List LBlock} (h : LocalsOK locals) : WF (worldOf locals) := by
  intro n
  unfold worldOf
  cases hf : locals.find? (·.id = n) with
  | none => exact wf_empty_block
  | some b => exact h.2 b (List.mem_of_find?_eq_some hf)

theorem fault_none_hit : Fault.none.hit = false := by decide
theorem fault_none_pass : Fault.none.pass = Fault.none := by decide
theorem fault_none_passMut : Fault.none.passMut = Fault.none := by decide

theorem execF_none : ∀ (sc : List Call) (s : Bucket),
    execF Fault.none sc s = (⟨true, muts sc, applyAll s (muts sc)⟩, Fault.none)
  | [], s => by simp [execF, muts, applyAll]
  | .rd :: cs, s => by simp [execF, muts, fault_none_hit, fault_none_pass, execF_none cs s]
  | .mu op :: cs, s => by
    simp [execF, muts, fault_none_hit, fault_none_passMut, execF_none cs (apply s op), applyAll_cons]
  | .muIgn op :: cs, s => by
    simp [execF, muts, fault_none_hit, fault_none_passMut, execF_none cs (apply s op), applyAll_cons]

theorem execF_muIgn : ∀ (ops : List Op) (f : Fault) (s : Bucket),
    ∃ t, (execF f (ops.map .muIgn) s).1 = ⟨true, t, applyAll s t⟩ ∧ t.Sublist ops
  | [], f, s => ⟨[], rfl, .slnil⟩
  | op :: ops, f, s => by
    rw [List.map_cons, execF]
    by_cases hh : f.hit = true
    · rw [if_pos hh]
      obtain ⟨t, e, hs⟩ := execF_muIgn ops f.afterHit s
      exact ⟨t, e, hs.cons _⟩
    · rw [if_neg hh]
      obtain ⟨t, e, hs⟩ := execF_muIgn ops f.passMut (apply s op)
      exact ⟨op :: t, by simp only [e]; rfl, hs.cons_cons _⟩

theorem execF_mu : ∀ (ops : List Op) (f : Fault) (s : Bucket),
    ∃ k, (execF f (ops.map .mu) s).1 = ⟨decide (ops.take k = ops), ops.take k, applyAll s (ops.take k)⟩
  | [], f, s => ⟨0, rfl⟩
  | op :: ops, f, s => by
    rw [List.map_cons, execF]
    by_cases hh : f.hit = true
    · rw [if_pos hh]
      exact ⟨0, rfl⟩
    · rw [if_neg hh]
      obtain ⟨k, e⟩ := execF_mu ops f.passMut (apply s op)
      exact ⟨k + 1, by simp only [e, List.take_succ_cons, List.cons.injEq, true_and]; rfl⟩

def chunkPuts (n : Nat) (b : Block) : List Op := b.chunks.map fun p => Op.put (n, p.1) (.data p.2)
def tailPuts (n : Nat) (b : Block) : List Op :=
  [.put (n, indexName) (.data b.index), .put (n, metaName) b.metaObj]

theorem chunkCalls_eq (n : Nat) (b : Block) : chunkCalls n b = (chunkPuts n b).map .muIgn := by
  simp [chunkCalls, chunkPuts, List.map_map, Function.comp_def]
theorem tailCalls_eq (n : Nat) (b : Block) : tailCalls n b = (tailPuts n b).map .mu := by
  simp [tailCalls, tailPuts]

theorem uploadOps_code (n : Nat) (b : Block) : uploadOps codeUploadOrder n b = chunkPuts n b ++ tailPuts n b := by
  simp [uploadOps, codeUploadOrder, phaseOps, chunkPuts, tailPuts]

theorem chunkPuts_data (n : Nat) (b : Block) : DataPuts n b (chunkPuts n b) :=
  phaseOps_data (ph := "chunks") (by simp)

theorem take_tailPuts (n : Nat) (b : Block) (k : Nat) :
    (tailPuts n b).take k = tailPuts n b ∨
      (decide ((tailPuts n b).take k = tailPuts n b) = false ∧ DataPuts n b ((tailPuts n b).take k)) := by
  rcases k with _ | _ | k
  · exact Or.inr ⟨by simp [tailPuts], nofun⟩
  · exact Or.inr ⟨by simp [tailPuts], fun op hop =>
      ⟨indexName, b.index, List.mem_singleton.mp hop, by simp [Block.files]⟩⟩
  · exact Or.inl (List.take_of_length_le (Nat.le_add_left 2 k))

/-- a failed chunk stops the run before the index, a failed index before meta.json -/
theorem uploadF_shape (f : Fault) (n : Nat) (b : Block) (s : Bucket) :
    (∃ d, DataPuts n b d ∧ (uploadF f n b s).1 = ⟨false, d, applyAll s d⟩) ∨
    (uploadF f n b s).1 = ⟨true, uploadOps codeUploadOrder n b, applyAll s (uploadOps codeUploadOrder n b)⟩ := by
  unfold uploadF
  rw [chunkCalls_eq, tailCalls_eq]
  obtain ⟨t1, e1, hs1⟩ := execF_muIgn (chunkPuts n b) f s
  simp only [e1]
  by_cases hlen : t1.length < b.chunks.length
  · rw [if_pos hlen]
    exact Or.inl ⟨t1, fun op hop => chunkPuts_data n b op (hs1.subset hop), rfl⟩
  · rw [if_neg hlen]
    cases hs1.eq_of_length_le (by rw [chunkPuts, List.length_map]; omega)
    obtain ⟨k, e2⟩ := execF_mu (tailPuts n b) (execF f ((chunkPuts n b).map .muIgn) s).2 (applyAll s (chunkPuts n b))
    simp only [e2, ← applyAll_append]
    rcases take_tailPuts n b k with e | ⟨hno, hd⟩
    · exact Or.inr (by rw [e, uploadOps_code, decide_eq_true rfl])
    · exact Or.inl ⟨_, List.forall_mem_append.mpr ⟨chunkPuts_data n b, hd⟩, by rw [hno]⟩

theorem uploadF_none (n : Nat) (b : Block) (s : Bucket) :
    (uploadF Fault.none n b s).1.ok = true ∧ (uploadF Fault.none n b s).2 = Fault.none := by
  have : ¬ (muts (chunkCalls n b)).length < b.chunks.length := by
    rw [chunkCalls_eq, muts_map_muIgn, chunkPuts, List.length_map]
    exact Nat.lt_irrefl _
  simp [uploadF, execF_none, this]

/-- every object of the bucket lies in the directory of a local block -/
def KeysLocal (locals : List LBlock) (s : Bucket) : Prop := ∀ p ∈ s, ∃ b ∈ locals, b.id = p.1.1

theorem keysLocal_put {locals : List LBlock} {b : LBlock} (hb : b ∈ locals) {s : Bucket} (g : String) (o : Obj)
    (h : KeysLocal locals s) : KeysLocal locals (put s (b.id, g) o) := by
  intro p hp
  rcases List.mem_cons.mp hp with rfl | hp
  · exact ⟨b, hb, rfl⟩
  · exact h p (List.mem_filter.mp hp).1

theorem mem_dirsOf : ∀ {s : Bucket} {n : Nat}, n ∈ dirsOf s → ∃ p ∈ s, p.1.1 = n
  | [], n, h => by simp [dirsOf] at h
  | ((m, f), o) :: s, n, h => by
    simp only [dirsOf, List.mem_cons, List.mem_filter] at h
    rcases h with rfl | ⟨h, _⟩
    · exact ⟨_, List.mem_cons_self, rfl⟩
    · obtain ⟨p, hp, e⟩ := mem_dirsOf h
      exact ⟨p, List.mem_cons_of_mem _ hp, e⟩

theorem keysLocal_dirs {locals : List LBlock} {s : Bucket} (hk : KeysLocal locals s) {n : Nat}
    (hn : n ∈ dirsOf s) : ∃ b ∈ locals, b.id = n := by
  obtain ⟨p, hp, e⟩ := mem_dirsOf hn
  exact e ▸ hk p hp

def LocalRanges (locals : List LBlock) (rs : List (Int × Int)) : Prop :=
  ∀ r ∈ rs, ∃ b ∈ locals, (b.minT, b.maxT) = r

/-- as `overlapping`: no local block starts inside another; blocks with equal ranges are not compared
    (`tsdb.OverlappingBlocks` on distinct MinTimes) -/
def NoOverlap (locals : List LBlock) : Prop :=
  ∀ a ∈ locals, ∀ b ∈ locals, (a.minT, a.maxT) ≠ (b.minT, b.maxT) → ¬ (a.minT ≤ b.minT ∧ b.minT < a.maxT)

theorem not_overlapping_of_local {locals : List LBlock} (hno : NoOverlap locals) {rs : List (Int × Int)}
    (h : LocalRanges locals rs) : overlapping rs = false := by
  simp only [overlapping, List.any_eq_false, List.any_eq_true, decide_eq_true_eq, not_exists, not_and]
  intro a ha b hb hne
  obtain ⟨ba, hba, ea⟩ := h a ha
  obtain ⟨bb, hbb, eb⟩ := h b hb
  have := hno ba hba bb hbb (by rw [ea, eb]; exact hne)
  rw [← ea, ← eb]
  simpa using this

theorem rangeOf_local {locals : List LBlock} {n : Nat} (h : ∃ b ∈ locals, b.id = n) :
    ∃ r, rangeOf locals n = some r ∧ ∃ b ∈ locals, (b.minT, b.maxT) = r := by
  obtain ⟨b, hb, e⟩ := h
  unfold rangeOf
  cases hf : locals.find? (·.id = n) with
  | none =>
    have := List.find?_eq_none.mp hf b hb
    simp [e] at this
  | some b' => exact ⟨_, rfl, b', List.mem_of_find?_eq_some hf, rfl⟩

theorem collectRanges_some {locals : List LBlock} (s : Bucket) : ∀ (ns : List Nat),
    (∀ n ∈ ns, (get s (n, metaName)).isSome = true ∧ ∃ b ∈ locals, b.id = n) →
    ∃ rs, collectRanges locals s ns = some rs ∧ LocalRanges locals rs
  | [], _ => ⟨[], rfl, by intro r hr; simp at hr⟩
  | n :: ns, h => by
    obtain ⟨hm, hl⟩ := h n (by simp)
    obtain ⟨r, hr, hrl⟩ := rangeOf_local hl
    obtain ⟨rs, hrs, hrsl⟩ := collectRanges_some s ns (fun m hm' => h m (List.mem_cons_of_mem _ hm'))
    exact ⟨r :: rs, by simp [collectRanges, hm, hr, hrs], List.forall_mem_cons.mpr ⟨hrl, hrsl⟩⟩

/-- `skipPartial = true`: what the code does (`codeSkipPartial`) -/
theorem checkerSyncWith_some {locals : List LBlock} {s : Bucket} (hk : KeysLocal locals s) :
    ∃ rs, checkerSyncWith true locals s = some rs ∧ LocalRanges locals rs := by
  unfold checkerSyncWith
  apply collectRanges_some
  intro n hn
  simp only [Bool.not_true, Bool.false_or, List.mem_filter] at hn
  exact ⟨hn.2, keysLocal_dirs hk hn.1⟩

theorem checkerSyncL_some {locals : List LBlock} {s : Bucket} {lbl : List (Nat × Nat)} {cur : Nat}
    (hk : KeysLocal locals s) : ∃ rs, checkerSyncL locals s lbl cur = some rs ∧ LocalRanges locals rs := by
  obtain ⟨rs0, h0, _⟩ := checkerSyncWith_some hk
  unfold checkerSyncL
  simp only [codeSkipPartial, h0]
  apply collectRanges_some
  intro n hn
  simp only [Bool.not_true, Bool.false_or, List.mem_filter, Bool.and_eq_true] at hn
  exact ⟨hn.2.1, keysLocal_dirs hk hn.1⟩

/-- the two tests by which `stepBlock` skips a block -/
theorem eligible_iff (cfg : Cfg) (b : LBlock) :
    eligible cfg b = true ↔ ¬ b.samples = 0 ∧ ¬ (b.level > 1 ∧ cfg.uploadCompacted = false) := by
  cases hu : cfg.uploadCompacted <;> simp [eligible, hu]

theorem overlapCheck_off {cfg : Cfg} (hcfg : cfg.allowOOO = true ∨ cfg.uploadCompacted = false)
    (locals : List LBlock) {b : LBlock} (he : eligible cfg b = true) (a : Acc) :
    overlapCheck cfg locals b a = some (a.checker, a.fault) := by
  rw [overlapCheck, if_neg]
  rintro ⟨hl, ho⟩
  rcases hcfg with h | h
  · rw [h] at ho
    cases ho
  · exact ((eligible_iff cfg b).mp he).2 ⟨hl, h⟩

theorem overlapCheck_passes {locals : List LBlock} (hno : NoOverlap locals) (cfg : Cfg) {b : LBlock}
    (hb : b ∈ locals) {a : Acc} (hf : a.fault = Fault.none) (hk : KeysLocal locals a.bkt)
    (hchk : ∀ ms, a.checker = some ms → LocalRanges locals ms) :
    ∃ c', overlapCheck cfg locals b a = some (c', Fault.none) ∧ ∀ ms, c' = some ms → LocalRanges locals ms := by
  have cons : ∀ ms, LocalRanges locals ms → overlapping ((b.minT, b.maxT) :: ms) = false :=
    fun ms hms => not_overlapping_of_local hno (List.forall_mem_cons.mpr ⟨⟨b, hb, rfl⟩, hms⟩)
  obtain ⟨rs, hrs, hl⟩ := checkerSyncL_some (lbl := a.lbl) (cur := labelNow cfg a.trace.length) hk
  -- the cases of `overlapCheck`: checker synced, overlap / none; not synced, a read of its lazy sync fails /
  -- the sync has no answer / overlap / none; check not run
  fun_cases overlapCheck cfg locals b a
  next ms hc ho => cases (cons ms (hchk ms hc)).symm.trans ho
  next ms hc _ => exact ⟨_, by rw [hf], fun ms' e => by cases e; exact hchk ms hc⟩
  next hp =>
    rw [hf] at hp
    cases hp
  next hs => cases hs.symm.trans hrs
  next ms hs ho =>
    cases hs.symm.trans hrs
    cases (cons rs hl).symm.trans ho
  next f' hp ms hs _ =>
    cases hs.symm.trans hrs
    rw [hf] at hp
    cases hp
    exact ⟨_, rfl, fun ms' e => by cases e; exact hl⟩
  · exact ⟨a.checker, by rw [hf], hchk⟩

end Thanos.Shipper
