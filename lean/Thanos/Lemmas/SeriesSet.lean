import Thanos.Model.ReadPath
/-
  Which series form one logical series (Model/ReadPath.lean), by label set alone.  `groupAdj` (`dedupSeriesSet.next`)
  joins neighbours with equal label sets: written out again the groups are the input (`groupAdj_flatten`), and
  neighbouring groups differ (`groupAdj_adjDistinct`), hence all groups when the input is sorted
  (`AdjDistinct.pairwise`).  `groupCopiesF` (the querier over the stores' copies) makes one group per label set and,
  with fuel `cs.length`, leaves no copy out (`groupCopiesF_spec`, `groupCopiesF_complete`);
  `extendLabels` adds no label of its own (`mem_extendLabels`).  Read by Props/C01.lean and Props/C04.lean.
-/
namespace Thanos.Dedup

/-- **nothing is lost, nothing moves**: writing the groups out again, replica by replica, gives
    back the input series in their order — every input series is a replica of exactly one output
    series, the one of its own label set -/
theorem groupAdj_flatten : ∀ (l : List (List Lbl × List Sample)),
    (groupAdj l).flatMap (fun g => g.2.map fun r => (g.1, r)) = l := by
  intro l
  -- case1: no series; case2: the head joins the first group of the rest (same labels); case3: it opens a group in
  -- front of it; case4: the rest gave no group
  fun_induction groupAdj l with
  | case1 => rfl
  | case2 sm rest ls reps gs hr ih =>
    rw [hr] at ih
    rw [← ih]
    rfl
  | case3 ls sm rest ls' reps gs hr _ ih =>
    rw [hr] at ih
    rw [← ih]
    rfl
  | case4 ls sm rest hr ih =>
    rw [hr] at ih
    rw [← ih]
    rfl

/-- every group is non-empty, and holds input series of exactly its label set (the latter because
    the groups written out again are the input) -/
theorem groupAdj_mem (l : List (List Lbl × List Sample)) (g : List Lbl × List (List Sample))
    (hg : g ∈ groupAdj l) : g.2 ≠ [] ∧ ∀ r ∈ g.2, (g.1, r) ∈ l := by
  refine ⟨?_, fun r hr => ?_⟩
  · -- every step of `groupAdj` puts a non-empty group in front of groups of the rest
    revert g
    fun_induction groupAdj l with
    | case1 => exact fun _ h => nomatch h
    | case2 sm rest ls reps gs hr ih =>
      exact List.forall_mem_cons.mpr ⟨List.cons_ne_nil _ _, (List.forall_mem_cons.mp (hr ▸ ih)).2⟩
    | case3 ls sm rest ls' reps gs hr _ ih =>
      exact List.forall_mem_cons.mpr ⟨List.cons_ne_nil _ _, hr ▸ ih⟩
    | case4 => exact List.forall_mem_cons.mpr ⟨List.cons_ne_nil _ _, fun _ h => nomatch h⟩
  · rw [← groupAdj_flatten l]
    exact List.mem_flatMap.mpr ⟨g, hg, List.mem_map.mpr ⟨r, hr, rfl⟩⟩

def AdjDistinct : List (List Lbl × List (List Sample)) → Prop
  | a :: b :: rest => a.1 ≠ b.1 ∧ AdjDistinct (b :: rest)
  | _ => True

/-- sorted by an antisymmetric order, label sets that differ from their neighbours differ from all others (`a ≤ b ≤ x`
    and `a = x` force `a = b`) -/
theorem AdjDistinct.pairwise {le : List Lbl → List Lbl → Prop} (antisymm : ∀ a b, le a b → le b a → a = b)
    {gs : List (List Lbl × List (List Sample))} (hs : (gs.map (·.1)).Pairwise le) (hadj : AdjDistinct gs) :
    gs.Pairwise (fun a b => a.1 ≠ b.1) := by
  induction gs with
  | nil => exact List.Pairwise.nil
  | cons a t ih =>
    obtain ⟨ha, ht⟩ := List.pairwise_cons.mp hs
    cases t with
    | nil => exact List.pairwise_singleton _ _
    | cons b t' =>
      refine List.pairwise_cons.mpr ⟨fun x hx heq => ?_, ih ht hadj.2⟩
      rcases List.mem_cons.mp hx with rfl | hx
      · exact hadj.1 heq
      · have h2 := (List.pairwise_cons.mp ht).1 x.1 (List.mem_map_of_mem hx)
        exact hadj.1 (antisymm _ _ (ha _ List.mem_cons_self) (heq ▸ h2))

theorem groupAdj_adjDistinct : ∀ (l : List (List Lbl × List Sample)), AdjDistinct (groupAdj l) := by
  intro l
  fun_induction groupAdj l with
  | case1 => trivial
  | case2 sm rest ls reps gs hr ih =>
    rw [hr] at ih
    cases gs with
    | nil => trivial
    | cons g1 gs' => exact ih
  | case3 ls sm rest ls' reps gs hr hne ih => exact ⟨hne, hr ▸ ih⟩
  | case4 => trivial

theorem groupAdj_labels_sublist : ∀ (l : List (List Lbl × List Sample)),
    ((groupAdj l).map (·.1)).Sublist (l.map (·.1)) := by
  intro l
  fun_induction groupAdj l with
  | case1 => exact List.Sublist.slnil
  | case2 sm rest ls reps gs hr ih =>
    rw [hr] at ih
    exact List.Sublist.cons _ ih
  | case3 ls sm rest ls' reps gs hr _ ih =>
    rw [hr] at ih
    exact List.Sublist.cons_cons _ ih
  | case4 => exact List.Sublist.cons_cons _ (List.nil_sublist _)

theorem mem_insertLbl {x l : Lbl} {acc : List Lbl} : x ∈ insertLbl l acc → x = l ∨ x ∈ acc := by
  -- case1: empty; case2: `l` goes before the head `m`; case3: it replaces `m` (same name); case4: it goes further in
  fun_induction insertLbl l acc with
  | case1 => exact fun h => Or.inl (List.mem_singleton.mp h)
  | case2 => exact List.mem_cons.mp
  | case3 => exact fun h => (List.mem_cons.mp h).imp_right (List.mem_cons_of_mem _)
  | case4 m ms _ _ ih =>
    intro h
    rcases List.mem_cons.mp h with h | h
    · exact Or.inr (h ▸ List.mem_cons_self)
    · exact (ih h).imp_right (List.mem_cons_of_mem _)

theorem mem_foldl_insertLbl {x : Lbl} {ls acc : List Lbl}
    (h : x ∈ ls.foldl (fun acc l => insertLbl l acc) acc) : x ∈ ls ∨ x ∈ acc := by
  induction ls generalizing acc with
  | nil => exact Or.inr h
  | cons l ls ih =>
    rcases ih h with h | h
    · exact Or.inl (List.mem_cons_of_mem _ h)
    · rcases mem_insertLbl h with h | h
      · exact Or.inl (by rw [h]; exact List.mem_cons_self)
      · exact Or.inr h

theorem mem_extendLabels {x : Lbl} {ser ext : List Lbl} (h : x ∈ extendLabels ser ext) :
    x ∈ ser ∨ x ∈ ext := by
  unfold extendLabels at h
  rcases mem_foldl_insertLbl h with h | h
  · exact Or.inr h
  · rcases mem_foldl_insertLbl h with h | h
    · exact Or.inl h
    · cases h

theorem groupCopiesF_spec (n : Nat) (cs : List (List Lbl × Nat × List (List Sample))) :
    (∀ g ∈ groupCopiesF n cs, ∃ c ∈ cs, c.1 = g.1) ∧ (groupCopiesF n cs).Pairwise (fun a b => a.1 ≠ b.1) := by
  -- case1: out of fuel; case2: no copy left; case3: the first copy and the `same`-labelled ones form a group
  fun_induction groupCopiesF n cs with
  | case1 => exact ⟨nofun, List.Pairwise.nil⟩
  | case2 => exact ⟨nofun, List.Pairwise.nil⟩
  | case3 n ls i sm rest same other ih =>
    obtain ⟨i1, i2⟩ := ih
    refine ⟨?_, List.Pairwise.cons ?_ i2⟩
    · intro g hg
      rcases List.mem_cons.mp hg with hg | hg
      · exact ⟨(ls, i, sm), List.mem_cons_self, by rw [hg]⟩
      · obtain ⟨c, hc, hc2⟩ := i1 g hg
        exact ⟨c, List.mem_cons_of_mem _ (List.mem_filter.mp hc).1, hc2⟩
    · intro g hg heq
      obtain ⟨c, hc, hc2⟩ := i1 g hg
      have := (List.mem_filter.mp hc).2
      simp only [] at heq
      rw [hc2, ← heq] at this
      simp at this

/-- the fuel `cs.length` suffices: every copy lands in a group -/
theorem groupCopiesF_complete : ∀ (n : Nat) (cs : List (List Lbl × Nat × List (List Sample))), cs.length ≤ n →
    ∀ c ∈ cs, ∃ g ∈ groupCopiesF n cs, g.1 = c.1 := by
  intro n cs
  fun_induction groupCopiesF n cs with
  | case1 cs =>
    intro h c hc
    rw [List.eq_nil_of_length_eq_zero (Nat.le_zero.mp h)] at hc
    cases hc
  | case2 => exact fun _ _ hc => nomatch hc
  | case3 n ls i sm rest same other ih =>
    intro h c hc
    by_cases heq : c.1 = ls
    · exact ⟨_, List.mem_cons_self, heq.symm⟩
    · have hc' : c ∈ rest := by
        rcases List.mem_cons.mp hc with h1 | h1
        · rw [h1] at heq; exact absurd rfl heq
        · exact h1
      obtain ⟨g, hg, hg2⟩ := ih (Nat.le_trans (List.length_filter_le _ _) (Nat.le_of_succ_le_succ h)) c
        (List.mem_filter.mpr ⟨hc', by simp [heq]⟩)
      exact ⟨g, List.mem_cons_of_mem _ hg, hg2⟩

end Thanos.Dedup
