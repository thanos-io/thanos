/-
  Insertion into an ordered list, once (`ins`, with `ins_perm`, `mem_ins`, `ins_pairwise`), and the insertion sort
  that folds it over a list (`sort_perm`, `sort_pairwise`).  The order-keeping insertions of the models (block sets,
  label sets, keys, metas, names, chunks, row chunks, sub-responses, planner metas, Go's in-place insertion sort of the
  proxy) are `ins` for their own "goes before" test; each equation `…_eq_ins` stands next to its user.  Not bridged:
  `Postings.insertGroup` and `CacheKey.insertS` (each has one fact, shorter by its own recursion); the insertions that
  merge equal keys (`StoreSpec.insertNat`, `insertEntry`, `CompactProto.insertSrc`) are not `ins`.
-/
namespace Thanos.OrderedInsert

variable {α : Type}

def ins (before : α → α → Prop) [DecidableRel before] (x : α) : List α → List α
  | [] => [x]
  | y :: ys => if before x y then x :: y :: ys else y :: ins before x ys

variable {before : α → α → Prop} [DecidableRel before]

theorem ins_perm (x : α) : ∀ l : List α, (ins before x l).Perm (x :: l)
  | [] => .refl _
  | y :: ys => by
    unfold ins
    split
    · exact .refl _
    · exact ((ins_perm x ys).cons y).trans (.swap x y ys)

theorem mem_ins {x y : α} {l : List α} : y ∈ ins before x l ↔ y = x ∨ y ∈ l :=
  (ins_perm x l).mem_iff.trans List.mem_cons

theorem ins_pairwise {R : α → α → Prop} (trans : ∀ a b c, R a b → R b c → R a c) (x : α) :
    ∀ l : List α, l.Pairwise R → (∀ y ∈ l, before x y → R x y) → (∀ y ∈ l, ¬ before x y → R y x) →
      (ins before x l).Pairwise R
  | [], _, _, _ => List.pairwise_singleton R x
  | y :: ys, h, hlo, hhi => by
    have hy := List.pairwise_cons.mp h
    unfold ins
    split
    next hb =>
      have hxy := hlo y List.mem_cons_self hb
      exact List.pairwise_cons.mpr ⟨fun a ha => (List.mem_cons.mp ha).elim (· ▸ hxy) (fun ha => trans _ _ _ hxy (hy.1 a ha)), h⟩
    next hb =>
      refine List.pairwise_cons.mpr ⟨fun a ha => ?_, ins_pairwise trans x ys hy.2
        (fun a ha => hlo a (List.mem_cons_of_mem _ ha)) (fun a ha => hhi a (List.mem_cons_of_mem _ ha))⟩
      rcases mem_ins.mp ha with rfl | ha
      · exact hhi y List.mem_cons_self hb
      · exact hy.1 a ha

/-- Insertion sort: a model's `sort l = l.foldr insert []`, for an `insert` that is `ins before`. -/
theorem sort_perm {f : α → List α → List α} (hf : ∀ x l, f x l = ins before x l) :
    ∀ l : List α, (l.foldr f []).Perm l
  | [] => .refl _
  | x :: xs => by
    rw [List.foldr_cons, hf]
    exact (ins_perm x _).trans ((sort_perm hf xs).cons x)

theorem sort_pairwise {f : α → List α → List α} (hf : ∀ x l, f x l = ins before x l) {R : α → α → Prop}
    (trans : ∀ a b c, R a b → R b c → R a c) :
    ∀ l : List α, l.Pairwise (fun x y => (before x y → R x y) ∧ (¬ before x y → R y x)) → (l.foldr f []).Pairwise R
  | [], _ => .nil
  | x :: xs, h => by
    have hx := List.pairwise_cons.mp h
    have mem {y : α} (hy : y ∈ xs.foldr f []) : y ∈ xs := (sort_perm hf xs).mem_iff.mp hy
    rw [List.foldr_cons, hf]
    exact ins_pairwise trans x _ (sort_pairwise hf trans xs hx.2) (fun y hy => (hx.1 y (mem hy)).1)
      fun y hy => (hx.1 y (mem hy)).2

end Thanos.OrderedInsert
