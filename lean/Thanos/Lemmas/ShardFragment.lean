import Thanos.Lemmas.ShardEval
import Thanos.Lemmas.ShardAnalyze
/-
  For C44: the fragment `FExpr`, with the syntax the analyzer sees (`toExpr`) and the semantics the
  engine gives it (`toV`).  Every node condition of `Compat` for the stores' shard function says that
  dropping or adding labels that are not hashed keeps the projection (`sh_filter`, `sh_append`).
  `bridge` goes through the fragment once: the clause of `Expr.OK` for a node's syntax is why the node's
  semantics is compatible (the images of the fragment are instant vectors, `isScalar_toExpr`, so vector
  matching is kept and scoped to).
-/
namespace Thanos.Sharding

/-- the fragment of PromQL that C44 covers: a constructor carries what the analyzer sees of the node (names, label lists,
    literal texts) and the functions the engine applies at it (`p`, `f`, `keep`, `ts`, `v`) -/
inductive FExpr where
  | sel (text : String) (p : Labels → Bool)
  | fn (name : String) (drop : Bool) (f : Int → Option Int) (e : FExpr)
  | aggBy (op : String) (L : List String) (f : List Int → Int) (e : FExpr)
  | aggWithout (op : String) (L : List String) (f : List Int → Int) (e : FExpr)
  /-- `l op on(L) r` / `l op ignoring(L) r`, one-to-one: `arith = true` for arithmetic (the
      result carries the matching labels only), `false` for comparison filters, `and`, `unless`
      (the left series is kept as it is); `f lv rv?` is the result value, `none` = dropped -/
  | bin (op : String) (on : Bool) (L : List String) (arith : Bool) (f : Int → Option Int → Option Int) (l r : FExpr)
  /-- `l or on(L) r` / `l or ignoring(L) r` -/
  | or_ (on : Bool) (L : List String) (l r : FExpr)
  /-- many-to-one arithmetic `many op on/ignoring(L) group_left(inc) one` (`manyLeft = true`) or
      `one op on/ignoring(L) group_right(inc) many` (`false`): every series of the "many" side is
      combined with the series of the "one" side that has the same signature; the result carries
      the many side's labels without the metric name, the `inc` labels taken from the one side -/
  | binMany (op : String) (on : Bool) (L inc : List String) (manyLeft : Bool) (f : Int → Int → Option Int)
      (many one : FExpr)
  /-- `topk` / `bottomk` / `limitk` `by (L)` (`by_ = true`) or `without (L)`: of every group the
      members selected by `keep` (which sees the whole group), with their own labels -/
  | aggSel (op : String) (by_ : Bool) (L : List String) (param : String) (keep : List Series → Series → Bool) (e : FExpr)
  /-- `count_values by/without (L) ("dst", e)`: one series per distinct value of a group, labelled
      with the group key and `dst = <value>` -/
  | countValues (by_ : Bool) (L : List String) (dst : String) (e : FExpr)
  /-- a range function over a matrix selector, `rate(m[5m])`, `max_over_time(m[1m])` …: for every
      series, a function `f` of its samples at the timestamps `ts t` of the window; the metric
      name is dropped when `drop` -/
  | rangeFn (name : String) (text rng : String) (p : Labels → Bool) (drop : Bool) (ts : Int → List Int)
      (f : List Series → Int)
  /-- a function over a subquery, `max_over_time((e)[1h:1m])`: the inner expression is evaluated
      at the timestamps `ts t`, then reduced per series -/
  | subq (name : String) (rng : String) (drop : Bool) (ts : Int → List Int) (f : List Series → Int) (e : FExpr)
  /-- `label_replace(e, dst, …)` / `label_join(e, dst, …)`: label `dst` is set to a value computed
      from the series' own labels (`none` = the label is removed); the other arguments are
      string literals -/
  | labelFn (name : String) (dst : String) (extra : List String) (v : Labels → Option String) (e : FExpr)
  /-- `histogram_quantile(φ, e)`: buckets grouped by every label but `le` (metric name dropped);
      `f` computes the quantile from the member series (their `le` labels and values) -/
  | histQ (phi : String) (f : List Series → Int) (e : FExpr)

/-- the matching signature of `on (L)` / `ignoring (L)` -/
def sigOf (on : Bool) (L : List String) : Labels → Labels := if on then keyBy L else keyWithout L

/-- what `bridge` needs of a term beyond its shape.  Function names are `plainFn`: the analyzer's `call` case falls
    through to the arguments, and the parser types the call as a vector (`isScalar_call`).  The operator of a plain or
    selecting aggregation is not `count_values`: that one has its own constructor, whose syntax carries the `dst`
    string.  The `inc` labels of a many-to-one match: see the comment at the clause. -/
def FExpr.WF : FExpr → Prop
  | .sel _ _ => True
  | .fn name _ _ e => plainFn name = true ∧ e.WF
  | .aggBy op _ _ e => op ≠ "count_values" ∧ e.WF
  | .aggWithout op _ _ e => op ≠ "count_values" ∧ e.WF
  | .bin _ _ _ _ _ l r => l.WF ∧ r.WF
  | .or_ _ _ l r => l.WF ∧ r.WF
  | .histQ _ _ e => e.WF
  | .labelFn name _ _ _ e => (name = "label_replace" ∨ name = "label_join") ∧ e.WF
  | .aggSel op _ _ _ _ e => op ≠ "count_values" ∧ e.WF
  | .countValues _ _ _ e => e.WF
  | .rangeFn name _ _ _ _ _ _ => plainFn name = true
  | .subq name _ _ _ _ e => plainFn name = true ∧ e.WF
  | .binMany _ on L inc _ _ many one =>
    -- the parser rejects a label in both `on` and `group_x`; with `ignoring` only labels of `L`
    -- can differ between the sides, so only those are meaningful to copy
    (if on then ∀ i ∈ inc, i ∉ L else ∀ i ∈ inc, i ∈ L) ∧ many.WF ∧ one.WF

/-- the syntax tree the analyzer is given -/
def FExpr.toExpr : FExpr → Expr
  | .sel t _ => .sel t
  | .fn name _ _ e => .call name [e.toExpr]
  | .aggBy op L _ e => .agg op .by_ L none e.toExpr
  | .aggWithout op L _ e => .agg op .without L none e.toExpr
  | .bin op on L _ _ l r => .bin op (if on then .on else .ignoring) L l.toExpr r.toExpr
  | .or_ on L l r => .bin "or" (if on then .on else .ignoring) L l.toExpr r.toExpr
  | .histQ phi _ e => .call "histogram_quantile" [.num phi, e.toExpr]
  | .labelFn name dst extra _ e => .call name (e.toExpr :: .str dst :: extra.map .str)
  | .aggSel op by_ L param _ e => .agg op (if by_ then .by_ else .without) L (some (.num param)) e.toExpr
  | .countValues by_ L dst e => .agg "count_values" (if by_ then .by_ else .without) L (some (.str dst)) e.toExpr
  | .rangeFn name text rng _ _ _ _ => .call name [.mat text rng]
  | .subq name rng _ _ _ e => .call name [.sub e.toExpr rng]
  | .binMany op on L _ manyLeft _ many one =>
    if manyLeft then .bin op (if on then .on else .ignoring) L many.toExpr one.toExpr
    else .bin op (if on then .on else .ignoring) L one.toExpr many.toExpr

/-- the semantics: the `VExpr` that `eval` runs -/
def FExpr.toV : FExpr → VExpr
  | .sel _ p => .sel p
  | .fn _ drop f e => .fn (fun l v => (f v).map fun v' => (if drop then dropName l else l, v')) e.toV
  | .aggBy _ L f e => .agg (keyBy L) (fun ms => f (ms.map (·.2))) e.toV
  | .aggWithout _ L f e => .agg (keyWithout L) (fun ms => f (ms.map (·.2))) e.toV
  | .bin _ on L arith f l r =>
    .binL (sigOf on L)
      (fun x ro => (f x.2 (ro.map (·.2))).map fun v => (if arith then sigOf on L x.1 else x.1, v)) l.toV r.toV
  | .or_ on L l r =>
    .append l.toV (.binL (sigOf on L) (fun x ro => match ro with | none => some x | some _ => none) r.toV l.toV)
  | .histQ _ f e => .agg (keyWithout ["le"]) f e.toV
  | .labelFn _ dst _ v e =>
    .fn (fun l x => some ((l.filter fun p => p.1 ≠ dst) ++ (match v l with | none => [] | some s => [(dst, s)]), x)) e.toV
  | .aggSel _ by_ L _ keep e =>
    .aggL (if by_ then keyBy L else keyWithout L) (fun _ ms => ms.filter (keep ms)) e.toV
  | .countValues by_ L dst e =>
    .aggL (if by_ then keyBy L else keyWithout L)
      (fun k ms => (nub (ms.map (·.2))).map fun v =>
        ((k.filter fun p => p.1 ≠ dst) ++ [(dst, toString v)], ((ms.filter fun m => m.2 = v).length : Int))) e.toV
  | .rangeFn _ _ _ p drop ts f => .overTime ts (if drop then dropName else id) f (.sel p)
  | .subq _ _ drop ts f e => .overTime ts (if drop then dropName else id) f e.toV
  | .binMany _ on L inc _ f many one =>
    .binL (sigOf on L)
      (fun x ro => ro.bind fun r => (f x.2 r.2).map fun v => (withInc inc (dropName x.1) r.1, v)) many.toV one.toV

/-- the shard index the stores compute for a series -/
def shReal (hash : Labels → Nat) (total : Nat) (K : List String) (by_ : Bool) (l : Labels) : Nat :=
  hash (projection K by_ l) % total

section
variable {hash : Labels → Nat} {total : Nat} {K L : List String} {by_ g : Bool}

theorem sh_filter {q : String × String → Bool} (hq : ∀ a, shardByLabel K a.1 by_ = true → q a = true) (l : Labels) :
    shReal hash total K by_ (l.filter q) = shReal hash total K by_ l :=
  congrArg (hash · % total) (filter_filter_of_imp _ _ l fun a _ => hq a)

theorem sh_append {r : Labels} (hr : ∀ a ∈ r, shardByLabel K a.1 by_ = false) (l : Labels) :
    shReal hash total K by_ (l ++ r) = shReal hash total K by_ l := by
  have : r.filter (fun a => shardByLabel K a.1 by_) = [] :=
    List.filter_eq_nil_iff.mpr fun a ha => by simp [hr a ha]
  simp [shReal, projection, this]

theorem sh_dropName (hN : shardByLabel K "__name__" by_ = false) (l : Labels) :
    shReal hash total K by_ (dropName l) = shReal hash total K by_ l :=
  sh_filter (fun a ha => by simpa using fun e => by rw [e, hN] at ha; cases ha) l

/-- `keyWithout` drops the metric name as well as `L` -/
theorem sh_sigOf (hN : shardByLabel K "__name__" by_ = false) (hk : Agrees K by_ L g) (l : Labels) :
    shReal hash total K by_ (sigOf g L l) = shReal hash total K by_ l := by
  cases g
  · exact sh_filter (fun a ha => by simpa using And.intro (by simpa using hk a.1 ha) fun e => by rw [e, hN] at ha; cases ha) l
  · exact sh_filter (fun a ha => by simpa using hk a.1 ha) l

theorem sh_of_sigOf_eq (hN : shardByLabel K "__name__" by_ = false) (hk : Agrees K by_ L g) {a b : Labels}
    (hab : sigOf g L a = sigOf g L b) : shReal hash total K by_ a = shReal hash total K by_ b := by
  rw [← sh_sigOf hN hk a, hab, sh_sigOf hN hk b]

theorem sh_setLabel {dst : String} (hdst : shardByLabel K dst by_ = false) (l nw : Labels)
    (hnw : ∀ x ∈ nw, x.1 = dst) :
    shReal hash total K by_ ((l.filter fun p => p.1 ≠ dst) ++ nw) = shReal hash total K by_ l := by
  rw [sh_append (fun a ha => by rw [hnw a ha, hdst])]
  exact sh_filter (fun a ha => by simpa using fun e => by rw [e, hdst] at ha; cases ha) l

theorem sh_withInc {inc : List String} (hi : ∀ i ∈ inc, shardByLabel K i by_ = false) (l r : Labels) :
    shReal hash total K by_ (withInc inc l r) = shReal hash total K by_ l := by
  unfold withInc
  rw [sh_append (fun a ha => hi a.1 (by simpa using (List.mem_filter.mp ha).2))]
  exact sh_filter (fun a ha => by simpa using fun hc => by rw [hi _ hc] at ha; cases ha) l

theorem sh_drop (hN : shardByLabel K "__name__" by_ = false) (drop : Bool) (l : Labels) :
    shReal hash total K by_ ((if drop then dropName else id) l) = shReal hash total K by_ l := by
  cases drop
  · rfl
  · exact sh_dropName hN l

theorem isScalar_toExpr (e : FExpr) (hw : e.WF) : isScalar e.toExpr = false := by
  induction e with
  | sel | aggBy | aggWithout | aggSel | countValues => rfl
  | bin _ _ _ _ _ l r ihl | or_ _ _ l r ihl => simp [FExpr.toExpr, isScalar, ihl hw.1]
  | fn | subq => exact isScalar_call hw.1 _
  | rangeFn => exact isScalar_call hw _
  | histQ => simp [FExpr.toExpr, isScalar]
  | labelFn => rcases hw.1 with h | h <;> simp [FExpr.toExpr, isScalar, h]
  | binMany _ _ _ _ manyLeft _ _ _ ihm iho => cases manyLeft <;> simp [FExpr.toExpr, isScalar, ihm hw.2.1, iho hw.2.2]

/-- `h` is the first conjunct of the `.bin` clause of `Expr.OK` at `(FExpr.bin/or_/binMany … on L …).toExpr` as it
    unfolds: read `if on then Match.on else Match.ignoring` for the `Match`.  `ignoring (L)` scopes to
    `L ++ ["__name__"]`, whence `Agrees … L on` in both cases. -/
theorem Agrees.bin {L : List String} {on : Bool} {l r : Expr} (hl : isScalar l = false) (hr : isScalar r = false)
    (h : (isScalar l || isScalar r) = false →
      Agrees K by_ (if ((if on then Match.on else Match.ignoring) == Match.on) = true then L else L ++ ["__name__"])
        ((if on then Match.on else Match.ignoring) == Match.on)) : Agrees K by_ L on := by
  have h := h (by rw [hl, hr]; rfl)
  cases on
  · exact fun n hn => by simpa using fun hm => (h n hn).mp (List.mem_append_left _ hm)
  · exact h

/-- `h` unfolds by definition to the clause of `OK` for the node's syntax: first what the callback does on
    the node, then the children (for a call, its argument list) -/
theorem bridge (hN : shardByLabel K "__name__" by_ = false) (e : FExpr) (hw : e.WF) (h : e.toExpr.OK K by_ true) :
    Compat (shReal hash total K by_) e.toV := by
  induction e with
  | sel => trivial
  | fn _ drop f e ih =>
    refine ⟨fun l v s hs => ?_, ih hw.2 h.2.2.1⟩
    obtain ⟨_, _, rfl⟩ := Option.map_eq_some_iff.mp hs
    cases drop
    · rfl
    · exact sh_dropName hN l
  | aggBy _ L _ e ih | aggWithout _ L _ e ih => exact ⟨sh_sigOf hN h.1, ih hw.2 h.2.2.1⟩
  | histQ _ _ e ih => exact ⟨sh_sigOf (g := false) hN (h.2.1 rfl), ih hw h.2.2.2.1⟩
  | bin _ on L arith f l r ihl ihr =>
    have hk := Agrees.bin (isScalar_toExpr l hw.1) (isScalar_toExpr r hw.2) h.1
    refine ⟨fun a b => sh_of_sigOf_eq hN hk, fun x ro s hs => ?_, ihl hw.1 h.2.1, ihr hw.2 h.2.2⟩
    obtain ⟨_, _, rfl⟩ := Option.map_eq_some_iff.mp hs
    cases arith
    · rfl
    · exact sh_sigOf hN hk x.1
  | or_ on L l r ihl ihr =>
    have hk := Agrees.bin (isScalar_toExpr l hw.1) (isScalar_toExpr r hw.2) h.1
    refine ⟨ihl hw.1 h.2.1, fun a b => sh_of_sigOf_eq hN hk, fun x ro s hs => ?_, ihr hw.2 h.2.2, ihl hw.1 h.2.1⟩
    cases ro with
    | none => cases hs; rfl
    | some _ => cases hs
  | labelFn _ dst _ v e ih =>
    obtain ⟨d, hd, hdst⟩ := h.1 hw.1.symm
    cases hd
    refine ⟨fun l x s hs => ?_, ih hw.2 h.2.2.1⟩
    cases hs
    refine sh_setLabel hdst l _ (fun y hy => ?_)
    cases hv : v l with
    | none => rw [hv] at hy; cases hy
    | some w => rw [hv] at hy; rw [List.mem_singleton.mp hy]
  | aggSel _ g L p keep e ih =>
    have hk := sh_sigOf (hash := hash) (total := total) (g := g) hN (by cases g <;> exact h.1)
    refine ⟨hk, fun k ms x hms hx => ?_, ih hw.2 h.2.2.1⟩
    rw [← hms x (List.mem_filter.mp hx).1]
    exact (hk x.1).symm
  | countValues g L dst e ih =>
    obtain ⟨d, hd, hdst⟩ := h.2.1 ⟨rfl, rfl⟩
    cases hd
    refine ⟨sh_sigOf (g := g) hN (by cases g <;> exact h.1), fun k ms x _ hx => ?_, ih hw h.2.2.1⟩
    obtain ⟨v, _, rfl⟩ := List.mem_map.mp hx
    exact sh_setLabel hdst k [(dst, toString v)] (fun y hy => by rw [List.mem_singleton.mp hy])
  | rangeFn _ t r _ drop _ _ => exact ⟨sh_drop hN drop, trivial⟩
  | subq _ rng drop _ _ e ih => exact ⟨sh_drop hN drop, ih hw.2 h.2.2.1⟩
  | binMany _ on L inc manyLeft f many one ihm iho =>
    have hm := isScalar_toExpr many hw.2.1
    have ho := isScalar_toExpr one hw.2.2
    have hk : Agrees K by_ L on := by
      cases manyLeft
      · exact Agrees.bin ho hm h.1
      · exact Agrees.bin hm ho h.1
    -- a label of `inc` is in (`ignoring`) or outside (`on`) `L`, a hashed one the other way round
    have hinc : ∀ i ∈ inc, shardByLabel K i by_ = false := fun i hi =>
      Bool.eq_false_iff.mpr fun hs => by
        have hL := hk i hs
        have hwf : if on then ∀ i ∈ inc, i ∉ L else ∀ i ∈ inc, i ∈ L := hw.1
        cases on
        · exact Bool.false_ne_true (hL.mp (hwf i hi))
        · exact hwf i hi (hL.mpr rfl)
    refine ⟨fun a b => sh_of_sigOf_eq hN hk, fun x ro s hs => ?_, ?_⟩
    · cases ro with
      | none => cases hs
      | some r =>
        obtain ⟨_, _, rfl⟩ := Option.map_eq_some_iff.mp hs
        exact (sh_withInc hinc _ _).trans (sh_dropName hN x.1)
    · cases manyLeft
      · exact ⟨ihm hw.2.1 h.2.2, iho hw.2.2 h.2.1⟩
      · exact ⟨ihm hw.2.1 h.2.1, iho hw.2.2 h.2.2⟩

theorem compat_of_analyze {e : FExpr} (hwf : e.WF) (ha : analyze e.toExpr = ⟨some K, by_⟩) (hname : NameSafe K by_) :
    Compat (shReal hash total K by_) e.toV :=
  bridge (not_hashed_name hname) e hwf (analyze_ok ha)

end

end Thanos.Sharding
