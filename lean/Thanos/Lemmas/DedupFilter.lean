import Thanos.Model.DedupFilter
import Thanos.Lemmas.ListFacts
import Thanos.Lemmas.OrderedInsert
/-
  The comparator of `filterGroup`'s sort is the lexicographic order of a four-place key (`key`, `less_iff`), so core's
  order on lists supplies transitivity, totality and antisymmetry; on blocks with distinct ULIDs equal keys mean equal
  blocks, so the sorted list does not depend on the listing order (`sort_unique`).
  `childLoop` deals every block either to the covering set or to the duplicates (`childLoop_spec`, `childLoop_perm`),
  so a block that one run of `filterGroup` hides is covered by one that run keeps (`filterGroup_spec`); `mem_dups` reads
  the hidden ids of a listing group by group.  Read by Props/C31.
-/
namespace Thanos.DedupFilter
open Thanos.OrderedInsert

theorem contains_iff (s1 s2 : List Nat) : contains s1 s2 = true ↔ ∀ a ∈ s2, a ∈ s1 := by
  simp [contains, List.all_eq_true]

/-- blocks of a listing have distinct ULIDs (they are keys of a Go map) -/
def DistinctIds (l : List Meta) : Prop := (l.map (·.id)).Nodup

theorem insertMeta_eq (a : Meta) (l : List Meta) : insertMeta a l = ins (fun a b => less a b = true) a l := by
  induction l with
  | nil => rfl
  | cons b bs ih => simp only [insertMeta, ins, ih]

theorem sortMetas_perm (l : List Meta) : (sortMetas l).Perm l := sort_perm insertMeta_eq l

theorem mem_sortMetas {l : List Meta} {m : Meta} : m ∈ sortMetas l ↔ m ∈ l :=
  (sortMetas_perm l).mem_iff

/-- what the comparator sorts by: source count and level descending, then the ULID (time, entropy) ascending -/
def key (a : Meta) : List Int := [-a.sources.length, -a.level, a.utime, a.uent]

theorem less_iff (a b : Meta) : less a b = true ↔ key a < key b := by
  simp only [key, List.cons_lt_cons_iff, List.lt_irrefl, and_false, or_false, Int.neg_lt_neg_iff, Int.neg_inj,
    Int.ofNat_lt, Int.natCast_inj]
  unfold less ulidLess
  by_cases h1 : a.sources.length = b.sources.length
  · rw [if_pos h1]
    by_cases h2 : a.level = b.level
    · simp only [h1, h2, Nat.lt_irrefl, false_or, true_and, ne_eq, not_true, if_false, decide_eq_true_eq]
    · simp only [h1, h2, Nat.lt_irrefl, false_or, true_and, false_and, or_false, ne_eq, not_false_eq_true, if_true,
        decide_eq_true_eq, gt_iff_lt]
  · simp only [h1, if_false, false_and, or_false, decide_eq_true_eq, gt_iff_lt]

/-- the non-strict order of the comparator: `a` may stand before `b` -/
def le (a b : Meta) : Prop := less b a = false

theorem le_iff (a b : Meta) : le a b ↔ key a ≤ key b := by
  rw [le, ← Bool.not_eq_true, less_iff, List.not_lt]

theorem le_of_less {a b : Meta} (h : less a b = true) : le a b :=
  (le_iff a b).mpr (List.le_of_lt ((less_iff a b).mp h))

theorem le_trans {a b c : Meta} (h1 : le a b) (h2 : le b c) : le a c :=
  (le_iff a c).mpr (List.le_trans ((le_iff a b).mp h1) ((le_iff b c).mp h2))

theorem sorted_sortMetas (l : List Meta) : (sortMetas l).Pairwise le :=
  sort_pairwise insertMeta_eq (R := le) (fun _ _ _ => le_trans) l
    (List.pairwise_of_forall fun _ _ => ⟨le_of_less, fun hb => Bool.eq_false_iff.mpr hb⟩)

/-- distinct ULIDs differ in time or in entropy: the protocol number of a ULID is determined by
    its (time, entropy) pair -/
def KeyInj (l : List Meta) : Prop :=
  ∀ a ∈ l, ∀ b ∈ l, a.utime = b.utime → a.uent = b.uent → a.id = b.id

/-- On blocks with distinct ULIDs — ordered by (time, entropy), as `ULID.Compare` does — the comparator is a
    total order: `sort.Slice` not being stable, and Go's map order, cannot matter. -/
theorem sort_unique {l l' : List Meta} (p : l.Perm l') (h : DistinctIds l) (hk : KeyInj l) :
    sortMetas l = sortMetas l' := by
  apply List.Perm.eq_of_pairwise (le := le) _ (sorted_sortMetas l) (sorted_sortMetas l')
    ((sortMetas_perm l).trans (p.trans (sortMetas_perm l').symm))
  intro a b ha hb h1 h2
  have ha' : a ∈ l := mem_sortMetas.mp ha
  have hb' : b ∈ l := p.mem_iff.mpr (mem_sortMetas.mp hb)
  apply inj_of_nodup_map h ha' hb'
  have e := List.le_antisymm ((le_iff a b).mp h1) ((le_iff b a).mp h2)
  simp only [key, List.cons.injEq, Int.natCast_inj] at e
  exact hk a ha' b hb' e.2.2.1 e.2.2.2.1

theorem childLoop_spec (l cov : List Meta) (dups : List Nat) :
    (∃ K, K.Sublist l ∧ (childLoop l cov dups).1 = cov ++ K) ∧
    ∀ d ∈ (childLoop l cov dups).2, d ∈ dups ∨
      ∃ c ∈ l, c.id = d ∧ ∃ p ∈ (childLoop l cov dups).1, contains p.sources c.sources = true := by
  -- the arms of `childLoop`: no block left; the block is covered by one kept before (a duplicate); it is kept
  fun_induction childLoop l cov dups with
  | case1 cov dups => exact ⟨⟨[], .slnil, (List.append_nil _).symm⟩, fun d hd => Or.inl hd⟩
  | case2 c rest cov dups hany ih =>
    obtain ⟨⟨K, hs, e⟩, h2⟩ := ih
    refine ⟨⟨K, hs.cons _, e⟩, fun d hd => ?_⟩
    rcases h2 d hd with h | ⟨c', hc', h⟩
    · rcases List.mem_append.mp h with h | h
      · exact Or.inl h
      · obtain ⟨p, hp, hc⟩ := List.any_eq_true.mp hany
        exact Or.inr ⟨c, List.mem_cons_self, (List.mem_singleton.mp h).symm, p, e ▸ List.mem_append_left _ hp, hc⟩
    · exact Or.inr ⟨c', List.mem_cons_of_mem _ hc', h⟩
  | case3 c rest cov dups hany ih =>
    obtain ⟨⟨K, hs, e⟩, h2⟩ := ih
    refine ⟨⟨c :: K, hs.cons_cons _, e.trans (List.append_assoc ..)⟩, fun d hd => ?_⟩
    exact (h2 d hd).imp_right fun ⟨c', hc', h⟩ => ⟨c', List.mem_cons_of_mem _ hc', h⟩

theorem childLoop_perm (l cov : List Meta) (dups : List Nat) :
    ((childLoop l cov dups).1.map (·.id) ++ (childLoop l cov dups).2).Perm
      (cov.map (·.id) ++ dups ++ l.map (·.id)) := by
  fun_induction childLoop l cov dups with
  | case1 cov dups => simp
  | case2 c rest cov dups hany ih => simpa using ih
  | case3 c rest cov dups hany ih =>
    refine ih.trans ?_
    simp only [List.map_append, List.map_cons, List.map_nil, List.append_assoc, List.singleton_append]
    exact List.perm_middle.symm.append_left _

theorem mem_groupMetas {metas : List Meta} {g : Nat} {m : Meta} :
    m ∈ groupMetas metas g ↔ m ∈ metas ∧ m.group = g := by
  simp [groupMetas]

theorem distinct_groupMetas {metas : List Meta} (h : DistinctIds metas) (g : Nat) :
    DistinctIds (groupMetas metas g) := by
  unfold DistinctIds groupMetas at *
  exact h.sublist ((List.filter_sublist (l := metas)).map _)

theorem mem_groupsOf : ∀ {metas : List Meta} {g : Nat}, g ∈ groupsOf metas ↔ ∃ m ∈ metas, m.group = g
  | [], g => by simp [groupsOf]
  | m :: ms, g => by
    simp only [groupsOf, List.mem_cons, List.mem_filter, mem_groupsOf (metas := ms), decide_eq_true_eq,
      exists_eq_or_imp, ne_eq, eq_comm (a := g)]
    by_cases hg : m.group = g <;> simp [hg]

/-- One run of `filterGroup` on blocks with distinct ULIDs: a hidden id belongs to a block of the group that a *kept*
    block of the group covers.  `childLoop_spec` finds the covering block in the covering set; `childLoop_perm` makes
    covering set and duplicates disjoint.  `C31_hidden_covered` is this over the groups of a listing. -/
theorem filterGroup_spec {g : List Meta} (hd : DistinctIds g) (d : Nat) (hdm : d ∈ (filterGroup g).2) :
    ∃ c ∈ g, c.id = d ∧ ∃ p ∈ g, p.id ∉ (filterGroup g).2 ∧ ∀ a ∈ c.sources, a ∈ p.sources := by
  obtain ⟨⟨K, hs, e⟩, h2⟩ := childLoop_spec (sortMetas g) [] []
  rw [List.nil_append] at e
  have hdis : ((filterGroup g).1.map (·.id) ++ (filterGroup g).2).Nodup :=
    (childLoop_perm (sortMetas g) [] []).symm.nodup (((sortMetas_perm g).symm.map _).nodup hd)
  rcases h2 d hdm with h | ⟨c, hc, e', p, hp, hcon⟩
  · cases h
  · exact ⟨c, mem_sortMetas.mp hc, e', p, mem_sortMetas.mp (hs.subset (e ▸ hp)),
      fun hpd => (List.nodup_append.mp hdis).2.2 _ (List.mem_map_of_mem hp) _ hpd rfl, (contains_iff _ _).mp hcon⟩

theorem mem_dups {metas : List Meta} {d : Nat} :
    d ∈ dups metas ↔ ∃ g, (∃ m ∈ metas, m.group = g) ∧ d ∈ (filterGroup (groupMetas metas g)).2 := by
  simp only [dups, dupsIn, List.mem_flatMap, mem_groupsOf]

theorem dup_in_group {metas : List Meta} (hd : DistinctIds metas) {g d : Nat}
    (h : d ∈ (filterGroup (groupMetas metas g)).2) : ∃ c ∈ metas, c.group = g ∧ c.id = d := by
  obtain ⟨c, hc, e, _⟩ := filterGroup_spec (distinct_groupMetas hd g) d h
  exact ⟨c, (mem_groupMetas.mp hc).1, (mem_groupMetas.mp hc).2, e⟩

/-- a block is hidden by the run of its own group or by none -/
theorem mem_dups_iff_group {metas : List Meta} (hd : DistinctIds metas) {m : Meta} (hm : m ∈ metas) :
    m.id ∈ dups metas ↔ m.id ∈ (filterGroup (groupMetas metas m.group)).2 := by
  refine ⟨fun h => ?_, fun h => mem_dups.mpr ⟨_, ⟨m, hm, rfl⟩, h⟩⟩
  obtain ⟨g, _, hdg⟩ := mem_dups.mp h
  obtain ⟨c, hc, rfl, e⟩ := dup_in_group hd hdg
  cases inj_of_nodup_map hd hc hm e
  exact hdg

end Thanos.DedupFilter
