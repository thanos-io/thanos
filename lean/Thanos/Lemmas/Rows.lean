import Thanos.Model.ReadPath
import Thanos.Lemmas.Window
/-
  C04, the rows of the querier as lists, no iterator yet.  `overlapSplit` (dedup.NewOverlapSplit) partitions the chunks
  into rows without overlaps (`overlapSplit_partition`).  `unionFrom last cs` is what `chunkSeriesIterator` will be shown
  to yield over a row (Lemmas/ReadPath.lean): from every chunk the samples after the last one yielded; it is a
  time-sorted sub-sequence of the row, commutes with `Seek` (`dropLt_unionFrom`), and on a row without overlaps (what
  `overlapSplit` produces) it is the concatenation (`unionFrom_disjoint`).
-/
namespace Thanos.Dedup

def RowOK : List RChunk → Prop
  | a :: b :: r => a.maxt < b.mint ∧ RowOK (b :: r)
  | _ => True

/-- does the chunk go to the end of this row? (`len == 0 || last.MaxTime < currMinTime`) -/
def fits (row : List RChunk) (c : RChunk) : Bool :=
  match row.getLast? with
  | none => true
  | some l => decide (l.maxt < c.mint)

theorem splitInsert_cons (c : RChunk) (row : List RChunk) (rows : List (List RChunk)) :
    splitInsert c (row :: rows) =
      if fits row c then (row ++ [c]) :: rows else row :: splitInsert c rows := by
  cases h : row.getLast? <;> simp [splitInsert, fits, h]

theorem rowOK_append {row : List RChunk} {c : RChunk} (h : RowOK row) (hf : fits row c = true) :
    RowOK (row ++ [c]) := by
  induction row with
  | nil => trivial
  | cons a row ih =>
    cases row with
    | nil => exact ⟨of_decide_eq_true hf, trivial⟩
    | cons b r => exact ⟨h.1, ih h.2 (by rwa [fits, List.getLast?_cons_cons] at hf)⟩

theorem splitInsert_spec (c : RChunk) (rows : List (List RChunk)) (h : ∀ row ∈ rows, RowOK row ∧ row ≠ []) :
    (∀ row ∈ splitInsert c rows, RowOK row ∧ row ≠ []) ∧
    (splitInsert c rows).flatten.Perm (c :: rows.flatten) := by
  induction rows with
  | nil => exact ⟨fun row hr => by cases List.mem_singleton.mp hr; exact ⟨trivial, List.cons_ne_nil _ _⟩,
      List.Perm.refl _⟩
  | cons row rows ih =>
    obtain ⟨hrow, hrest⟩ := List.forall_mem_cons.mp h
    rw [splitInsert_cons]
    by_cases hf : fits row c = true
    · rw [if_pos hf, List.flatten_cons, List.flatten_cons, List.append_assoc]
      exact ⟨List.forall_mem_cons.mpr ⟨⟨rowOK_append hrow.1 hf,
        List.append_ne_nil_of_right_ne_nil _ (List.cons_ne_nil _ _)⟩, hrest⟩, List.perm_middle⟩
    · obtain ⟨i1, i2⟩ := ih hrest
      rw [if_neg hf, List.flatten_cons, List.flatten_cons]
      exact ⟨List.forall_mem_cons.mpr ⟨hrow, i1⟩, (List.Perm.append_left row i2).trans List.perm_middle⟩

/-- the rows are the querier's "virtual replicas" -/
theorem overlapSplit_partition (cs : List RChunk) :
    (∀ row ∈ overlapSplit cs, RowOK row ∧ row ≠ []) ∧ (overlapSplit cs).flatten.Perm cs := by
  -- the rows stay well-formed and hold the chunks read so far (collected in reverse)
  have := List.foldl_rel (l := cs) (f := fun rows c => splitInsert c rows) (g := fun acc c => c :: acc)
    (r := fun rows acc => (∀ row ∈ rows, RowOK row ∧ row ≠ []) ∧ rows.flatten.Perm acc) (a := []) (b := [])
    ⟨nofun, List.Perm.refl _⟩ fun c _ rows acc ⟨h1, h2⟩ =>
      let ⟨s1, s2⟩ := splitInsert_spec c rows h1
      ⟨s1, s2.trans (h2.cons c)⟩
  rw [List.foldl_flip_cons_eq_append', List.append_nil] at this
  exact ⟨this.1, this.2.trans (List.reverse_perm cs)⟩

theorem overlapSplit_ne_nil {cs : List RChunk} (hne : cs ≠ []) : overlapSplit cs ≠ [] := fun h => by
  have hperm := (overlapSplit_partition cs).2
  rw [h] at hperm
  exact hne hperm.symm.eq_nil

/-- timestamp of the last sample of the non-empty list `x :: r` -/
def lastOf (x : Sample) (r : List Sample) : Int := (r.getLast?.getD x).t

/-- what the iterator still yields from the later chunks `cs` when the last sample it has
    yielded has timestamp `last`: from every chunk the samples after `last` ("skip any
    overlapping range between adjacent chunks") -/
def unionFrom (last : Int) : List (List Sample) → List Sample
  | [] => []
  | c :: cs =>
    match dropLt (last + 1) c with
    | [] => unionFrom last cs
    | x :: r => (x :: r) ++ unionFrom (lastOf x r) cs

theorem unionFrom_cons_nil {l : Int} {c : List Sample} {cs : List (List Sample)}
    (h : dropLt (l + 1) c = []) : unionFrom l (c :: cs) = unionFrom l cs := by
  simp only [unionFrom, h]

theorem unionFrom_cons_cons {l : Int} {c : List Sample} {cs : List (List Sample)} {x : Sample}
    {r : List Sample} (h : dropLt (l + 1) c = x :: r) :
    unionFrom l (c :: cs) = (x :: r) ++ unionFrom (lastOf x r) cs := by
  simp only [unionFrom, h]

/-- `lastOf x r` is the timestamp of this element of `x :: r` -/
theorem lastOf_mem (x : Sample) (r : List Sample) : r.getLast?.getD x ∈ x :: r :=
  List.mem_of_getLast? List.getLast?_cons

theorem lastOf_cons (a x : Sample) (r : List Sample) : lastOf a (x :: r) = lastOf x r := by
  unfold lastOf
  rw [List.getLast?_cons]
  rfl

theorem le_lastOf {x : Sample} {r : List Sample} (h : SSorted (x :: r)) : ∀ a ∈ x :: r, a.t ≤ lastOf x r :=
  fun a ha => (ssorted_bounds h rfl List.getLast?_cons a ha).2

theorem lastOf_suffix {x y : Sample} {r q : List Sample} (h : (y :: q) <:+ (x :: r)) :
    lastOf y q = lastOf x r := by
  obtain ⟨p, hp⟩ := h
  have := congrArg List.getLast? hp
  rw [List.getLast?_append, List.getLast?_cons, List.getLast?_cons] at this
  exact congrArg Sample.t (Option.some.inj this)

theorem dropLt_unionFrom {l' : Int} {cs : List (List Sample)} {l : Int} (h : l' ≤ l) :
    dropLt (l + 1) (unionFrom l' cs) = unionFrom l cs := by
  -- case1: no chunk left; case2: nothing of `c` lies after `l'`; case3: `x :: r` is what of `c` lies after `l'`
  fun_induction unionFrom l' cs with
  | case1 => rfl
  | case2 l' c cs hc ih =>
    rw [ih h, unionFrom_cons_nil (dropLt_eq_nil_iff.mpr fun z hz => by have := dropLt_eq_nil_iff.mp hc z hz; omega)]
  | case3 l' c cs x r hc ih =>
    -- the part of `c` after `l'` is sought like any chunk, and holds all of `c` after `l`
    have hdd : dropLt (l + 1) (x :: r) = dropLt (l + 1) c := by
      rw [← hc, dropLt_dropLt, if_pos (by omega)]
    rw [dropLt_append, hdd]
    cases hd : dropLt (l + 1) c with
    | nil =>
      rw [unionFrom_cons_nil hd, List.isEmpty_nil, if_pos rfl]
      exact ih (Int.le_of_lt_add_one (dropLt_eq_nil_iff.mp (hdd ▸ hd) _ (lastOf_mem x r)))
    | cons y q =>
      rw [unionFrom_cons_cons hd, List.isEmpty_cons, if_neg Bool.false_ne_true,
        lastOf_suffix (y := y) (q := q) (hd ▸ hdd ▸ dropLt_suffix _ _)]

/-- `A ++ (what follows A)` sought to `l + 1` is the row `A :: cs` from `l` on: the left side is
    the row from any point before both `l` and `A` -/
theorem dropLt_chunk_union {x : Sample} {r : List Sample} {l : Int} (cs : List (List Sample)) :
    dropLt (l + 1) ((x :: r) ++ unionFrom (lastOf x r) cs) = unionFrom l ((x :: r) :: cs) := by
  rw [← unionFrom_cons_cons (l := min l (x.t - 1)) (dropLt_cons_ge (by omega)),
    dropLt_unionFrom (Int.min_le_left _ _)]

theorem unionFrom_sublist (l : Int) (cs : List (List Sample)) : (unionFrom l cs).Sublist cs.flatten := by
  fun_induction unionFrom l cs with
  | case1 => exact List.Sublist.refl _
  | case2 l c cs hc ih => exact List.sublist_append_of_sublist_right ih
  | case3 l c cs x r hc ih => exact (hc ▸ dropLt_sublist _ c).append ih

theorem mem_unionFrom {l : Int} {cs : List (List Sample)} {z : Sample} (h : z ∈ unionFrom l cs) :
    ∃ c ∈ cs, z ∈ c :=
  List.mem_flatten.mp ((unionFrom_sublist l cs).subset h)

theorem unionFrom_length_le (l : Int) (cs : List (List Sample)) :
    (unionFrom l cs).length ≤ (cs.map List.length).sum :=
  List.length_flatten ▸ (unionFrom_sublist l cs).length_le

theorem unionFrom_sorted {l : Int} {cs : List (List Sample)} (h : ∀ c ∈ cs, SSorted c) :
    SSorted (unionFrom l cs) ∧ ∀ z ∈ unionFrom l cs, l < z.t := by
  fun_induction unionFrom l cs with
  | case1 => exact ⟨List.Pairwise.nil, fun _ hz => nomatch hz⟩
  | case2 l c cs hc ih => exact ih fun c' hc' => h c' (List.mem_cons_of_mem _ hc')
  | case3 l c cs x r hc ih =>
    obtain ⟨hsc, hcs⟩ := List.forall_mem_cons.mp h
    obtain ⟨i1, i2⟩ := ih hcs
    have hs : SSorted (x :: r) := hc ▸ ssorted_dropLt _ hsc
    have hlo : ∀ z ∈ x :: r, l < z.t := fun z hz => ((mem_dropLt_sorted hsc).mp (hc ▸ hz)).2
    have hhi := le_lastOf hs
    refine ⟨List.pairwise_append.mpr ⟨hs, i1, fun a ha b hb => Int.lt_of_le_of_lt (hhi a ha) (i2 b hb)⟩,
      fun z hz => (List.mem_append.mp hz).elim (hlo z) fun hz => ?_⟩
    exact Int.lt_trans (Int.lt_of_lt_of_le (hlo x List.mem_cons_self) (hhi x List.mem_cons_self)) (i2 z hz)

def RowDisjoint : List (List Sample) → Prop
  | a :: b :: r => (∀ x ∈ a, ∀ y ∈ b, x.t < y.t) ∧ RowDisjoint (b :: r)
  | _ => True

theorem unionFrom_disjoint : ∀ (cs : List (List Sample)) (l : Int),
    (∀ c ∈ cs, c ≠ [] ∧ SSorted c) → RowDisjoint cs → (∀ c, cs.head? = some c → ∀ x ∈ c, l < x.t) →
    unionFrom l cs = cs.flatten := by
  intro cs
  induction cs with
  | nil => intro l _ _ _; rfl
  | cons c cs ih =>
    intro l h hd hl
    obtain ⟨x, r, rfl⟩ := List.exists_cons_of_ne_nil (h c List.mem_cons_self).1
    rw [unionFrom_cons_cons (dropLt_cons_ge (hl _ rfl x List.mem_cons_self)), List.flatten_cons]
    congr 1
    cases cs with
    | nil => rfl
    | cons b r' =>
      -- lastOf x r is the timestamp of an element of x :: r, all of which precede the next chunk
      exact ih _ (fun c' hc' => h c' (List.mem_cons_of_mem _ hc')) hd.2 fun _ hb y hy => by
        cases hb
        exact hd.1 _ (lastOf_mem x r) y hy

/-- the chunks the model speaks of: non-empty, timestamps ≥ 1 (see `csV`, Lemmas/ReadPath.lean; not something stores guarantee) -/
def ChunkOK (c : List Sample) : Prop := c ≠ [] ∧ ∀ x ∈ c, 1 ≤ x.t

/-- what a row contributes inside the range -/
def rowWindow (qmint qmaxt : Int) (chunks : List (List Sample)) : List Sample :=
  takeLe qmaxt (dropLt qmint (unionFrom 0 chunks))

end Thanos.Dedup
