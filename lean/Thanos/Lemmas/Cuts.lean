import Thanos.Lemmas.FirstFit
/-
  C04's hypothesis, and why it gives the answer.  The chunks of a logical series are cuts of one time-sorted sample
  sequence `S` (`CutOf`, Lemmas/FirstFit.lean; `IdenticalReplicas`: every replica is `S` cut up in its own way;
  `DisjointCuts`: the cuts of one replica do not overlap unless they are the same).  Read through the query range, a
  row of cuts is a filter of `S`, whatever overlaps inside it (`rowWindow_cuts`), so the penalty fold over the rows'
  windows is `S` in the range as soon as row 0 holds the range (`pmFoldL_windows`).  Row 0 does (`row0_holds_range`), by
  first-fit (Lemmas/FirstFit.lean), whose hypothesis that after every chunk end a chunk begins is what disjoint cuts of
  identical replicas give: the chunks of one replica follow each other (`succ_core`; `succ_of_replicas`, and
  `succ_filtered` on the chunks the stores send).  Read by Props/C04.lean.
-/
namespace Thanos.Dedup

def inQuery (qmint qmaxt : Int) (x : Sample) : Bool := decide (qmint ≤ x.t) && decide (x.t ≤ qmaxt)

/-- every replica of the logical series holds exactly the samples `S`, cut into chunks in any
    way (chunks of one replica may overlap in time) and placed on any stores -/
def IdenticalReplicas (S : List Sample) (l : RSeries) : Prop :=
  l.reps ≠ [] ∧ ∀ r ∈ l.reps, (∀ c ∈ r.chunks, CutOf S c) ∧ ∀ x ∈ S, ∃ c ∈ r.chunks, x ∈ c.samples

/-- the chunks of every replica are pairwise disjoint in time or hold the same samples (a chunk kept by several stores) -/
def DisjointCuts (l : RSeries) : Prop :=
  ∀ r ∈ l.reps, r.chunks.Pairwise fun c d => c.samples = d.samples ∨ c.maxt < d.mint ∨ d.maxt < c.mint

theorem CutOf.ok {S : List Sample} (hS : SSorted S) (hpos : ∀ x ∈ S, 1 ≤ x.t) {c : RChunk} (h : CutOf S c) :
    ChunkOK c.samples ∧ SSorted c.samples :=
  ⟨⟨h.1, fun x hx => hpos x (h.2.subset hx)⟩, List.Pairwise.sublist h.2.sublist hS⟩

theorem IdenticalReplicas.cuts {S : List Sample} {l : RSeries} (hid : IdenticalReplicas S l) :
    ∀ c ∈ l.reps.flatMap (·.chunks), CutOf S c := by
  intro c hc
  obtain ⟨r, hr, hcr⟩ := List.mem_flatMap.mp hc
  exact (hid.2 r hr).1 c hcr

theorem IdenticalReplicas.covers {S : List Sample} {l : RSeries} (hid : IdenticalReplicas S l) :
    ∀ x ∈ S, ∃ c ∈ l.reps.flatMap (·.chunks), x ∈ c.samples := by
  intro x hx
  obtain ⟨r, hr⟩ := List.exists_mem_of_ne_nil _ hid.1
  obtain ⟨c, hc, hxc⟩ := (hid.2 r hr).2 x hx
  exact ⟨c, List.mem_flatMap.mpr ⟨r, hr, hc⟩, hxc⟩

theorem inQuery_iff {qmint qmaxt : Int} {x : Sample} : inQuery qmint qmaxt x = true ↔ qmint ≤ x.t ∧ x.t ≤ qmaxt := by
  simp only [inQuery, Bool.and_eq_true, decide_eq_true_eq]

theorem filter_inRange_cuts {S : List Sample} (hS : SSorted S) {qmint qmaxt : Int}
    (hrange : ∀ x ∈ S, qmint ≤ x.t ∧ x.t ≤ qmaxt) (cs : List RChunk)
    (hcut : ∀ c ∈ cs, CutOf S c) : cs.filter (inRange qmint qmaxt) = cs := by
  apply List.filter_eq_self.mpr
  intro c hc
  obtain ⟨hne, hinf⟩ := hcut c hc
  obtain ⟨a, ha⟩ := List.exists_mem_of_ne_nil _ hne
  exact inRange_of_mem hS hinf ha (hrange a (hinf.subset ha)).1 (hrange a (hinf.subset ha)).2

theorem mint_le_of_sent {all : List RChunk} {qmint qmaxt : Int} {c : RChunk}
    (h : c ∈ all.filter (inRange qmint qmaxt)) : c.mint ≤ qmaxt := by
  have := (List.mem_filter.mp h).2
  simp only [inRange, Bool.and_eq_true, decide_eq_true_eq] at this
  exact this.2

theorem covered_sent {S : List Sample} (hS : SSorted S) {all cs : List RChunk} {qmint qmaxt : Int}
    (hcut : ∀ c ∈ all, CutOf S c)
    (hcomp : ∀ d ∈ all.filter (inRange qmint qmaxt), ∃ d' ∈ cs, d'.samples = d.samples)
    {x : Sample} (hx : ∃ c ∈ all, x ∈ c.samples) (hin : inQuery qmint qmaxt x = true) :
    covered cs x = true := by
  obtain ⟨c, hc, hxc⟩ := hx
  obtain ⟨h1, h2⟩ := inQuery_iff.mp hin
  obtain ⟨c', hc', hs'⟩ := hcomp c (List.mem_filter.mpr ⟨hc, inRange_of_mem hS (hcut c hc).2 hxc h1 h2⟩)
  exact covered_iff.mpr ⟨c', hc', hs' ▸ hxc⟩

/-- **The series is returned** when a chunk holds a sample inside the range: the stores send a chunk. -/
theorem proxyChunks_ne_nil {S : List Sample} (hS : SSorted S) {all : List RChunk} {qmint qmaxt : Int}
    (hcut : ∀ c ∈ all, CutOf S c) {x : Sample} (hx : ∃ c ∈ all, x ∈ c.samples)
    (hin : inQuery qmint qmaxt x = true) : proxyChunks qmint qmaxt all ≠ [] :=
  have ⟨_, hc, _⟩ := covered_iff.mp (covered_sent hS hcut (proxyChunks_spec qmint qmaxt all).2.1 hx hin)
  List.ne_nil_of_mem hc

theorem filter_covered_inQuery {cs : List RChunk} {qmint qmaxt : Int} {S : List Sample}
    (h : ∀ x ∈ S, inQuery qmint qmaxt x = true → covered cs x = true) :
    (S.filter fun x => covered cs x && inQuery qmint qmaxt x) = S.filter (inQuery qmint qmaxt) :=
  List.filter_congr fun x hx => by
    cases hin : inQuery qmint qmaxt x with
    | false => exact Bool.and_false _
    | true => rw [h x hx hin]; rfl

theorem rowWindow_cuts {S : List Sample} (hS : SSorted S) (hpos : ∀ x ∈ S, 1 ≤ x.t) {cs : List RChunk}
    (hcut : ∀ c ∈ cs, CutOf S c) (hsorted : cs.Pairwise fun a b => a.mint ≤ b.mint) (qmint qmaxt : Int) :
    rowWindow qmint qmaxt (cs.map (·.samples)) =
      S.filter fun x => covered cs x && inQuery qmint qmaxt x := by
  have hU : SSorted (unionFrom 0 (cs.map (·.samples))) :=
    (unionFrom_sorted (List.forall_mem_map.mpr fun c hc => ((hcut c hc).ok hS hpos).2)).1
  refine ssorted_ext (List.Pairwise.sublist ((takeLe_sublist _ _).trans (dropLt_sublist _ _)) hU)
    (List.Pairwise.sublist List.filter_sublist hS) fun x => ?_
  rw [rowWindow, mem_takeLe_sorted (ssorted_dropLt _ hU), mem_dropLt_sorted hU,
    mem_unionFrom_cuts S hS cs 0 hcut hsorted x, List.mem_filter, Bool.and_eq_true, covered_iff, inQuery_iff]
  exact ⟨fun ⟨⟨⟨⟨c, hc, hxc⟩, _⟩, h1⟩, h2⟩ => ⟨(hcut c hc).2.subset hxc, ⟨c, hc, hxc⟩, h1, h2⟩,
    fun ⟨hxS, hc, h1, h2⟩ => ⟨⟨⟨hc, hpos x hxS⟩, h1⟩, h2⟩⟩

theorem pmFoldL_windows {S : List Sample} (hS : SSorted S) (hpos : ∀ x ∈ S, 1 ≤ x.t) {cs : List RChunk}
    (hne : cs ≠ []) (hcut : ∀ c ∈ cs, CutOf S c) (qmint qmaxt : Int)
    (h0 : ∀ x ∈ S, inQuery qmint qmaxt x = true → covered (headRow (overlapSplit cs)) x = true) :
    pmFoldL ((overlapSplit cs).map fun row => rowWindow qmint qmaxt (row.map (·.samples))) =
      S.filter (inQuery qmint qmaxt) := by
  obtain ⟨hrows, hperm⟩ := overlapSplit_partition cs
  obtain ⟨row0, others, hro⟩ := List.exists_cons_of_ne_nil (overlapSplit_ne_nil hne)
  have hrow : ∀ row ∈ overlapSplit cs, rowWindow qmint qmaxt (row.map (·.samples)) =
      S.filter fun x => covered row x && inQuery qmint qmaxt x := fun row hr =>
    have hrc : ∀ c ∈ row, CutOf S c := fun c hc => hcut c (hperm.subset (List.mem_flatten.mpr ⟨row, hr, hc⟩))
    rowWindow_cuts hS hpos hrc (rowOK_sorted hS row (hrows row hr).1 hrc) qmint qmaxt
  rw [hro] at h0 hrow ⊢
  have h0 : ∀ x ∈ S, inQuery qmint qmaxt x = true → covered row0 x = true := h0
  -- row 0 is `S` in the range; every other row is a sub-sequence of it and leaves it as it is
  rw [List.map_cons, pmFoldL_cons, hrow row0 List.mem_cons_self, filter_covered_inQuery h0]
  refine pmFold_sublists (List.Pairwise.sublist List.filter_sublist hS)
    (fun x hx => by have := hpos x (List.mem_filter.mp hx).1; simp only [minT]; omega) _ fun q hq => ?_
  obtain ⟨row, hr, rfl⟩ := List.mem_map.mp hq
  rw [hrow row (List.mem_cons_of_mem _ hr), ← List.filter_filter]
  exact List.filter_sublist

theorem disjoint_pair {l : RSeries} (hdj : DisjointCuts l) {r : RReplica} (hr : r ∈ l.reps)
    {c d : RChunk} (hc : c ∈ r.chunks) (hd : d ∈ r.chunks) :
    c.samples = d.samples ∨ c.maxt < d.mint ∨ d.maxt < c.mint := by
  have hp := hdj r hr
  apply List.Pairwise.forall_of_forall_of_flip (R := fun c d =>
    c.samples = d.samples ∨ c.maxt < d.mint ∨ d.maxt < c.mint) (fun x _ => Or.inl rfl) hp ?_ hc hd
  exact hp.imp (fun h => by
    rcases h with h | h | h
    · exact Or.inl h.symm
    · exact Or.inr (Or.inr h)
    · exact Or.inr (Or.inl h))

/-- **Chunks of one replica follow each other.**  `P ++ Q` is any time-sorted list (`S`, or the covered part of `S`), `P`
    empty or ended by a chunk `c` of the replica; a chunk `d` of the replica that holds the head `g` of `Q` and lies in
    `P ++ Q` is a prefix of `Q`: `c` and `d` differ (`g` is after `c`), so they are disjoint in time, and `d` is not before
    `c`; hence `d` starts after all of `P`, and no later than `g`. -/
theorem succ_core {l : RSeries} {S : List Sample} (hS : SSorted S) (hid : IdenticalReplicas S l) (hdj : DisjointCuts l)
    {r : RReplica} (hr : r ∈ l.reps) {P Q : List Sample} {g : Sample} (hPQ : SSorted (P ++ Q)) (hQ : Q.head? = some g)
    (hbd : P = [] ∨ ∃ c ∈ r.chunks, c.samples <:+ P) {d : RChunk} (hd : d ∈ r.chunks) (hgd : g ∈ d.samples)
    (hinf : d.samples <:+: P ++ Q) : d.samples <+: Q := by
  obtain ⟨z, dr, hz⟩ := List.exists_cons_of_ne_nil (List.ne_nil_of_mem hgd)
  have hdcut := (hid.2 r hr).1 d hd
  have hdb := mem_chunk_bounds hS hdcut.2 hgd
  refine cut_prefix hPQ hz hinf (fun a ha => ?_) fun g' hg' => ?_
  · rcases hbd with rfl | ⟨c, hc, hcP⟩
    · cases ha
    · have hccut := (hid.2 r hr).1 c hc
      obtain ⟨w, hwc, hmax, hPle⟩ := last_of_suffix (List.Pairwise.sublist (List.sublist_append_left P Q) hPQ) hccut.1 hcP
      have hwg : w.t < g.t := ssorted_append_lt hPQ w (hcP.subset hwc) g (List.mem_of_mem_head? hQ)
      rw [← (mint_of_cons hz).1]
      rcases disjoint_pair hdj hr hc hd with h | h | h
      · exact absurd (hmax ▸ (mem_chunk_bounds hS hccut.2 (h ▸ hgd)).2) (Int.not_le.mpr hwg)
      · exact Int.lt_of_le_of_lt (hmax ▸ hPle a ha) h
      · exact absurd (Int.lt_of_lt_of_le h (mint_le_maxt hS hccut.1 hccut.2))
          (Int.not_lt.mpr (Int.le_trans (hmax ▸ Int.le_of_lt hwg) hdb.2))
  · cases hQ.symm.trans hg'
    exact (mint_of_cons hz).1 ▸ hdb.1

/-- **After every chunk end a chunk begins** (and one begins at the start of `S`): what contiguous, per-replica disjoint
    cuts of identical replicas give first-fit when the range covers `S` (the hypothesis of `firstFit_row0`).  No proof
    uses it: C04 goes through `succ_filtered`. -/
theorem succ_of_replicas {l : RSeries} {S : List Sample} (hS : SSorted S)
    (hid : IdenticalReplicas S l) (hdj : DisjointCuts l) (cs : List RChunk)
    (hsub : ∀ c ∈ cs, c ∈ l.reps.flatMap (·.chunks))
    (hcomp : ∀ d ∈ l.reps.flatMap (·.chunks), ∃ d' ∈ cs, d'.samples = d.samples) :
    ∀ P Q, S = P ++ Q → Q ≠ [] → (P = [] ∨ ∃ c ∈ cs, c.samples <:+ P) →
      ∃ d ∈ cs, d.samples ≠ [] ∧ d.samples <+: Q := by
  intro P Q hPQ hQ hbd
  obtain ⟨y, Q', rfl⟩ := List.exists_cons_of_ne_nil hQ
  subst hPQ
  -- the replica to look at: that of the chunk that ends `P`, if there is one
  obtain ⟨r, hr, hrc⟩ : ∃ r ∈ l.reps, (P = [] ∨ ∃ c ∈ r.chunks, c.samples <:+ P) := by
    rcases hbd with hP | ⟨c, hc, hcP⟩
    · obtain ⟨r, hr⟩ := List.exists_mem_of_ne_nil _ hid.1
      exact ⟨r, hr, Or.inl hP⟩
    · obtain ⟨r, hr, hcr⟩ := List.mem_flatMap.mp (hsub c hc)
      exact ⟨r, hr, Or.inr ⟨c, hcr, hcP⟩⟩
  obtain ⟨d, hd, hyd⟩ := (hid.2 r hr).2 y (List.mem_append_right _ List.mem_cons_self)
  obtain ⟨d', hd', hds'⟩ := hcomp d (List.mem_flatMap.mpr ⟨r, hr, hd⟩)
  exact ⟨d', hd', hds' ▸ List.ne_nil_of_mem hyd,
    hds' ▸ succ_core hS hid hdj hr hS rfl hrc hd hyd ((hid.2 r hr).1 d hd).2⟩

/-- **After every chunk end inside the range a chunk that the stores send begins** — the bounded
    successor property on the sequence `S.filter (covered cs)` of samples the sent chunks hold. -/
theorem succ_filtered {l : RSeries} {S : List Sample} (hS : SSorted S)
    (hid : IdenticalReplicas S l) (hdj : DisjointCuts l) (qmint qmaxt : Int) (cs : List RChunk)
    (hcsub : ∀ c ∈ cs, c ∈ (l.reps.flatMap (·.chunks)).filter (inRange qmint qmaxt))
    (hcomp : ∀ d ∈ (l.reps.flatMap (·.chunks)).filter (inRange qmint qmaxt),
      ∃ d' ∈ cs, d'.samples = d.samples) :
    ∀ P Q g, S.filter (covered cs) = P ++ Q → Q.head? = some g → g.t ≤ qmaxt →
      (P = [] ∨ ∃ c ∈ cs, c.samples <:+ P) → ∃ d ∈ cs, d.samples ≠ [] ∧ d.samples <+: Q := by
  intro P Q g hPQ hQ hgM hbd
  have hSs' : SSorted (P ++ Q) := by rw [← hPQ]; exact List.Pairwise.sublist List.filter_sublist hS
  have hgQ : g ∈ Q := List.mem_of_mem_head? hQ
  obtain ⟨hgS, hgc⟩ := List.mem_filter.mp (hPQ ▸ List.mem_append_right P hgQ)
  -- a replica `r` with `P` empty or ended by a chunk of `r`, and a chunk `d` of `r` that holds `g` and is sent
  obtain ⟨r, hr, hrc, d, hd, hgd, hdin⟩ : ∃ r ∈ l.reps, (P = [] ∨ ∃ c ∈ r.chunks, c.samples <:+ P) ∧
      ∃ d ∈ r.chunks, g ∈ d.samples ∧ d ∈ (l.reps.flatMap (·.chunks)).filter (inRange qmint qmaxt) := by
    rcases hbd with hP | ⟨c, hc, hcP⟩
    · -- at the very start: a sent chunk that covers `g`, in its replica
      obtain ⟨e, he, hge⟩ := covered_iff.mp hgc
      obtain ⟨r, hr, her⟩ := List.mem_flatMap.mp (List.mem_filter.mp (hcsub e he)).1
      exact ⟨r, hr, Or.inl hP, e, her, hge, hcsub e he⟩
    · -- after the chunk `c`: the chunk of its replica that holds `g` is sent, since `g` lies in the range
      obtain ⟨hcall, hcin⟩ := List.mem_filter.mp (hcsub c hc)
      obtain ⟨r, hr, hcr⟩ := List.mem_flatMap.mp hcall
      obtain ⟨d, hd, hgd⟩ := (hid.2 r hr).2 g hgS
      obtain ⟨w, hwc, hcmax, _⟩ :=
        last_of_suffix (List.Pairwise.sublist (List.sublist_append_left P Q) hSs') (hid.cuts c hcall).1 hcP
      have hwg : w.t < g.t := ssorted_append_lt hSs' w (hcP.subset hwc) g hgQ
      simp only [inRange, Bool.and_eq_true, decide_eq_true_eq] at hcin
      exact ⟨r, hr, Or.inr ⟨c, hcr, hcP⟩, d, hd, hgd, List.mem_filter.mpr ⟨List.mem_flatMap.mpr ⟨r, hr, hd⟩,
        inRange_of_mem hS ((hid.2 r hr).1 d hd).2 hgd (Int.le_trans (hcmax ▸ hcin.1) (Int.le_of_lt hwg)) hgM⟩⟩
  obtain ⟨d', hd', hds'⟩ := hcomp d hdin
  have hinf : d.samples <:+: P ++ Q := by
    rw [← hPQ, ← hds']
    exact infix_filter _ (hid.cuts d' (List.mem_filter.mp (hcsub d' hd')).1).2 fun x hx => covered_iff.mpr ⟨d', hd', hx⟩
  exact ⟨d', hd', hds' ▸ List.ne_nil_of_mem hgd, hds' ▸ succ_core hS hid hdj hr hSs' hQ hrc hd hgd hinf⟩

/-- **Row 0 holds the range** (the hypothesis `h0` of `pmFoldL_windows`), over the chunks `cs` the stores send for
    identical replicas with disjoint cuts. -/
theorem row0_holds_range {l : RSeries} {S : List Sample} (hS : SSorted S)
    (hid : IdenticalReplicas S l) (hdj : DisjointCuts l) (qmint qmaxt : Int) (cs : List RChunk)
    (hcsub : ∀ c ∈ cs, c ∈ (l.reps.flatMap (·.chunks)).filter (inRange qmint qmaxt))
    (hcomp : ∀ d ∈ (l.reps.flatMap (·.chunks)).filter (inRange qmint qmaxt),
      ∃ d' ∈ cs, d'.samples = d.samples)
    (hsorted : cs.Pairwise fun a b => a.mint ≤ b.mint) :
    ∀ x ∈ S, inQuery qmint qmaxt x = true → covered (headRow (overlapSplit cs)) x = true := by
  intro x hx hin
  -- a sample in the range is held by a chunk that is sent
  have hxcov := covered_sent hS hid.cuts hcomp (hid.covers x hx) hin
  obtain ⟨c', hc', _⟩ := covered_iff.mp hxcov
  have hcut : ∀ c ∈ cs, CutOf S c := fun c hc => hid.cuts c (List.mem_filter.mp (hcsub c hc)).1
  -- first-fit on the covered part of `S`: row 0 holds a prefix `P` of it, and the rest `Q` starts beyond `qmaxt`
  have hS' : SSorted (S.filter (covered cs)) := List.Pairwise.sublist List.filter_sublist hS
  obtain ⟨P, Q, hPQ, hrow0, hQ⟩ := firstFit_row0_bounded (S.filter (covered cs)) hS' cs qmaxt
    (fun c hc => mint_le_of_sent (hcsub c hc))
    (fun c hc => ⟨(hcut c hc).1, infix_filter _ (hcut c hc).2 (fun x hx => covered_iff.mpr ⟨c, hc, hx⟩)⟩)
    hsorted (succ_filtered hS hid hdj qmint qmaxt cs hcsub hcomp) (List.ne_nil_of_mem hc')
  have hxS' : x ∈ P ++ Q := hPQ ▸ List.mem_filter.mpr ⟨hx, hxcov⟩
  rcases List.mem_append.mp hxS' with hP | hxQ
  · obtain ⟨c, hc, hxc⟩ := List.mem_flatMap.mp (hrow0 ▸ hP)
    exact covered_iff.mpr ⟨c, hc, hxc⟩
  · obtain ⟨q0, Q', rfl⟩ := List.exists_cons_of_ne_nil (List.ne_nil_of_mem hxQ)
    have h0 := hQ q0 rfl
    have := ssorted_head_le (List.Pairwise.sublist (List.sublist_append_right P _) (hPQ ▸ hS')) rfl x hxQ
    exact absurd (Int.lt_of_lt_of_le h0 this) (Int.not_lt.mpr (inQuery_iff.mp hin).2)

end Thanos.Dedup
