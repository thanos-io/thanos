import Thanos.Model.CompactProto
import Thanos.Lemmas.ListFacts
/-
  Lemmas about the compactor / store-gateway protocol model (C34, C29).  `beats` is a strict lexicographic order, so
  every block of a view is covered by one the duplicate filter keeps (`exists_unhidden`, `filterChain_covers`); `step` is
  taken apart once, into the relation `Step` (`step_sound`).  In between, membership lemmas for what the actions build
  (`setMark`, `unionSrc` / `allSources`).  The invariants and their preservation are in Lemmas/CompactInv.lean.
-/
namespace Thanos.CompactProto

theorem covers_iff {u c : Blk} : covers u c = true ↔ c.sources ⊆ u.sources := by
  simp [covers, List.all_eq_true, List.subset_def]

theorem covers_refl (b : Blk) : covers b b = true := covers_iff.mpr (List.Subset.refl _)

theorem covers_trans {a b c : Blk} (h1 : covers a b = true) (h2 : covers b c = true) : covers a c = true := by
  rw [covers_iff] at *
  exact List.Subset.trans h2 h1

/-- the compaction level as the duplicate filter's sort sees it: the original tie rule ignores it -/
def tieLevel : Bool → Blk → Nat
  | true, b => b.level
  | false, _ => 0

/-- `beats` is the lexicographic order on (more sources, higher level, smaller ULID) -/
theorem beats_iff (lt : Bool) (u c : Blk) : beats lt u c = true ↔
    c.sources.length < u.sources.length ∨ u.sources.length = c.sources.length ∧
      (tieLevel lt c < tieLevel lt u ∨ tieLevel lt u = tieLevel lt c ∧ u.id < c.id) := by
  cases lt <;> simp [beats, tieLevel]

theorem beats_irrefl (lt : Bool) (b : Blk) : beats lt b b = false :=
  Bool.eq_false_iff.mpr fun h => by rw [beats_iff] at h; omega

theorem beats_trans {lt : Bool} {a b c : Blk} (h1 : beats lt a b = true) (h2 : beats lt b c = true) :
    beats lt a c = true := by
  rw [beats_iff] at *
  omega

theorem beats_total (lt : Bool) {a b : Blk} (hid : a.id ≠ b.id) : beats lt a b = true ∨ beats lt b a = true := by
  simp only [beats_iff]
  omega

/-- a compaction result beats each of its sources in the repaired order -/
theorem beats_of_covers_level {r b : Blk} (hnd : b.sources.Nodup) (hc : covers r b = true)
    (hl : r.level > b.level) : beats true r b = true := by
  have := hnd.length_le_of_subset (covers_iff.mp hc)
  simp only [beats_iff, tieLevel]
  omega

theorem covers_back_of_unbeaten {lt : Bool} {u m : Blk} (hm : m.sources.Nodup)
    (hc : covers u m = true) (hb : beats lt u m = false) : covers m u = true := by
  rw [covers_iff] at *
  intro z hz
  false_or_by_contra
  rename_i hzm
  -- a source of `u` outside `m` would make `u` the longer one, and the longer one beats
  have := (List.nodup_cons.mpr ⟨hzm, hm⟩).length_le_of_subset (List.cons_subset.mpr ⟨hz, hc⟩)
  have := Bool.eq_false_iff.mp hb
  rw [Ne, beats_iff] at this
  simp only [List.length_cons] at *
  omega

@[simp] theorem covers_mark_left (u c : Blk) (m : Option Nat) : covers { u with mark := m } c = covers u c := rfl
@[simp] theorem covers_mark_right (u c : Blk) (m : Option Nat) : covers u { c with mark := m } = covers u c := rfl
@[simp] theorem beats_mark_left (lt : Bool) (u c : Blk) (m : Option Nat) :
    beats lt { u with mark := m } c = beats lt u c := rfl
@[simp] theorem beats_mark_right (lt : Bool) (u c : Blk) (m : Option Nat) :
    beats lt u { c with mark := m } = beats lt u c := rfl

theorem hiddenIn_iff {lt : Bool} {V : List Blk} {c : Blk} :
    hiddenIn lt V c = true ↔ ∃ u ∈ V, beats lt u c = true ∧ covers u c = true := by
  simp [hiddenIn, List.any_eq_true]

/-- by induction on the number of blocks that beat `c` -/
theorem exists_unhidden (lt : Bool) (V : List Blk) (c : Blk) (hc : c ∈ V) :
    ∃ k ∈ V, hiddenIn lt V k = false ∧ covers k c = true := by
  induction hn : V.countP (fun w => beats lt w c) using Nat.strongRecOn generalizing c with
  | ind n ih =>
    by_cases hh : hiddenIn lt V c = true
    · obtain ⟨u, hu, hb, hcv⟩ := hiddenIn_iff.mp hh
      obtain ⟨k, hk, hkh, hkc⟩ := ih _
        (hn ▸ countP_lt_of_imp _ _ (fun w _ hw => beats_trans hw hb) hu hb (beats_irrefl lt u)) u hu rfl
      exact ⟨k, hk, hkh, covers_trans hkc hcv⟩
    · exact ⟨c, hc, by simpa using hh, covers_refl c⟩

theorem markOk_of_unmarked {b : Blk} {delay now : Nat} (h : b.mark = none) : markOk delay now b = true := by
  simp [markOk, h]

theorem markOk_some {b : Blk} {t delay now : Nat} (h : b.mark = some t) :
    markOk delay now b = true ↔ now - t ≤ delay := by
  simp [markOk, h]

theorem mem_markView {delay now : Nat} {blocks : List Blk} {k : Blk} :
    k ∈ markView delay now blocks ↔ k ∈ blocks ∧ markOk delay now k = true := List.mem_filter

theorem mem_filterChain {lt : Bool} {delay now : Nat} {blocks : List Blk} {k : Blk} :
    k ∈ filterChain lt delay now blocks ↔
      (k ∈ blocks ∧ markOk delay now k = true) ∧ hiddenIn lt (markView delay now blocks) k = false := by
  simp only [filterChain, markView, List.mem_filter, Bool.not_eq_true']

theorem mem_duplicates {lt : Bool} {delay now : Nat} {blocks : List Blk} {k : Blk} :
    k ∈ duplicates lt delay now blocks ↔
      (k ∈ blocks ∧ markOk delay now k = true) ∧ hiddenIn lt (markView delay now blocks) k = true := by
  simp only [duplicates, markView, List.mem_filter]

theorem mem_of_mem_filterChain {lt : Bool} {delay now : Nat} {blocks : List Blk} {k : Blk}
    (h : k ∈ filterChain lt delay now blocks) : k ∈ blocks := (mem_filterChain.mp h).1.1

theorem filterChain_covers (lt : Bool) (delay now : Nat) (blocks : List Blk) (c : Blk)
    (hc : c ∈ blocks) (hm : markOk delay now c = true) :
    ∃ k ∈ filterChain lt delay now blocks, covers k c = true := by
  obtain ⟨k, hk, hkh, hkc⟩ :=
    exists_unhidden lt (markView delay now blocks) c (mem_markView.mpr ⟨hc, hm⟩)
  exact ⟨k, mem_filterChain.mpr ⟨mem_markView.mp hk, hkh⟩, hkc⟩

theorem eq_of_id_eq {bs : List Blk} (hp : bs.Pairwise (fun a b => a.id ≠ b.id)) {a b : Blk}
    (ha : a ∈ bs) (hb : b ∈ bs) (hid : a.id = b.id) : a = b :=
  inj_of_nodup_map (f := (·.id)) (List.pairwise_map.mpr hp) ha hb hid

theorem findBlk_some {bs : List Blk} {i : Nat} {b : Blk} (h : findBlk bs i = some b) : b ∈ bs ∧ b.id = i := by
  unfold findBlk at h
  exact ⟨List.mem_of_find?_eq_some h, by simpa using List.find?_some h⟩

theorem mapM_find_mem {view : List Blk} {ids : List Nat} {plan : List Blk}
    (h : ids.mapM (findBlk view) = some plan) : ∀ p ∈ plan, p ∈ view := by
  induction ids generalizing plan with
  | nil =>
    cases h
    nofun
  | cons i ids ih =>
    simp only [List.mapM_cons, Option.bind_eq_bind, Option.bind_eq_some_iff, Option.pure_def,
      Option.some.injEq] at h
    obtain ⟨b, hf, rest, hr, rfl⟩ := h
    exact List.forall_mem_cons.mpr ⟨(findBlk_some hf).1, ih hr⟩

/-- enabledness of `.compact` (`C29_any_plan`) -/
theorem mapM_find_some {view : List Blk} (ids : List Nat) (h : ∀ i ∈ ids, ∃ b ∈ view, b.id = i) :
    ∃ plan, ids.mapM (findBlk view) = some plan ∧ plan.length = ids.length := by
  induction ids with
  | nil => exact ⟨[], by simp, rfl⟩
  | cons i ids ih =>
    obtain ⟨plan, hp, hl⟩ := ih (fun j hj => h j (List.mem_cons_of_mem _ hj))
    obtain ⟨b, hb, hbi⟩ := h i (by simp)
    obtain ⟨b', hb'⟩ : ∃ b', findBlk view i = some b' :=
      Option.isSome_iff_exists.mp (List.find?_isSome.mpr ⟨b, hb, by simpa using hbi⟩)
    exact ⟨b' :: plan, by simp [List.mapM_cons, hb', hp], by simp [hl]⟩

/-- `setMark` rewrites one field, so id, level and sources of the image are those of the block by reduction -/
theorem setMark_eq (i t : Nat) (bs : List Blk) :
    setMark i t bs = bs.map fun b => { b with mark := if b.id = i then some t else b.mark } :=
  List.map_congr_left fun b _ => by split <;> rfl

theorem mem_setMark {i t : Nat} {bs : List Blk} {c' : Blk} :
    c' ∈ setMark i t bs ↔ ∃ c ∈ bs, c' = { c with mark := if c.id = i then some t else c.mark } := by
  simp only [setMark_eq, List.mem_map, eq_comm]

theorem forall_mem_setMark {i t : Nat} {bs : List Blk} {p : Blk → Prop} :
    (∀ c' ∈ setMark i t bs, p c') ↔ ∀ c ∈ bs, p { c with mark := if c.id = i then some t else c.mark } := by
  rw [setMark_eq]
  exact List.forall_mem_map

theorem setMark_id_pairwise {i t : Nat} {bs : List Blk} (h : bs.Pairwise (fun a b => a.id ≠ b.id)) :
    (setMark i t bs).Pairwise (fun a b => a.id ≠ b.id) := by
  rw [setMark_eq, List.pairwise_map]
  exact h

theorem mem_insertSrc {x y : Nat} {l : List Nat} : y ∈ insertSrc x l ↔ y = x ∨ y ∈ l := by
  fun_induction insertSrc x l with
  | case1 | case2 => exact List.mem_cons
  | case3 => simp
  | case4 z l _ _ ih =>
    rw [List.mem_cons, ih, List.mem_cons]
    exact or_left_comm

theorem insertSrc_sorted {x : Nat} {l : List Nat} (h : l.Pairwise (· < ·)) : (insertSrc x l).Pairwise (· < ·) := by
  fun_induction insertSrc x l with
  | case1 => exact List.pairwise_singleton _ _
  | case2 y ys h1 =>
    refine List.pairwise_cons.mpr ⟨fun z hz => ?_, h⟩
    rcases List.mem_cons.mp hz with rfl | hz
    · exact h1
    · exact Nat.lt_trans h1 ((List.pairwise_cons.mp h).1 z hz)
  | case3 => exact h
  | case4 y ys h1 h2 ih =>
    have h' := List.pairwise_cons.mp h
    refine List.pairwise_cons.mpr ⟨fun z hz => ?_, ih h'.2⟩
    rcases mem_insertSrc.mp hz with rfl | hz
    · omega
    · exact h'.1 z hz

theorem mem_unionSrc {y : Nat} : ∀ {a b : List Nat}, y ∈ unionSrc a b ↔ y ∈ a ∨ y ∈ b
  | [], b => by simp [unionSrc]
  | x :: a, b => by
    have ih := mem_unionSrc (y := y) (a := a) (b := insertSrc x b)
    simp only [unionSrc, List.foldl_cons] at ih ⊢
    rw [ih, mem_insertSrc, List.mem_cons, or_left_comm, or_assoc]

theorem unionSrc_sorted {a b : List Nat} (h : b.Pairwise (· < ·)) : (unionSrc a b).Pairwise (· < ·) :=
  List.foldlRecOn a _ h fun _ hb _ _ => insertSrc_sorted hb

theorem mem_foldl_union {y : Nat} : ∀ {bs : List Blk} {acc : List Nat},
    y ∈ bs.foldl (fun acc b => unionSrc b.sources acc) acc ↔ y ∈ acc ∨ ∃ b ∈ bs, y ∈ b.sources
  | [], acc => by simp
  | b :: bs, acc => by
    simp only [List.foldl_cons]
    rw [mem_foldl_union (bs := bs), mem_unionSrc, or_comm (a := y ∈ b.sources), or_assoc]
    simp only [List.mem_cons, exists_eq_or_imp]

theorem foldl_union_sorted {bs : List Blk} {acc : List Nat} (h : acc.Pairwise (· < ·)) :
    (bs.foldl (fun acc b => unionSrc b.sources acc) acc).Pairwise (· < ·) :=
  List.foldlRecOn bs _ h fun _ hacc _ _ => unionSrc_sorted hacc

theorem mem_allSources {y : Nat} {bs : List Blk} : y ∈ allSources bs ↔ ∃ b ∈ bs, y ∈ b.sources := by
  simp [allSources, mem_foldl_union]

theorem mem_allSources_setMark {y i t : Nat} {bs : List Blk} : y ∈ allSources (setMark i t bs) ↔ y ∈ allSources bs := by
  simp only [mem_allSources, mem_setMark]
  exact ⟨fun ⟨_, ⟨c, hc, rfl⟩, hy⟩ => ⟨c, hc, hy⟩, fun ⟨c, hc, hy⟩ => ⟨_, ⟨c, hc, rfl⟩, hy⟩⟩

/-- the record a gateway holds once it has fetched the view at `s` -/
def syncedGw (P : Params) (s : State) (stale : List Nat) : Gw :=
  { loaded := (filterChain P.levelTie P.ignoreDelay s.now s.blocks).map (·.id), lastSync := s.now,
    known := allSources s.blocks, stale := stale }

/-- the block `Group.compact` uploads for `plan` -/
def compacted (s : State) (plan : List Blk) : Blk :=
  { id := s.nextId, level := maxLevel plan + 1,
    sources := allSources plan, mark := none }

/-- `step P s a = some s'`, one constructor per action, with what the theorems of C34 and C29 read of the
    action's guard (not the whole guard: of `.compact ids` only that the plan lies in the compactor's view,
    not that `ids` are distinct and name exactly the non-empty `plan`; of `.markSource` / `.gc` not that the
    block was unmarked): the blocks an action names by id are given as members of the list they were looked up in.
    Theorems about all steps are case analyses on this, and actions that do the same to the bucket share a case. -/
inductive Step (P : Params) (s : State) : Action → State → Prop
  | ship : Step P s .ship
      { s with blocks := s.blocks ++ [{ id := s.nextId, level := 1, sources := [s.nextId], mark := none }],
               nextId := s.nextId + 1 }
  | compact {ids plan} (hplan : ∀ p ∈ plan, p ∈ compactorView P s) :
      Step P s (.compact ids) { s with blocks := s.blocks ++ [compacted s plan], nextId := s.nextId + 1 }
  | markSource {bb rr} (hb : bb ∈ s.blocks) (hr : rr ∈ s.blocks)
      (hrm : rr.mark = none) (hc : covers rr bb = true) (hl : rr.level > bb.level) :
      Step P s (.markSource bb.id rr.id) { s with blocks := setMark bb.id s.now s.blocks }
  | gc {bb} (hb : bb ∈ duplicates P.levelTie (P.deleteDelay / P.divisor) s.now s.blocks) :
      Step P s (.gc bb.id) { s with blocks := setMark bb.id s.now s.blocks }
  | clean {bb t} (hb : bb ∈ s.blocks) (ht : bb.mark = some t) (hold : s.now - t > P.deleteDelay) :
      Step P s (.clean bb.id) { s with blocks := s.blocks.filter (fun c => c.id != bb.id) }
  | sync {g} (hg : g < s.gws.length) : Step P s (.sync g) { s with gws := s.gws.set g (syncedGw P s []) }
  | tick {d} (hd : s.gws.all (gwOk P (s.now + d)) = true) : Step P s (.tick d) { s with now := s.now + d }
  | failedUpload : Step P s .failedUpload { s with nextId := s.nextId + 1 }
  | readFault : Step P s .readFault s
  | syncLoad {g gw} (hg : s.gws[g]? = some gw) : Step P s (.syncLoad g)
      { s with gws := s.gws.set g (syncedGw P s ((gw.loaded ++ gw.stale).filter
          (fun i => !((filterChain P.levelTie P.ignoreDelay s.now s.blocks).map (·.id)).contains i))) }
  | syncDrop {g gw} (hg : s.gws[g]? = some gw) : Step P s (.syncDrop g)
      { s with gws := s.gws.set g { gw with stale := [] } }

theorem step_sound {P : Params} {s s' : State} {a : Action} (h : step P s a = some s') : Step P s a s' := by
  revert h
  -- the arms follow the text of `step`, action by action; the numbered ones are the branch of each action that
  -- returns `some` (1 ship, 4 compact, 5 markSource, 8 gc, 11 clean, 15 sync, 17 tick, 19 failedUpload, 20 readFault,
  -- 21 syncLoad, 23 syncDrop), those in between (`_`) are the action's refusing branches
  fun_cases step P s a with
  | case1 =>
    rintro ⟨⟩
    exact .ship
  | case4 ids _ plan _ hplan =>
    rintro ⟨⟩
    split at hplan
    · exact .compact (mapM_find_mem hplan)
    · cases hplan
  | case5 b r bb rr hr hb hg =>
    rintro ⟨⟩
    simp only [Bool.and_eq_true, Option.isNone_iff_eq_none, decide_eq_true_eq] at hg
    obtain ⟨hbm, rfl⟩ := findBlk_some hb
    obtain ⟨hrb, rfl⟩ := findBlk_some hr
    exact .markSource hbm hrb hg.1.1.1 hg.1.1.2 hg.1.2
  | case8 b bb hb =>
    rintro ⟨⟩
    obtain ⟨hbd, rfl⟩ := findBlk_some hb
    exact .gc hbd
  | case11 b bb hb t ht hold =>
    rintro ⟨⟩
    obtain ⟨hbm, rfl⟩ := findBlk_some hb
    exact .clean hbm ht hold
  | case15 g hg =>
    rintro ⟨⟩
    exact .sync hg
  | case17 d hd =>
    rintro ⟨⟩
    exact .tick hd
  | case19 =>
    rintro ⟨⟩
    exact .failedUpload
  | case20 =>
    rintro ⟨⟩
    exact .readFault
  | case21 g gw hg =>
    rintro ⟨⟩
    exact .syncLoad hg
  | case23 g gw hg =>
    rintro ⟨⟩
    exact .syncDrop hg
  | _ => exact nofun

/-- a run continued by further actions (`C34_between_half_steps`) -/
theorem run_append (P : Params) : ∀ (as bs : List Action) (s : State),
    run P s (as ++ bs) = (run P s as).bind fun s1 => run P s1 bs
  | [], _, _ => rfl
  | a :: as, bs, s => by
    simp only [List.cons_append, run]
    cases step P s a with
    | none => rfl
    | some s1 => exact run_append P as bs s1

end Thanos.CompactProto
