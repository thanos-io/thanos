import Thanos.Model.LoserTree
import Thanos.Lemmas.LoserTreeBase
/-
  Refinement proof of pkg/losertree, part 2: `Played le t n p (t', w)` says that `t'` is `t` with the
  games below `p` played — a `Won` below `p` for the winner `w`, nothing changed outside.  It is what
  `playGame` returns (`playGame_spec`) and what the loop of `replayGames` has done when it arrives at a node
  `p` of the old winner's path (`replayLoop_spec`, by induction along the derivation of the old tournament,
  which follows the path of its winner: below the sibling of the child on the path the old tournament stands, a
  game in which nothing moved).  Both build it node by node with `Played.node`.  At the root the loop stops, so
  `replayGames` on a tournament whose winner leaf was changed is, like `initialize`, "all games played, then
  `setRoot`" (`initTree_eq`, `replayGames_spec`).
-/
namespace Thanos.LoserTree

variable {E : Type} {le : E → E → Prop} {t : Tree E} {n : Nat}

structure Played (le : E → E → Prop) (t : Tree E) (n pos : Nat) (r : Tree E × Nat) : Prop where
  len : r.1.nodes.length = 2 * n
  maxVal : r.1.maxVal = t.maxVal
  less : r.1.less = t.less
  frame : ∀ q, ¬ (IsDesc pos q ∧ q < n) → getNode r.1 q = getNode t q
  won : Won le r.1 n pos r.2

/-- a game below `c`, then one below `s` on its result, then the match written into their parent `a` -/
theorem Played.node {t1 t2 : Tree E} {a c s wc ws : Nat} (hcs : Children a c s) (ha : 1 ≤ a) (han : a < n)
    (hC : Played le t n c (t1, wc)) (hS : Played le t1 n s (t2, ws))
    (w l : Nat) (hwl : (w = wc ∧ l = ws) ∨ (w = ws ∧ l = wc)) (hle : le (val t2 w) (val t2 l)) :
    Played le t n a (setNode t2 a { getNode t2 a with index := (l : Int), value := val t2 l }, w) := by
  -- the second game left the subtree of the first alone
  have hC2 : Won le t2 n c wc := hC.won.frame
    fun q hq => hS.frame q fun ⟨hd, _⟩ => hcs.disjoint ha hq hd
  refine ⟨(setNode_length _ _ _).trans hS.len, hS.maxVal.trans hC.maxVal, hS.less.trans hC.less, ?_, ?_⟩
  · intro q hq
    have hqa : a ≠ q := fun e => hq ⟨e ▸ isDesc_refl a, e ▸ han⟩
    rw [getNode_setNode_ne _ _ _ _ hqa, hS.frame q (fun ⟨hd, hqn⟩ => hq ⟨isDesc_trans hcs.symm.desc hd, hqn⟩)]
    exact hC.frame q (fun ⟨hd, hqn⟩ => hq ⟨isDesc_trans hcs.desc hd, hqn⟩)
  · rcases hwl with ⟨rfl, rfl⟩ | ⟨rfl, rfl⟩
    · exact Won.play hcs ha han hS.len hC2 hS.won hle
    · exact Won.play hcs.symm ha han hS.len hS.won hC2 hle

theorem playGame_spec {less0 : E → E → Bool} (hle1 : ∀ a b, less0 a b = true → le a b)
    (hle2 : ∀ a b, less0 a b = false → le b a) (fuel : Nat) {pos : Nat}
    (hl0 : t.less = less0) (hlen : t.nodes.length = 2 * n) (hpos : 1 ≤ pos) (hpos2 : pos < 2 * n)
    (hf : 2 * n ≤ pos + fuel) : Played le t n pos (playGame fuel t pos) := by
  fun_induction playGame fuel t pos with
  | case1 => omega
  | case2 fuel t pos hleaf => exact ⟨hlen, rfl, rfl, fun _ _ => rfl, .leaf (by omega) hpos2⟩
  -- an internal node: `eL`, `eR` name what the games below the two children return, `ew` the outcome of the match
  | case3 fuel t pos hleaf t1 left eL t2 right eR loser winner ew np ihL ihR =>
    -- a child is twice as far down: one unit of fuel less is enough
    have hb : pos < n ∧ 1 ≤ pos * 2 ∧ pos * 2 + 1 < 2 * n ∧ 2 * n ≤ pos * 2 + fuel := by omega
    have hL := eL ▸ ihL hl0 hlen hb.2.1 (Nat.lt_of_succ_lt hb.2.2.1) hb.2.2.2
    have hR := eR ▸ ihR (hL.less.trans hl0) hL.len (Nat.le_succ_of_le hb.2.1) hb.2.2.1
      (Nat.succ_add _ _ ▸ Nat.le_succ_of_le hb.2.2.2)
    rw [Nat.mul_comm pos 2] at hL hR
    have hl2 : t2.less = less0 := hR.less.trans (hL.less.trans hl0)
    have hnode := Played.node (Or.inl ⟨rfl, rfl⟩) hpos hb.1 hL hR
    cases hc : t2.less (getNode t2 left).value (getNode t2 right).value
    · rw [hc, if_neg Bool.false_ne_true] at ew
      cases ew
      exact hnode right left (Or.inr ⟨rfl, rfl⟩) (hle2 _ _ (hl2 ▸ hc))
    · rw [hc, if_pos rfl] at ew
      cases ew
      exact hnode left right (Or.inl ⟨rfl, rfl⟩) (hle1 _ _ (hl2 ▸ hc))

/-- the end of `initialize` and of `replayGames`: the winner goes into node 0 -/
def setRoot (r : Tree E × Nat) : Tree E :=
  setNode r.1 0 { getNode r.1 0 with index := (r.2 : Int), value := val r.1 r.2 }

theorem initTree_eq (t : Tree E) : initTree t = setRoot (playGame t.nodes.length t 1) := rfl

/-- `told`: the tournament before leaf `w0` changed; `t1`: the tree the loop starts from.  Started at the leaf, the
    loop arrives at the parent of `p` with the games below `p` played. -/
theorem replayLoop_spec {less0 : E → E → Bool} (hle1 : ∀ a b, less0 a b = true → le a b)
    (hle2 : ∀ a b, less0 a b = false → le b a) {told t1 : Tree E} {w0 : Nat} (hl1 : t1.less = less0)
    (hlen1 : t1.nodes.length = 2 * n) (hdiff : ∀ q, q ≠ w0 → getNode t1 q = getNode told q)
    {p : Nat} (h : Won le told n p w0) (hp : 1 ≤ p) {fuel : Nat} (hf : w0 / 2 ≤ fuel) :
    ∃ fuel' r, p / 2 ≤ fuel' ∧ Played le t1 n p r ∧
      replayLoop fuel t1 (w0 / 2) w0 (getNode t1 w0).value = replayLoop fuel' r.1 (p / 2) r.2 (val r.1 r.2) := by
  induction h with
  | leaf hl hl2 => exact ⟨fuel, (t1, _), hf, ⟨hlen1, rfl, rfl, fun _ _ => rfl, .leaf hl hl2⟩, rfl⟩
  | @node a c s w l han hcs hC hS hi hv _ ihc _ =>
    have hc1 : 1 ≤ c := Nat.le_of_lt (Nat.lt_of_le_of_lt hp (hcs.lt hp (isDesc_refl c)))
    obtain ⟨fuel', ⟨t, pos⟩, hf', hP, heq⟩ := ihc hdiff hc1 hf
    rw [hcs.half] at hf' heq
    -- beside the subtree of `c` the tree is still the old one
    have hold : ∀ q, ¬ IsDesc c q → getNode t q = getNode told q := fun q hq =>
      (hP.frame q fun hd => hq hd.1).trans (hdiff q fun e => hq (e ▸ hC.range.1))
    have hbeside : ∀ q, IsDesc s q → getNode t q = getNode told q := fun q hq =>
      hold q fun hc => hcs.disjoint hp hc hq
    have hl := hS.range
    have hnode : getNode t a = getNode told a := hold a fun h => Nat.lt_irrefl a (hcs.lt hp h)
    have hi' : idx t a = (l : Int) := (congrArg Node.index hnode).trans hi
    have hv' : val t a = val t l :=
      ((congrArg Node.value hnode).trans hv).trans (congrArg Node.value (hbeside l hl.1)).symm
    -- below the sibling nothing was played: the old tournament stands
    have hS' : Played le t n s (t, l) := ⟨hP.len, rfl, rfl, fun _ _ => rfl, hS.frame hbeside⟩
    have hless : t.less = less0 := hP.less.trans hl1
    obtain ⟨fuel'', rfl⟩ : ∃ k, fuel' = k + 1 := ⟨fuel' - 1, by omega⟩
    rw [replayLoop, if_neg (by omega)] at heq
    dsimp only at heq
    have hb : a / 2 ≤ fuel'' := by omega
    cases hc : t.less (getNode t a).value (val t pos) with
    | true =>
      rw [if_pos hc, show (getNode t a).index.toNat = l by
        rw [show (getNode t a).index = (l : Int) from hi', Int.toNat_natCast]] at heq
      refine ⟨fuel'', _, hb, Played.node hcs hp han hP hS' l pos (Or.inr ⟨rfl, rfl⟩)
        (hle1 _ _ (by rw [← hv', ← hless]; exact hc)), heq.trans ?_⟩
      rw [val_setNode_ne t _ (show a ≠ l by omega), ← hv']
      rfl
    | false =>
      rw [if_neg (by rw [hc]; exact Bool.false_ne_true)] at heq
      -- node `a` already holds the loser
      exact ⟨fuel'', _, hb, ⟨hP.len, hP.maxVal, hP.less,
        fun q hq => hP.frame q fun hd => hq ⟨isDesc_trans hcs.desc hd.1, hd.2⟩,
        .node han hcs hP.won hS'.won hi' hv' (hle2 _ _ (by rw [← hv', ← hless]; exact hc))⟩, heq⟩

theorem replayGames_spec {less0 : E → E → Bool} (hle1 : ∀ a b, less0 a b = true → le a b)
    (hle2 : ∀ a b, less0 a b = false → le b a) {told t1 : Tree E} {w0 : Nat} (h0 : Won le told n 1 w0)
    (hl1 : t1.less = less0) (hlen1 : t1.nodes.length = 2 * n)
    (hdiff : ∀ q, q ≠ w0 → getNode t1 q = getNode told q) :
    ∃ r, replayGames t1 w0 = setRoot r ∧ Played le t1 n 1 r := by
  obtain ⟨fuel', ⟨t2, w⟩, _, hP, heq⟩ := replayLoop_spec hle1 hle2 hl1 hlen1 hdiff h0 (Nat.le_refl 1)
    (fuel := t1.nodes.length) (by have := h0.range; omega)
  -- above the root the loop stops
  have hstop : replayLoop fuel' t2 (1 / 2) w (val t2 w) = (t2, w, val t2 w) := by cases fuel' <;> rfl
  refine ⟨(t2, w), ?_, hP⟩
  unfold replayGames
  rw [heq, hstop]
  rfl

end Thanos.LoserTree
