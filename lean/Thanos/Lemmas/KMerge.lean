import Thanos.Model.Merge
import Thanos.Lemmas.Order
import Thanos.Lemmas.Proxy
import Thanos.Lemmas.ListFacts
/-
  The specification of the k-way merge as a relation: the output is produced by repeatedly
  removing, from the heads of the streams, a head that no other head has to precede.
  "Has to precede" is the weak order `frameLe` the comparator of `NewProxyResponseLoserTree` refines:
  every non-series response before every series, series by `labels.Compare`.
  A k-way merge is a permutation of what the streams hold (`IsKMerge.perm`) and lists the series
  label-sorted when every stream does (`IsKMerge.sorted`).  `IsKMerge` is `LoserTree.IsKMergeG frameLe`
  constructor by constructor, written out here so that what rests on it does not import the tree; `MergeSpec` is
  what the end-to-end theorems of C03 ask of the merge, and the loser tree has it (`losertree_refines`).
-/
namespace Thanos.Merge

/-- `x` may be emitted while `y` is still a head -/
def frameLe : Frame → Frame → Prop
  | .series a, .series b => lblLe a.lbls b.lbls
  | .series _, _ => False
  | _, _ => True

theorem frameLe_refl (a : Frame) : frameLe a a := by
  cases a with
  | series s => exact lblLe_refl _
  | _ => trivial

theorem frameLe_trans {a b c : Frame} (h1 : frameLe a b) (h2 : frameLe b c) : frameLe a c := by
  cases a with
  | series x =>
    cases b with
    | series y =>
      cases c with
      | series z => exact lblLe_trans h1 h2
      | _ => exact h2
    | _ => exact h1.elim
  | _ => trivial

inductive IsKMerge : List (List Frame) → List Frame → Prop
  | nil {ss : List (List Frame)} : (∀ s ∈ ss, s = []) → IsKMerge ss []
  | cons {ss : List (List Frame)} {out : List Frame} (i : Nat) (x : Frame) (rest : List Frame) :
      ss[i]? = some (x :: rest) →
      (∀ (j : Nat) (y : Frame) (r : List Frame), ss[j]? = some (y :: r) → frameLe x y) →
      IsKMerge (ss.set i rest) out → IsKMerge ss (x :: out)

theorem IsKMerge.perm {ss : List (List Frame)} {out : List Frame} (h : IsKMerge ss out) : out.Perm ss.flatten := by
  induction h with
  | nil hall => rw [List.flatten_eq_nil_iff.mpr hall]
  | cons i x rest hget _ _ ih => exact (ih.cons x).trans (perm_flatten_set hget).symm

theorem IsKMerge.mem {ss : List (List Frame)} {out : List Frame} (h : IsKMerge ss out) :
    ∀ z, z ∈ out ↔ ∃ s ∈ ss, z ∈ s := fun _ => h.perm.mem_iff.trans List.mem_flatten

def MergeSpec (merge : List (List Frame) → List Frame) : Prop := ∀ sets, IsKMerge sets (merge sets)

theorem mergeMem_of_spec {merge : List (List Frame) → List Frame} (h : MergeSpec merge) : MergeMem merge :=
  fun sets x => (h sets).mem x

/-- `SortedSeries`, said of one input stream of the merge -/
def StreamSorted (s : List Frame) : Prop := SortedSeries s

theorem streamSorted_tail {x : Frame} {rest : List Frame} (h : StreamSorted (x :: rest)) : StreamSorted rest := by
  cases x with
  | series t => exact (List.pairwise_cons.mp h).2
  | _ => exact h

/-- warnings / hints may stand anywhere in the streams (e.g. the warning a failing store ends with):
    `StreamSorted` and `SortedSeries` read the series only -/
theorem IsKMerge.sorted {ss : List (List Frame)} {out : List Frame} (h : IsKMerge ss out) :
    (∀ s ∈ ss, StreamSorted s) → SortedSeries out := by
  induction h with
  | nil _ => intro _; exact List.Pairwise.nil
  | @cons ss out i x rest hget hmin hrec ih =>
    intro hss
    have hxs : StreamSorted (x :: rest) := hss _ (List.mem_of_getElem? hget)
    have ih' := ih fun s hs =>
      (List.mem_or_eq_of_mem_set hs).elim (hss s) (fun he => he ▸ streamSorted_tail hxs)
    cases x with
    | series e =>
      refine List.pairwise_cons.mpr ⟨?_, ih'⟩
      intro o ho
      -- `o` sits in some stream; its head does not have to precede `e`, and `o` is that head or follows it
      obtain ⟨s, hs, hos⟩ := List.mem_flatten.mp ((perm_flatten_set hget).mem_iff.mpr
        (List.mem_cons_of_mem _ (hrec.perm.mem_iff.mp (mem_seriesOf.mp ho))))
      cases s with
      | nil => cases hos
      | cons y r =>
        obtain ⟨j, hj⟩ := List.getElem?_of_mem hs
        have hle := hmin j y r hj
        cases y with
        | series t =>
          rcases List.mem_cons.mp hos with h | h
          · cases h; exact hle
          · exact lblLe_trans hle ((List.pairwise_cons.mp (hss _ hs)).1 o (mem_seriesOf.mpr h))
        | _ => exact hle.elim
    | _ => exact ih'

end Thanos.Merge
