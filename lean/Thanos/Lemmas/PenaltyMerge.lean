import Thanos.Model.Iter
import Thanos.Lemmas.ListFacts
/-
  The penalty merge as a pure function on sample lists (`pm2`); `pm2_induct` gives its three situations: nothing
  left, side a picked, side b picked.  The transliterated iterator `nodeOps` is shown to compute it in ListLike.
  Second part: the timestamps of the merge depend on the inputs only through what `Seek` can observe
  of them (`ObsEq`, `pm2_obsEq`), which is what lets C40 replace a chunk iterator by its sample list.
-/
namespace Thanos.Dedup

def SSorted (l : List Sample) : Prop := l.Pairwise (fun x y => x.t < y.t)

/-- what `Seek(t)` does to the remaining samples of a list-like iterator -/
def dropLt (t : Int) (l : List Sample) : List Sample := l.dropWhile (fun s => decide (s.t < t))

/-- the penalty for the side that was not picked -/
def pen (lastT t : Int) : Int := if lastT ≠ minT then 2 * (t - lastT) else initialPenalty

theorem dropLt_length_le (t : Int) (l : List Sample) : (dropLt t l).length ≤ l.length :=
  (List.dropWhile_sublist _).length_le

/-- The penalty merge of two iterators whose remaining samples are `la`, `lb`, both already sought
    to their next target (`lastT + 1 + pen`): emit the smaller head (`a` on ties), seek the side
    that was picked to `t + 1` and the other one to `t + 1 + penalty`. -/
def pm2 (lastT : Int) (la lb : List Sample) : List Sample :=
  match la, lb with
  | [], [] => []
  | x :: ta, [] => x :: pm2 x.t (dropLt (x.t + 1) ta) []
  | [], y :: tb => y :: pm2 y.t [] (dropLt (y.t + 1) tb)
  | x :: ta, y :: tb =>
    if x.t ≤ y.t then x :: pm2 x.t (dropLt (x.t + 1) ta) (dropLt (x.t + 1 + pen lastT x.t) (y :: tb))
    else y :: pm2 y.t (dropLt (y.t + 1 + pen lastT y.t) (x :: ta)) (dropLt (y.t + 1) tb)
termination_by la.length + lb.length
decreasing_by
  all_goals simp only [List.length_cons, List.length_nil]
  · have := dropLt_length_le (x.t + 1) ta; omega
  · have := dropLt_length_le (y.t + 1) tb; omega
  · have h1 := dropLt_length_le (x.t + 1) ta
    have h2 : (dropLt (x.t + 1 + pen lastT x.t) (y :: tb)).length ≤ tb.length + 1 := dropLt_length_le _ _
    omega
  · have h1 : (dropLt (y.t + 1 + pen lastT y.t) (x :: ta)).length ≤ ta.length + 1 := dropLt_length_le _ _
    have h2 := dropLt_length_le (y.t + 1) tb
    omega

theorem dropLt_sublist (t : Int) (l : List Sample) : (dropLt t l).Sublist l := List.dropWhile_sublist _

theorem dropLt_suffix (t : Int) (l : List Sample) : dropLt t l <:+ l := List.dropWhile_suffix _

theorem mem_of_mem_dropLt {t : Int} {l : List Sample} {x : Sample} (h : x ∈ dropLt t l) : x ∈ l :=
  (dropLt_sublist t l).subset h

@[simp] theorem dropLt_nil (t : Int) : dropLt t [] = [] := rfl

theorem dropLt_cons_lt {t : Int} {x : Sample} {l : List Sample} (h : x.t < t) :
    dropLt t (x :: l) = dropLt t l := by
  simp [dropLt, h]

theorem dropLt_cons_ge {t : Int} {x : Sample} {l : List Sample} (h : t ≤ x.t) :
    dropLt t (x :: l) = x :: l := by
  simp [dropLt, Int.not_lt.mpr h]

theorem head_dropLt_ge {t : Int} {l : List Sample} {x : Sample} (h : (dropLt t l).head? = some x) :
    t ≤ x.t := by
  have := List.head?_dropWhile_not (fun s => decide (s.t < t)) l
  rw [show (l.dropWhile _).head? = some x from h] at this
  exact Int.not_lt.mp (of_decide_eq_false this)

theorem ssorted_tail {l : List Sample} (h : SSorted l) : SSorted l.tail := by
  cases l with
  | nil => exact h
  | cons a l => exact (List.pairwise_cons.mp h).2

theorem ssorted_dropLt (t : Int) {l : List Sample} (h : SSorted l) : SSorted (dropLt t l) :=
  List.Pairwise.sublist (dropLt_sublist t l) h

theorem dropLt_eq_self {t : Int} {l : List Sample} (h : ∀ x, l.head? = some x → t ≤ x.t) :
    dropLt t l = l := by
  cases l with
  | nil => rfl
  | cons a l => exact dropLt_cons_ge (h a rfl)

theorem ssorted_head_lt {x : Sample} {l : List Sample} (h : SSorted (x :: l)) :
    ∀ y, l.head? = some y → x.t + 1 ≤ y.t :=
  fun y hy => (List.pairwise_cons.mp h).1 y (List.mem_of_mem_head? hy)

theorem filter_ge_eq_dropLt (t : Int) {l : List Sample} (h : SSorted l) :
    l.filter (fun x => decide (t ≤ x.t)) = dropLt t l :=
  -- along a time-sorted list "before `t`" stays false once false
  ((dropWhile_eq_filter_not h fun a b hab ha => decide_eq_false (by have := of_decide_eq_false ha; omega)).trans
    (List.filter_congr fun x _ => by simp [← Int.not_lt])).symm

theorem pen_nonneg {lastT t : Int} (h : lastT ≤ t) : 0 ≤ pen lastT t := by
  unfold pen
  split
  · exact Int.mul_nonneg (by decide) (Int.sub_nonneg.mpr h)
  · decide

theorem pm2_pickA {lastT : Int} {x : Sample} {ta lb : List Sample}
    (h : ∀ y, lb.head? = some y → x.t ≤ y.t) :
    pm2 lastT (x :: ta) lb =
      x :: pm2 x.t (dropLt (x.t + 1) ta) (dropLt (x.t + 1 + pen lastT x.t) lb) := by
  cases lb with
  | nil => rw [pm2]; rfl
  | cons y tb => rw [pm2, if_pos (h y rfl)]

theorem pm2_pickB {lastT : Int} {y : Sample} {la tb : List Sample}
    (h : ∀ x, la.head? = some x → y.t < x.t) :
    pm2 lastT la (y :: tb) =
      y :: pm2 y.t (dropLt (y.t + 1 + pen lastT y.t) la) (dropLt (y.t + 1) tb) := by
  cases la with
  | nil => rw [pm2]; rfl
  | cons x ta => rw [pm2, if_neg (Int.not_le.mpr (h x rfl))]

/-- An exhausted side is the case of a picked side whose other side stays `[]` under `dropLt`. -/
theorem pm2_induct {P : Int → List Sample → List Sample → Prop}
    (nil : ∀ lastT, P lastT [] [])
    (pickA : ∀ lastT x ta lb, (∀ y, lb.head? = some y → x.t ≤ y.t) →
      P x.t (dropLt (x.t + 1) ta) (dropLt (x.t + 1 + pen lastT x.t) lb) → P lastT (x :: ta) lb)
    (pickB : ∀ lastT la y tb, (∀ x, la.head? = some x → y.t < x.t) →
      P y.t (dropLt (y.t + 1 + pen lastT y.t) la) (dropLt (y.t + 1) tb) → P lastT la (y :: tb))
    (lastT : Int) (la lb : List Sample) : P lastT la lb := by
  fun_induction pm2 lastT la lb with
  | case1 lastT => exact nil lastT
  | case2 lastT x ta ih => exact pickA lastT x ta [] (fun _ h => nomatch h) ih
  | case3 lastT y tb ih => exact pickB lastT [] y tb (fun _ h => nomatch h) ih
  | case4 lastT x ta y tb hle ih =>
    exact pickA lastT x ta (y :: tb) (fun _ h => Option.some.inj h ▸ hle) ih
  | case5 lastT x ta y tb hle ih =>
    exact pickB lastT (x :: ta) y tb (fun _ h => Option.some.inj h ▸ Int.not_le.mp hle) ih

theorem pm2_cases (la lb : List Sample) :
    (la = [] ∧ lb = []) ∨
    (∃ x ta, la = x :: ta ∧ ∀ y, lb.head? = some y → x.t ≤ y.t) ∨
    (∃ y tb, lb = y :: tb ∧ ∀ x, la.head? = some x → y.t < x.t) := by
  induction (0 : Int), la, lb using pm2_induct with
  | nil => exact Or.inl ⟨rfl, rfl⟩
  | pickA _ x ta _ h => exact Or.inr (Or.inl ⟨x, ta, rfl, h⟩)
  | pickB _ _ y tb h => exact Or.inr (Or.inr ⟨y, tb, rfl, h⟩)

theorem pm2_mem {lastT : Int} {la lb : List Sample} {z : Sample} :
    z ∈ pm2 lastT la lb → z ∈ la ∨ z ∈ lb := by
  induction lastT, la, lb using pm2_induct with
  | nil => rw [pm2]; exact Or.inl
  | pickA lastT x ta lb hle ih =>
    rw [pm2_pickA hle]
    intro h
    rcases List.mem_cons.mp h with rfl | h
    · exact Or.inl List.mem_cons_self
    · exact (ih h).imp (fun h => List.mem_cons_of_mem _ (mem_of_mem_dropLt h)) mem_of_mem_dropLt
  | pickB lastT la y tb hlt ih =>
    rw [pm2_pickB hlt]
    intro h
    rcases List.mem_cons.mp h with rfl | h
    · exact Or.inr List.mem_cons_self
    · exact (ih h).imp mem_of_mem_dropLt (fun h => List.mem_cons_of_mem _ (mem_of_mem_dropLt h))

theorem pm2_length_le (lastT : Int) (la lb : List Sample) :
    (pm2 lastT la lb).length ≤ la.length + lb.length := by
  induction lastT, la, lb using pm2_induct with
  | nil => rw [pm2]; exact Nat.zero_le _
  | pickA lastT x ta lb hle ih =>
    rw [pm2_pickA hle, List.length_cons, List.length_cons, Nat.succ_add]
    exact Nat.succ_le_succ (Nat.le_trans ih (Nat.add_le_add (dropLt_length_le _ _) (dropLt_length_le _ _)))
  | pickB lastT la y tb hlt ih =>
    rw [pm2_pickB hlt]
    exact Nat.succ_le_succ (Nat.le_trans ih (Nat.add_le_add (dropLt_length_le _ _) (dropLt_length_le _ _)))

theorem pm2_sorted {lastT : Int} {la lb : List Sample}
    (ha : ∀ x, la.head? = some x → lastT < x.t) (hb : ∀ x, lb.head? = some x → lastT < x.t) :
    SSorted (pm2 lastT la lb) ∧ ∀ z ∈ pm2 lastT la lb, lastT < z.t := by
  induction lastT, la, lb using pm2_induct with
  | nil => rw [pm2]; exact ⟨List.Pairwise.nil, fun _ h => nomatch h⟩
  | pickA lastT x ta lb hle ih =>
    have hx := ha x rfl
    -- both seek targets are past `x.t`, so the rest of the merge is after `x`
    have hp := pen_nonneg (Int.le_of_lt hx)
    obtain ⟨ih1, ih2⟩ := ih (fun _ => head_dropLt_ge)
      (fun _ hz => Int.le_trans (Int.le_add_of_nonneg_right hp) (head_dropLt_ge hz))
    rw [pm2_pickA hle]
    exact ⟨List.pairwise_cons.mpr ⟨ih2, ih1⟩,
      List.forall_mem_cons.mpr ⟨hx, fun z hz => Int.lt_trans hx (ih2 z hz)⟩⟩
  | pickB lastT la y tb hlt ih =>
    have hy := hb y rfl
    have hp := pen_nonneg (Int.le_of_lt hy)
    obtain ⟨ih1, ih2⟩ := ih
      (fun _ hz => Int.le_trans (Int.le_add_of_nonneg_right hp) (head_dropLt_ge hz))
      (fun _ => head_dropLt_ge)
    rw [pm2_pickB hlt]
    exact ⟨List.pairwise_cons.mpr ⟨ih2, ih1⟩,
      List.forall_mem_cons.mpr ⟨hy, fun z hz => Int.lt_trans hy (ih2 z hz)⟩⟩

theorem pm2_eq_nil {lastT : Int} {la lb : List Sample} : pm2 lastT la lb = [] ↔ la = [] ∧ lb = [] := by
  cases la <;> cases lb
  · simp [pm2]
  · rw [pm2]; simp
  · rw [pm2]; simp
  · rw [pm2]; split <;> simp

theorem pm2_nil_right (lastT : Int) {la : List Sample} (h : SSorted la) : pm2 lastT la [] = la := by
  induction la generalizing lastT with
  | nil => rw [pm2]
  | cons x ta ih =>
    rw [pm2, dropLt_eq_self (ssorted_head_lt h), ih _ (List.pairwise_cons.mp h).2]

theorem pm2_nil_left (lastT : Int) {lb : List Sample} (h : SSorted lb) : pm2 lastT [] lb = lb := by
  induction lb generalizing lastT with
  | nil => rw [pm2]
  | cons y tb ih =>
    rw [pm2, dropLt_eq_self (ssorted_head_lt h), ih _ (List.pairwise_cons.mp h).2]

/-- Side `b` is a replica with holes, a shorter replica, a virtual replica cut out of the same sequence: side `a`
    always has the smaller or equal head, so the merge is `a`. -/
theorem pm2_sublist {lastT : Int} {la lb : List Sample} (hs : SSorted la) (hsub : lb.Sublist la)
    (hl : ∀ x, la.head? = some x → lastT ≤ x.t) : pm2 lastT la lb = la := by
  induction la generalizing lastT lb with
  | nil => rw [List.sublist_nil.mp hsub, pm2]
  | cons x ta ih =>
    have hxy : ∀ y, lb.head? = some y → x.t ≤ y.t := by
      intro y hy
      rcases List.mem_cons.mp (hsub.subset (List.mem_of_mem_head? hy)) with rfl | hy
      · exact Int.le_refl _
      · exact Int.le_of_lt ((List.pairwise_cons.mp hs).1 y hy)
    rw [pm2_pickA hxy, dropLt_eq_self (ssorted_head_lt hs)]
    congr 1
    apply ih (List.pairwise_cons.mp hs).2
    · -- what the seek leaves of `b` is a sublist of `x :: ta` whose head lies after `x.t`
      have hp := pen_nonneg (hl x rfl)
      rcases List.sublist_cons_iff.mp ((dropLt_sublist (x.t + 1 + pen lastT x.t) lb).trans hsub)
        with h | ⟨r, hr, _⟩
      · exact h
      · have := head_dropLt_ge (congrArg List.head? hr)
        omega
    · exact fun z hz => Int.le_of_lt (ssorted_head_lt hs z hz)

/-- identical replicas are the case `b = a`; a fact listed for C01 that no proof uses -/
theorem pm2_suffix {lastT : Int} {la lb : List Sample} (hs : SSorted la) (hsuf : lb <:+ la)
    (hl : ∀ x, la.head? = some x → lastT ≤ x.t) : pm2 lastT la lb = la :=
  pm2_sublist hs hsuf.sublist hl

theorem dropLt_dropLt (j k : Int) (l : List Sample) :
    dropLt k (dropLt j l) = dropLt (if j ≤ k then k else j) l := by
  by_cases hjk : j ≤ k
  · rw [if_pos hjk]
    induction l with
    | nil => rfl
    | cons a l ih =>
      by_cases hj : a.t < j
      · rw [dropLt_cons_lt hj, dropLt_cons_lt (Int.lt_of_lt_of_le hj hjk), ih]
      · rw [dropLt_cons_ge (Int.not_lt.mp hj)]
  · -- what `Seek(j)` leaves lies at or after `j`, which is past `k`
    rw [if_neg hjk]
    exact dropLt_eq_self fun x hx => Int.le_trans (Int.le_of_lt (Int.not_le.mp hjk)) (head_dropLt_ge hx)

/-- the timestamp a reader finds after `Seek(k)` -/
def seekT (k : Int) (l : List Sample) : Option Int := (dropLt k l).head?.map (·.t)

/-- two sample lists that no sequence of `Seek` calls can tell apart by timestamps -/
def ObsEq (la ca : List Sample) : Prop := ∀ k, seekT k la = seekT k ca

theorem ObsEq.refl (l : List Sample) : ObsEq l l := fun _ => rfl
theorem ObsEq.symm {a b : List Sample} (h : ObsEq a b) : ObsEq b a := fun k => (h k).symm
theorem ObsEq.trans {a b c : List Sample} (h1 : ObsEq a b) (h2 : ObsEq b c) : ObsEq a c :=
  fun k => (h1 k).trans (h2 k)

theorem ObsEq.dropLt {la ca : List Sample} (h : ObsEq la ca) (j : Int) :
    ObsEq (dropLt j la) (dropLt j ca) := by
  intro k
  unfold seekT
  rw [dropLt_dropLt, dropLt_dropLt]
  exact h _

theorem ObsEq.nil_right {ca : List Sample} (h : ObsEq [] ca) : ca = [] := by
  cases ca with
  | nil => rfl
  | cons y ca =>
    have := h y.t
    simp [seekT, dropLt_cons_ge (Int.le_refl y.t)] at this

theorem ObsEq.cons_left {x : Sample} {ta ca : List Sample} (h : ObsEq (x :: ta) ca) :
    ∃ y ca', ca = y :: ca' ∧ y.t = x.t := by
  cases ca with
  | nil => exact absurd (ObsEq.nil_right h.symm) (by simp)
  | cons y ca' =>
    refine ⟨y, ca', rfl, ?_⟩
    -- a `Seek` to the earlier of the two heads finds both
    have := h (min x.t y.t)
    simp only [seekT, dropLt_cons_ge (Int.min_le_left _ _), dropLt_cons_ge (Int.min_le_right _ _),
      List.head?_cons, Option.map_some, Option.some.injEq] at this
    exact this.symm

theorem ObsEq.head_t {la ca : List Sample} (h : ObsEq la ca) {P : Int → Prop}
    (hP : ∀ x, la.head? = some x → P x.t) {y : Sample} (hy : ca.head? = some y) : P y.t := by
  cases ca with
  | nil => cases hy
  | cons _ ca' =>
    cases hy
    obtain ⟨x, ta, rfl, hx⟩ := ObsEq.cons_left h.symm
    exact hx ▸ hP x rfl

def tsOf (l : List Sample) : List Int := l.map (·.t)

theorem seekT_eq (k : Int) (l : List Sample) :
    seekT k l = ((tsOf l).dropWhile fun t => decide (t < k)).head? := by
  unfold seekT dropLt tsOf
  rw [List.dropWhile_map, List.head?_map]
  rfl

theorem obsEq_of_tsOf {la ca : List Sample} (h : tsOf la = tsOf ca) : ObsEq la ca :=
  fun k => by rw [seekT_eq, seekT_eq, h]

/-- a sample appended at a timestamp the list has reached already is never sought: the counter aggregate's repeated
    last sample (`obsEq_of_tsOf_snoc`, Lemmas/ChunkMerge.lean) -/
theorem obsEq_append_dup {l : List Sample} {d : Sample} (h : ∃ y ∈ l, d.t ≤ y.t) :
    ObsEq l (l ++ [d]) := by
  intro k
  -- along the list the bound is either still ahead or already below `k`, and then so is `d`
  suffices ∀ l : List Sample, (∃ y ∈ l, d.t ≤ y.t) ∨ d.t < k → seekT k l = seekT k (l ++ [d]) from
    this l (Or.inl h)
  intro l h
  unfold seekT
  induction l with
  | nil => rw [List.nil_append, dropLt_cons_lt (h.resolve_left (fun ⟨_, hy, _⟩ => nomatch hy))]
  | cons a l ih =>
    by_cases hk : a.t < k
    · rw [List.cons_append, dropLt_cons_lt hk, dropLt_cons_lt hk]
      apply ih
      rcases h with ⟨y, hy, hd⟩ | h
      · rcases List.mem_cons.mp hy with rfl | hy
        · exact Or.inr (Int.lt_of_le_of_lt hd hk)
        · exact Or.inl ⟨y, hy, hd⟩
      · exact Or.inr h
    · rw [List.cons_append, dropLt_cons_ge (Int.not_lt.mp hk), dropLt_cons_ge (Int.not_lt.mp hk)]
      rfl

theorem pm2_obsEq {lastT : Int} {la lb ca cb : List Sample} (ha : ObsEq la ca) (hb : ObsEq lb cb) :
    tsOf (pm2 lastT la lb) = tsOf (pm2 lastT ca cb) := by
  induction lastT, la, lb using pm2_induct generalizing ca cb with
  | nil => rw [ObsEq.nil_right ha, ObsEq.nil_right hb]
  | pickA lastT x ta lb hle ih =>
    obtain ⟨x', ca', rfl, hx'⟩ := ObsEq.cons_left ha
    have hle' : ∀ y', cb.head? = some y' → x'.t ≤ y'.t := fun _ hy' =>
      hx' ▸ hb.head_t (P := (x.t ≤ ·)) hle hy'
    have h1 := ha.dropLt (x.t + 1)
    rw [dropLt_cons_lt (Int.lt_succ x.t), dropLt_cons_lt (hx' ▸ Int.lt_succ x.t)] at h1
    rw [pm2_pickA hle, pm2_pickA hle', hx']
    show x.t :: tsOf _ = x'.t :: tsOf _
    rw [hx', ih h1 (hb.dropLt _)]
  | pickB lastT la y tb hlt ih =>
    obtain ⟨y', cb', rfl, hy'⟩ := ObsEq.cons_left hb
    have hlt' : ∀ x', ca.head? = some x' → y'.t < x'.t := fun _ hx' =>
      hy' ▸ ha.head_t (P := (y.t < ·)) hlt hx'
    have h2 := hb.dropLt (y.t + 1)
    rw [dropLt_cons_lt (Int.lt_succ y.t), dropLt_cons_lt (hy' ▸ Int.lt_succ y.t)] at h2
    rw [pm2_pickB hlt, pm2_pickB hlt', hy']
    show y.t :: tsOf _ = y'.t :: tsOf _
    rw [hy', ih (ha.dropLt _) h2]

end Thanos.Dedup
