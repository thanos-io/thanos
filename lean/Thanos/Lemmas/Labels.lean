import Thanos.Model.Labels
import Thanos.Lemmas.OrderedInsert
import Thanos.Lemmas.ListFacts
import Thanos.Lemmas.AssocList
/-
  Label sets as finite maps (C08): `lookup` is what a label set means, and two strictly sorted label sets with the
  same `lookup` are equal (`sorted_lookup_ext`).  `lookup` through filter / append / `setAdd` / `sortByName`, through
  the Builder (`bget` is `Builder.Get`; `lookup_labels`), through `rm` and `extendSorted` (`lookup_extendSorted`, and
  `extend_get` for legal label sets); sortedness of what the Builder hands out, from the names of its `add` list
  staying distinct (`setAdd` is the map update `AssocList.alter`).
-/
namespace Thanos.Labels
open Thanos.OrderedInsert

/-- strictly sorted by name: sorted and no duplicate names (what `labels.Labels` promises) -/
def StrictSorted (l : Labels) : Prop := l.Pairwise (fun a b => a.1 < b.1)

def names (l : Labels) : List Nat := l.map (·.1)

/-- no label with an empty value: what TSDB stores and what legal external label sets are.  (A stored label
    with an empty value is dropped by `NewBuilder`, but survives when no Builder is involved; the correspondence
    covers those inputs, the theorems below are about legal label sets.) -/
def NoEmpty (l : Labels) : Prop := ∀ x ∈ l, x.2 ≠ 0

/-- C08's specification: the value under name `n` that a served series is to carry, for stored labels `raw`, external
    labels `ext` and dropped replica labels `R` -/
def expected (R : List Nat) (ext raw : Labels) (n : Nat) : Option Nat :=
  if R.contains n then none else
  match lookup ext n with
  | some v => some v
  | none => lookup raw n

theorem expected_eq_some {R : List Nat} {ext raw : Labels} {n v : Nat} :
    expected R ext raw n = some v ↔
      R.contains n = false ∧ (lookup ext n = some v ∨ (lookup ext n = none ∧ lookup raw n = some v)) := by
  unfold expected
  cases R.contains n with
  | true => exact ⟨(nomatch ·), (nomatch ·.1)⟩
  | false =>
    cases lookup ext n with
    | some w => exact ⟨fun h => ⟨rfl, .inl h⟩, fun h => h.2.elim id fun h' => nomatch h'.1⟩
    | none => exact ⟨fun h => ⟨rfl, .inr ⟨rfl, h⟩⟩, fun h => h.2.elim (nomatch ·) (·.2)⟩

/-! ### `lookup` determines a sorted label set -/

theorem lookup_cons (m v : Nat) (r : Labels) (n : Nat) :
    lookup ((m, v) :: r) n = if m = n then some v else lookup r n := rfl

theorem lookup_cons_self (m v : Nat) (r : Labels) : lookup ((m, v) :: r) m = some v := if_pos rfl

theorem lookup_cons_ne {m n : Nat} (v : Nat) (r : Labels) (h : m ≠ n) : lookup ((m, v) :: r) n = lookup r n :=
  if_neg h

theorem lookup_none_iff (l : Labels) (n : Nat) : lookup l n = none ↔ n ∉ names l := by
  fun_induction lookup l n with
  | case1 => exact ⟨fun _ => List.not_mem_nil, fun _ => rfl⟩
  | case2 m v r => exact ⟨fun e => (nomatch e), fun hn => absurd List.mem_cons_self hn⟩
  | case3 m v r n h ih =>
    exact ih.trans ⟨fun h1 h2 => (List.mem_cons.mp h2).elim (fun e => h e.symm) h1,
      fun h1 h2 => h1 (List.mem_cons_of_mem _ h2)⟩

theorem hasName_eq_false {l : Labels} {n : Nat} : hasName l n = false ↔ n ∉ names l := by
  rw [hasName, Option.isSome_eq_false_iff, Option.isNone_iff_eq_none, lookup_none_iff]

theorem mem_lookup (l : Labels) (hs : StrictSorted l) : ∀ x ∈ l, lookup l x.1 = some x.2 := by
  induction l with
  | nil => exact fun _ hx => nomatch hx
  | cons y ys ih =>
    obtain ⟨m, w⟩ := y
    have hp := List.pairwise_cons.mp hs
    intro x hx
    rcases List.mem_cons.mp hx with rfl | hx'
    · exact lookup_cons_self m w ys
    · rw [lookup_cons_ne w ys (Nat.ne_of_lt (hp.1 x hx'))]
      exact ih hp.2 x hx'

theorem lookup_mem {l : Labels} {n v : Nat} (h : lookup l n = some v) : (n, v) ∈ l := by
  fun_induction lookup l n with
  | case1 => exact nomatch h
  | case2 m w r => exact Option.some.inj h ▸ List.mem_cons_self
  | case3 m w r n hm ih => exact List.mem_cons_of_mem _ (ih h)

theorem lookup_some_mem_names {l : Labels} {n v : Nat} (h : lookup l n = some v) : n ∈ names l :=
  List.mem_map.mpr ⟨(n, v), lookup_mem h, rfl⟩

/-- they hold the same labels, and only one order of them is sorted -/
theorem sorted_lookup_ext (l1 l2 : Labels) (h1 : StrictSorted l1) (h2 : StrictSorted l2)
    (h : ∀ n, lookup l1 n = lookup l2 n) : l1 = l2 := by
  have mem {l : Labels} (hs : StrictSorted l) (x : Label) : x ∈ l ↔ lookup l x.1 = some x.2 :=
    ⟨mem_lookup l hs x, lookup_mem⟩
  exact eq_of_pairwise_of_mem_iff (fun _ _ hab hba => Nat.lt_asymm hab hba) h1 h2 fun x => by rw [mem h1, mem h2, h]

theorem lookup_filter (q : Nat → Bool) (l : Labels) (n : Nat) :
    lookup (l.filter (fun x => q x.1)) n = if q n then lookup l n else none := by
  induction l with
  | nil => cases q n <;> rfl
  | cons x r ih =>
    obtain ⟨m, v⟩ := x
    rw [List.filter_cons]
    by_cases hq : q m = true
    · rw [if_pos hq, lookup_cons, lookup_cons, ih]
      by_cases h : m = n
      · rw [if_pos h, if_pos h, if_pos (h ▸ hq)]
      · rw [if_neg h, if_neg h]
    · rw [if_neg hq, ih, lookup_cons]
      by_cases h : m = n
      · subst h
        rw [if_neg hq, if_neg hq]
      · rw [if_neg h]

theorem lookup_append (a b : Labels) (n : Nat) :
    lookup (a ++ b) n = match lookup a n with | some v => some v | none => lookup b n := by
  fun_induction lookup a n with
  | case1 => rfl
  | case2 m v r => exact if_pos rfl
  | case3 m v r n h ih => exact (if_neg h).trans ih

theorem lookup_setAdd (a : Labels) (n v m : Nat) :
    lookup (setAdd a n v) m = if m = n then some v else lookup a m := by
  fun_induction setAdd a n v with
  | case1 n v => exact ite_congr (propext eq_comm) (fun _ => rfl) fun _ => rfl
  | case2 w r n v =>
    by_cases h : n = m
    · rw [lookup_cons, if_pos h, if_pos h.symm]
    · rw [lookup_cons_ne v r h, lookup_cons_ne w r h, if_neg (Ne.symm h)]
  | case3 k w r n v hk ih =>
    rw [lookup_cons, lookup_cons, ih]
    by_cases h : k = m
    · rw [if_pos h, if_pos h, if_neg (h ▸ hk)]
    · rw [if_neg h, if_neg h]

theorem lookup_ne_zero (l : Labels) (hne : NoEmpty l) (k : Nat) : lookup l k ≠ some 0 :=
  fun h => hne (k, 0) (lookup_mem h) rfl

theorem get_of_lookup {l : Labels} {n v : Nat} (h : lookup l n = some v) : get l n = v :=
  congrArg (·.getD 0) h

/-! ### `sortByName`, an insertion sort -/

theorem insertByName_eq_ins (x : Label) (l : Labels) : insertByName x l = ins (fun a c : Label => a.1 ≤ c.1) x l := by
  induction l with
  | nil => rfl
  | cons y ys ih => simp only [insertByName, ins, ih]

theorem sortByName_cons (x : Label) (l : Labels) : sortByName (x :: l) = insertByName x (sortByName l) := rfl

theorem mem_insertByName (x : Label) (l : Labels) (y : Label) : y ∈ insertByName x l ↔ y = x ∨ y ∈ l :=
  insertByName_eq_ins x l ▸ mem_ins

theorem mem_sortByName (l : Labels) (y : Label) : y ∈ sortByName l ↔ y ∈ l :=
  (sort_perm insertByName_eq_ins l).mem_iff

theorem lookup_insertByName (x : Label) (l : Labels) (n : Nat) :
    lookup (insertByName x l) n = if x.1 = n then some x.2 else lookup l n := by
  fun_induction insertByName x l with
  | case1 => rfl
  | case2 => rfl
  | case3 y ys h ih =>
    obtain ⟨k, w⟩ := y
    rw [lookup_cons, lookup_cons, ih]
    by_cases h2 : k = n
    · -- `x` went behind `(k, w)`, so its name is another
      rw [if_pos h2, if_pos h2, if_neg fun e => h (Nat.le_of_eq (e.trans h2.symm))]
    · rw [if_neg h2, if_neg h2]

theorem lookup_sortByName (l : Labels) (n : Nat) : lookup (sortByName l) n = lookup l n := by
  induction l with
  | nil => rfl
  | cons x r ih =>
    rw [sortByName_cons, lookup_insertByName, ih]
    rfl

/-- distinct names: a name not after another one is strictly before it -/
theorem sortByName_sorted (l : Labels) (h : (names l).Nodup) : StrictSorted (sortByName l) :=
  sort_pairwise insertByName_eq_ins (R := fun a c : Label => a.1 < c.1) (fun _ _ _ => Nat.lt_trans) l
    ((List.pairwise_map.mp h).imp fun ne => ⟨fun le => Nat.lt_of_le_of_ne le ne, Nat.lt_of_not_le⟩)

theorem strictSorted_names_nodup (l : Labels) (h : StrictSorted l) : (names l).Nodup :=
  List.pairwise_map.mpr (h.imp Nat.ne_of_lt)

theorem names_filter_nodup (p : Label → Bool) (l : Labels) (h : (names l).Nodup) : (names (l.filter p)).Nodup :=
  (List.filter_sublist.map _).nodup h

/-! ### the Builder through `bget`; `extendSorted` and `rm` as maps -/

/-- `Builder.Get`, with "absent" kept apart from "empty" -/
def bget (b : Builder) (n : Nat) : Option Nat :=
  match lookup b.add n with
  | some v => some v
  | none => if b.del.contains n then none else lookup b.base n

theorem bget_delete (b : Builder) (n m : Nat) :
    bget (b.delete n) m = if m = n then none else bget b m := by
  unfold bget Builder.delete
  simp only
  have hf : lookup (b.add.filter (fun l => l.1 != n)) m = if (m != n) then lookup b.add m else none :=
    lookup_filter (fun k => k != n) b.add m
  rw [hf]
  by_cases h : m = n
  · subst h
    simp
  · simp [h]

theorem bget_set (b : Builder) (n v m : Nat) :
    bget (b.set n v) m = if m = n then (if v = 0 then none else some v) else bget b m := by
  unfold Builder.set
  split
  next hv => rw [bget_delete]
  next hv =>
    unfold bget
    simp only [lookup_setAdd]
    by_cases h : m = n <;> simp [h]

theorem lookup_labels (b : Builder) (n : Nat) : lookup b.labels n = bget b n := by
  obtain ⟨base, del, add⟩ := b
  have hres := lookup_filter (fun k => !(del.contains k) && !(hasName add k)) base n
  cases add with
  | nil =>
    cases del with
    | nil => rfl
    | cons d ds =>
      refine hres.trans ?_
      unfold bget
      cases (d :: ds).contains n <;> rfl
  | cons a as =>
    simp only [Builder.labels, List.isEmpty_cons, Bool.and_false, Bool.false_eq_true, if_false]
    rw [lookup_sortByName, lookup_append, hres]
    unfold bget hasName
    cases lookup (a :: as) n with
    | some v => cases del.contains n <;> rfl
    | none =>
      cases del.contains n with
      | true => rfl
      | false => cases lookup base n <;> rfl

/-- what the external value does to a label: present and non-empty overrides, present and empty deletes -/
def override (e : Option Nat) (old : Option Nat) : Option Nat :=
  match e with
  | some 0 => none
  | some v => some v
  | none => old

theorem bget_foldl_set (ext : Labels) (b : Builder) (n : Nat) (hnd : (names ext).Nodup) :
    bget (ext.foldl (fun b l => b.set l.1 l.2) b) n = override (lookup ext n) (bget b n) := by
  induction ext generalizing b with
  | nil => rfl
  | cons x r ih =>
    obtain ⟨k, w⟩ := x
    have hnd' := List.nodup_cons.mp hnd
    rw [List.foldl_cons, ih _ hnd'.2, bget_set, lookup_cons]
    by_cases h : k = n
    · -- no later label of `ext` has the name `k`
      subst h
      rw [if_pos rfl, if_pos rfl, (lookup_none_iff r k).mpr hnd'.1]
      cases w <;> rfl
    · rw [if_neg h, if_neg (Ne.symm h)]

theorem emptyNames_nil (l : Labels) (h : NoEmpty l) : emptyNames l = [] := by
  unfold emptyNames
  have : l.filter (fun x => x.2 == 0) = [] := by
    rw [List.filter_eq_nil_iff]
    intro a ha
    simpa using h a ha
  rw [this]
  rfl

theorem lookup_extendSorted (lset ext : Labels) (n : Nat) (h : (names ext).Nodup) (hl : NoEmpty lset) :
    lookup (extendSorted lset ext) n = override (lookup ext n) (lookup lset n) := by
  cases ext with
  | nil => rfl
  | cons x xs =>
    refine (lookup_labels _ n).trans ((bget_foldl_set (x :: xs) _ n h).trans ?_)
    -- the fresh builder has nothing deleted: `Get` reads the base
    rw [newBuilder, emptyNames_nil lset hl]
    rfl

theorem override_noEmpty (ext : Labels) (h : NoEmpty ext) (n : Nat) (old : Option Nat) :
    override (lookup ext n) old = (match lookup ext n with | some v => some v | none => old) := by
  cases hl : lookup ext n with
  | none => rfl
  | some v =>
    cases v with
    | zero => exact absurd hl (lookup_ne_zero ext h n)
    | succ v => rfl

theorem extend_get (lset ext : Labels) (n : Nat) (he : StrictSorted ext) (hne : NoEmpty ext) (hl : NoEmpty lset) :
    lookup (extendSorted lset ext) n = (match lookup ext n with | some v => some v | none => lookup lset n) := by
  rw [lookup_extendSorted lset ext n (strictSorted_names_nodup ext he) hl, override_noEmpty ext hne]

theorem foldl_delete (R : List Nat) (l : Labels) (d : List Nat) :
    R.foldl Builder.delete ⟨l, d, []⟩ = ⟨l, d ++ R, []⟩ := by
  induction R generalizing d with
  | nil => exact congrArg (Builder.mk l · []) (List.append_nil d).symm
  | cons r rs ih => exact (ih (d ++ [r])).trans (congrArg (Builder.mk l · []) (List.append_assoc d [r] rs))

theorem rm_eq_filter (R : List Nat) (l : Labels) (hl : NoEmpty l) :
    rm R l = l.filter (fun x => !(R.contains x.1)) := by
  unfold rm newBuilder
  rw [emptyNames_nil l hl, foldl_delete]
  -- nothing deleted and nothing added: `Labels()` hands out the base; otherwise the filter, with no added name to skip
  cases R with
  | nil => exact (List.filter_eq_self.mpr fun _ _ => rfl).symm
  | cons r rs => exact List.filter_congr fun _ _ => Bool.and_true _

theorem lookup_rm (R : List Nat) (l : Labels) (n : Nat) (hl : NoEmpty l) :
    lookup (rm R l) n = if R.contains n then none else lookup l n := by
  rw [rm_eq_filter R l hl, lookup_filter (fun k => !(R.contains k)) l n]
  cases R.contains n <;> simp

theorem rm_sorted (R : List Nat) (l : Labels) (h : StrictSorted l) (hl : NoEmpty l) : StrictSorted (rm R l) := by
  rw [rm_eq_filter R l hl]
  exact List.Pairwise.filter _ h

theorem names_rm_nodup (R : List Nat) (l : Labels) (h : (names l).Nodup) (hl : NoEmpty l) : (names (rm R l)).Nodup := by
  rw [rm_eq_filter R l hl]
  exact names_filter_nodup _ _ h

theorem rm_noEmpty (R : List Nat) (l : Labels) (hl : NoEmpty l) : NoEmpty (rm R l) := by
  rw [rm_eq_filter R l hl]
  intro x hx
  exact hl x (List.mem_filter.mp hx).1

/-! ### what the Builder hands out is strictly sorted -/

/-- the `add` part of `Builder.Set` is the update of a Go map kept as a list -/
theorem setAdd_eq_alter (a : Labels) (n v : Nat) : setAdd a n v = AssocList.alter (fun _ => v) 0 a n := by
  fun_induction setAdd a n v with
  | case1 n v => rfl
  | case2 w r n v => exact (if_pos rfl).symm
  | case3 k w r n v hk ih => exact (congrArg ((k, w) :: ·) ih).trans (if_neg hk).symm

theorem add_nodup_set (b : Builder) (n v : Nat) (h : (names b.add).Nodup) : (names (b.set n v).add).Nodup := by
  unfold Builder.set
  split
  · exact names_filter_nodup _ _ h
  · exact setAdd_eq_alter b.add n v ▸ AssocList.nodup_keys_alter h n

theorem base_set (b : Builder) (n v : Nat) : (b.set n v).base = b.base := by
  unfold Builder.set Builder.delete
  split <;> rfl

theorem labels_sorted (b : Builder) (hb : StrictSorted b.base) (ha : (names b.add).Nodup) :
    StrictSorted b.labels := by
  -- arms: nothing deleted or added (the base); nothing added (the filtered base); else filtered base and `add`, sorted
  fun_cases Builder.labels b with
  | case1 => exact hb
  | case2 => exact List.Pairwise.filter _ hb
  | case3 =>
    apply sortByName_sorted
    simp only [names, List.map_append]
    refine List.nodup_append.mpr ⟨names_filter_nodup _ _ (strictSorted_names_nodup _ hb), ha, ?_⟩
    -- a base label is kept only if `add` has none of its name
    rintro _ hx _ hy rfl
    obtain ⟨l, hl, rfl⟩ := List.mem_map.mp hx
    have hf := (List.mem_filter.mp hl).2
    simp only [Bool.and_eq_true, Bool.not_eq_true'] at hf
    exact hasName_eq_false.mp hf.2 hy

theorem extend_sorted (lset ext : Labels) (h : StrictSorted lset) : StrictSorted (extendSorted lset ext) := by
  -- arms: no external labels (`lset` as it is); else the Builder's labels after one `Set` per external label
  fun_cases extendSorted lset ext with
  | case1 => exact h
  | case2 =>
    -- every `Set` keeps the base as it is and the names of `add` distinct
    have inv : ∀ (ext : Labels) (b : Builder), StrictSorted b.base → (names b.add).Nodup →
        StrictSorted (ext.foldl (fun b l => b.set l.1 l.2) b).labels := by
      intro ext
      induction ext with
      | nil => exact labels_sorted
      | cons x xs ih => exact fun b hb ha => ih _ (base_set b x.1 x.2 ▸ hb) (add_nodup_set b x.1 x.2 ha)
    exact inv ext _ h List.nodup_nil

theorem extendSorted_noEmpty (lset ext : Labels) (he : StrictSorted ext) (hne : NoEmpty ext) (hl : NoEmpty lset)
    (hs : StrictSorted lset) : NoEmpty (extendSorted lset ext) := by
  intro x hx hx0
  -- `x` is what `lookup` finds under its name, and that is a value of `ext` or of `lset`
  have h1 := mem_lookup _ (extend_sorted lset ext hs) x hx
  rw [extend_get lset ext x.1 he hne hl, hx0] at h1
  cases h2 : lookup ext x.1 with
  | some v =>
    rw [h2] at h1
    exact lookup_ne_zero ext hne x.1 (h2.trans h1)
  | none =>
    rw [h2] at h1
    exact lookup_ne_zero lset hl x.1 h1

end Thanos.Labels
