import Thanos.Model.MultiRing
/-
  Routing of a tenant by `multiHashring.GetN` (`route`) and its cache.  With no malformed glob pattern
  (`WellFormed`) routing is first match: `route` answers the index of the first configuration that `Accepts` the
  tenant (`routeFrom_eq`; `findIdx?_decide_eq_some_iff` reads that index as "accepted here and nowhere before").
  A cache all of whose entries are what `route` selects (`Sound`) answers like `route` and stays so, whatever is
  asked of it (`getN_sound`; over request histories `getNSeq_eq`, `getNSeqN_eq`).  With replica indices, hashring
  `i` answers exactly the requests routed to it (`answer_by_iff`).  Read by Props/C27.
-/
namespace Thanos.MultiRing

/-- core's `List.findIdx?_eq_some_iff_getElem` with positions read by `[·]?` and a decidable proposition as the test -/
theorem findIdx?_decide_eq_some_iff {α : Type} {P : α → Prop} [DecidablePred P] {l : List α} {i : Nat} :
    l.findIdx? (fun a => decide (P a)) = some i ↔
      (∃ a, l[i]? = some a ∧ P a) ∧ ∀ j, j < i → ∀ a, l[j]? = some a → ¬ P a := by
  rw [List.findIdx?_eq_some_iff_getElem]
  constructor
  · rintro ⟨h, hp, hall⟩
    refine ⟨⟨l[i], List.getElem?_eq_getElem h, of_decide_eq_true hp⟩, fun j hj a ha => ?_⟩
    obtain ⟨hlt, rfl⟩ := List.getElem?_eq_some_iff.mp ha
    exact of_decide_eq_false (Bool.eq_false_iff.mpr (hall j hj))
  · rintro ⟨⟨a, ha, hacc⟩, hall⟩
    obtain ⟨h, rfl⟩ := List.getElem?_eq_some_iff.mp ha
    exact ⟨h, decide_eq_true hacc, fun j hj => by
      simpa using hall j hj _ (List.getElem?_eq_getElem (Nat.lt_trans hj h))⟩

/-- configuration `c` takes the tenant: it has no tenant list (a default hashring) or its tenant set matches -/
def Accepts (c : Cfg) (tenant : String) : Prop := c.tenants = [] ∨ setMatch c tenant = .yes

instance (c : Cfg) (tenant : String) : Decidable (Accepts c tenant) := by unfold Accepts; infer_instance

/-- no `filepath.Match` call reports ErrBadPattern -/
def WellFormed (cfgs : List Cfg) : Prop := ∀ c ∈ cfgs, GlobRes.bad ∉ c.glob

theorem setMatch_wf {c : Cfg} (tenant : String) (h : GlobRes.bad ∉ c.glob) :
    setMatch c tenant = .yes ∨ setMatch c tenant = .no := by
  unfold setMatch
  cases c.typ with
  | exact => by_cases hm : tenant ∈ c.tenants <;> simp [hm]
  | glob =>
    simp only [globSet]
    by_cases hy : GlobRes.yes ∈ c.glob <;> simp [h, hy]
  | other => simp

theorem routeFrom_cons_of_accepts {c : Cfg} {tenant : String} (h : Accepts c tenant) (k : Nat) (cs : List Cfg) :
    routeFrom tenant k (c :: cs) = .ring k := by
  rw [routeFrom]
  split
  · rfl
  · rename_i he
    rw [h.resolve_left fun h0 => he (by rw [h0]; rfl)]

theorem routeFrom_cons_of_not_accepts {c : Cfg} {tenant : String} (hc : GlobRes.bad ∉ c.glob)
    (h : ¬ Accepts c tenant) (k : Nat) (cs : List Cfg) :
    routeFrom tenant k (c :: cs) = routeFrom tenant (k + 1) cs := by
  have hno : setMatch c tenant = .no := (setMatch_wf tenant hc).resolve_left fun hy => h (Or.inr hy)
  have he : ¬ c.tenants.isEmpty = true := fun he => h (Or.inl (List.isEmpty_iff.mp he))
  rw [routeFrom, if_neg he, hno]

theorem routeFrom_eq (tenant : String) : ∀ (cfgs : List Cfg) (k : Nat), WellFormed cfgs →
    routeFrom tenant k cfgs =
      match cfgs.findIdx? (fun c => decide (Accepts c tenant)) with
      | some j => .ring (k + j)
      | none => .none
  | [], _, _ => rfl
  | c :: cs, k, wf => by
    rw [List.findIdx?_cons]
    by_cases hacc : Accepts c tenant
    · rw [routeFrom_cons_of_accepts hacc, if_pos (decide_eq_true hacc)]; rfl
    · rw [routeFrom_cons_of_not_accepts (wf c List.mem_cons_self) hacc, if_neg (by simpa using hacc),
        routeFrom_eq tenant cs (k + 1) fun c' h => wf c' (List.mem_cons_of_mem _ h)]
      cases cs.findIdx? fun c => decide (Accepts c tenant) with
      | none => rfl
      | some j => exact congrArg Route.ring (by rw [Nat.add_assoc, Nat.add_comm 1])

/-- every cached entry is the hashring that `route` selects for its tenant -/
def Sound (view : String → List Cfg) (cache : Cache) : Prop :=
  ∀ t i, cache.get t = some i → route t (view t) = .ring i

theorem sound_nil (view : String → List Cfg) : Sound view [] := by
  intro t i h; simp [Cache.get] at h

theorem sound_cons {view : String → List Cfg} {cache : Cache} {tenant : String} {i : Nat}
    (hs : Sound view cache) (hr : route tenant (view tenant) = .ring i) : Sound view ((tenant, i) :: cache) := by
  intro t j h
  rw [Cache.get] at h
  split at h
  · rename_i ht
    cases h; exact ht ▸ hr
  · exact hs t j h

theorem getN_sound (view : String → List Cfg) (cache : Cache) (tenant : String) (hs : Sound view cache) :
    (getN view cache tenant).1 = route tenant (view tenant) ∧ Sound view (getN view cache tenant).2 := by
  unfold getN
  cases hg : cache.get tenant with
  | some i => exact ⟨(hs tenant i hg).symm, hs⟩
  | none =>
    cases hr : route tenant (view tenant) with
    | ring i => exact ⟨rfl, sound_cons hs hr⟩
    | _ => exact ⟨rfl, hs⟩

theorem getNSeq_eq (view : String → List Cfg) : ∀ (ts : List String) (cache : Cache), Sound view cache →
    getNSeq view cache ts = ts.map (fun t => route t (view t))
  | [], _, _ => rfl
  | t :: ts, cache, hs => by
    obtain ⟨h1, h2⟩ := getN_sound view cache t hs
    simp only [getNSeq, List.map_cons]
    rw [h1, getNSeq_eq view ts _ h2]

theorem getNSeqN_eq (view : String → List Cfg) (sizes : List Nat) : ∀ (reqs : List (String × Nat)) (cache : Cache),
    Sound view cache → getNSeqN view sizes cache reqs = reqs.map (fun r => answer sizes r.2 (route r.1 (view r.1)))
  | [], _, _ => rfl
  | (t, n) :: ts, cache, hs => by
    obtain ⟨h1, h2⟩ := getN_sound view cache t hs
    simp only [getNSeqN, List.map_cons]
    rw [h1, getNSeqN_eq view sizes ts _ h2]

/-- hashring `i` answers, with a node or with its own error, exactly the requests routed to it: whatever the
    configurations that routed them -/
theorem answer_by_iff {sizes : List Nat} {n i : Nat} (hi : i < sizes.length) (r : Route) :
    (answer sizes n r = .served i ∨ ∃ s, answer sizes n r = .insufficient i s) ↔ r = .ring i := by
  constructor
  · intro h
    cases r with
    | ring j =>
      rw [answer] at h
      split at h
      · split at h
        · exact congrArg Route.ring (Ans.served.inj (h.resolve_right nofun))
        · obtain ⟨s, hs⟩ := h.resolve_left nofun
          exact congrArg Route.ring (Ans.insufficient.inj hs).1
      · exact h.elim nofun nofun
    | _ => exact h.elim nofun nofun
  · rintro rfl
    rw [answer, List.getElem?_eq_getElem hi]
    dsimp only
    split
    · exact Or.inl rfl
    · exact Or.inr ⟨_, rfl⟩

end Thanos.MultiRing
