import Thanos.Lemmas.QuorumCounts
import Thanos.Lemmas.QuorumCause
import Thanos.Lemmas.ListFacts
/-
  C22 / C23 (`fanoutForward`): the response loop.  It stops early only when every series is
  decided, and a decided series keeps its entry (`entry_stable`), so the early return does not
  change what is reported (`loop_eq_final`).  Acknowledgement (`loop_ok_iff`) and status
  (`final_status`) are functions of the counts.  The thresholds of the code (`quorumOf`, `failThr`,
  out of `nrepOf` replicas) meet `Params` (`params_of`); `writeQuorum` is a bare majority except
  for rf = 2.  A request that `handle` carried through is `fanout` on a complete fan-out
  (`handle_done`).
-/
namespace Thanos.Quorum

/-- the replicas a series of the request is written to: `len(params.replicas)` in `fanoutForward`, 1 for an already
    replicated request; `thresholds` spells the three numbers inline (`thresholds_eq`) -/
def nrepOf (rf : Nat) (replicated : Bool) : Nat := if replicated then 1 else rf

/-- the write quorum of a request (`successThreshold`): `writeQuorum rf`, or the addressed replica alone -/
def quorumOf (rf : Nat) (replicated : Bool) : Nat := if replicated then 1 else writeQuorum rf

/-- `failureThreshold`: number of failed replicas after which the quorum is out of reach -/
def failThr (rf : Nat) (replicated : Bool) : Nat := nrepOf rf replicated - quorumOf rf replicated + 1

/-- the answers a script stands for, as `handle` computes them: entry `((endpoint, replica), outcome)` answers the write
    of `ws` with that key, `none` if there is no such write -/
def respsOf (ws : Writes) (script : List ((Nat × Nat) × Outcome)) : Option (List Resp) :=
  script.mapM (fun e => (lookupWrite e.1 ws).map (fun ids => Resp.mk ids e.2))

/-- The entry of a decided series in `collect` (the value its `filterMap` gives for the series: the
    cause once `fT` errors are there) is the same after more answers: with `sT` successes no `fT`
    failures fit into `nrep` answers, and `fT` conflicts stay the largest class. -/
theorem entry_stable {sT fT nrep : Nat} (P : Params sT fT nrep) (k : Nat) (es more : List ErrKind)
    (hb : k + (es ++ more).length ≤ nrep) (hwf : ∀ x, x ∈ es ++ more → wfKind x = true)
    (hd : sT ≤ k ∨ fT ≤ countConflict es) :
    (if es.length ≥ fT then some (replCause fT es) else none) =
    (if (es ++ more).length ≥ fT then some (replCause fT (es ++ more)) else none) := by
  have hle : es.length ≤ (es ++ more).length := List.length_append ▸ Nat.le_add_right _ _
  have hn : (es ++ more).length ≤ nrep := Nat.le_trans (Nat.le_add_left _ k) hb
  rcases hd with hs | hc
  · rw [if_neg (Nat.not_le.2 (P.lt_fT hs (Nat.le_trans (Nat.add_le_add_left hle k) hb))),
      if_neg (Nat.not_le.2 (P.lt_fT hs hb))]
  · have hl : fT ≤ es.length := Nat.le_trans hc List.countP_le_length
    rw [if_pos hl, if_pos (Nat.le_trans hl hle),
      replCause_conflict P es (List.forall_mem_append.1 hwf).1 (Nat.le_trans hle hn) hc,
      replCause_conflict P (es ++ more) hwf hn (countConflict_append es more ▸ Nat.le_trans hc (Nat.le_add_right _ _))]

theorem canReturnEarly_iff {n sT fT : Nat} {s : St} :
    canReturnEarly n sT fT s = true ↔ ∀ i, i < n → (sT ≤ s.succ i ∨ fT ≤ countConflict (s.errs i)) := by
  simp only [canReturnEarly, List.all_eq_true, List.mem_range, Bool.not_eq_true', Bool.and_eq_false_iff,
    decide_eq_false_iff_not, Nat.not_lt]

/-- the answers the loop has taken from the channel when it returns -/
def consumed (n sT fT : Nat) : St → List Resp → List Resp
  | _, [] => []
  | s, r :: rs => if canReturnEarly n sT fT (step s r) then [r] else r :: consumed n sT fT (step s r) rs

theorem consumed_prefix (n sT fT : Nat) (s : St) (rs : List Resp) : consumed n sT fT s rs <+: rs := by
  -- case1: the channel is closed; case2: the loop returns after `r`; case3: it goes on
  fun_induction consumed n sT fT s rs with
  | case1 => exact List.prefix_refl _
  | case2 s r rs h => exact (List.prefix_cons_inj r).2 List.nil_prefix
  | case3 s r rs h ih => exact (List.prefix_cons_inj r).2 ih

theorem loop_eq_finish_consumed (n sT fT thr : Nat) (s : St) (rs : List Resp) :
    loop n sT fT thr s rs = finish n fT thr ((consumed n sT fT s rs).foldl step s) := by
  fun_induction consumed n sT fT s rs with
  | case1 => rfl
  | case2 s r rs h => simp [loop, h]
  | case3 s r rs h ih => simp [loop, h, ih]

theorem consumed_early_or_all (n sT fT : Nat) (s : St) (rs : List Resp) :
    consumed n sT fT s rs = rs ∨ canReturnEarly n sT fT ((consumed n sT fT s rs).foldl step s) = true := by
  fun_induction consumed n sT fT s rs with
  | case1 => exact .inl rfl
  | case2 s r rs h => exact .inr h
  | case3 s r rs h ih => exact ih.imp (congrArg (r :: ·)) id

theorem mem_collect {n fT thr : Nat} {s : St} {c : RCause} :
    c ∈ collect n fT thr s ↔ ∃ i, i < n ∧ (s.errs i).length ≥ fT ∧ replCause thr (s.errs i) = c := by
  simp only [collect, List.mem_filterMap, List.mem_range, Option.ite_none_right_eq_some, Option.some.injEq]

theorem finish_ok_iff {n fT thr : Nat} {s : St} :
    finish n fT thr s = .ok ↔ ∀ i, i < n → (s.errs i).length < fT := by
  have : finish n fT thr s = .ok ↔ collect n fT thr s = [] := by
    unfold finish; cases collect n fT thr s <;> simp
  simp only [this, collect, List.filterMap_eq_nil_iff, List.mem_range, ite_eq_right_iff, reduceCtorEq, imp_false,
    Nat.not_le, ge_iff_le]

theorem collect_sentinels {n fT : Nat} (hf : 1 ≤ fT) (s : St) (c : RCause) (hc : c ∈ collect n fT fT s) :
    ∃ x, c = .sentinel x := by
  obtain ⟨i, _, hl, rfl⟩ := mem_collect.mp hc
  obtain ⟨x, hx, _⟩ := replCause_sentinel hf (s.errs i) hl
  exact ⟨x, hx⟩

/-- gRPC (`Handler.RemoteWrite`, `switch errors.Cause(err)`): with the failure threshold every
    reported cause is a sentinel, so `case nil` is reached by a nil error only -/
theorem grpcCode_finish {n fT : Nat} (hf : 1 ≤ fT) (s : St) :
    grpcCode (finish n fT fT s) = .ok ↔ finish n fT fT s = .ok := by
  refine ⟨fun h => ?_, fun h => h ▸ rfl⟩
  unfold finish at h ⊢
  cases hcs : collect n fT fT s with
  | nil => rfl
  | cons c0 cs0 =>
    obtain ⟨x, hx, _⟩ := writeCause_sentinels (c0 :: cs0) (List.cons_ne_nil _ _) (hcs ▸ collect_sentinels hf s)
    simp only [hcs, List.isEmpty_cons, Bool.false_eq_true, if_false, grpcCode, hx] at h
    cases x <;> cases h

theorem quorum_table : (List.range 7).map writeQuorum = [1, 1, 1, 2, 3, 3, 4] := rfl

theorem quorum_general (rf : Nat) (h : rf ≠ 2) : writeQuorum rf = rf / 2 + 1 := by simp [writeQuorum, h]

/-- what the proofs use of `writeQuorum` (`params_of`: the last two bounds) -/
theorem quorum_bounds (rf : Nat) (h : 1 ≤ rf) :
    1 ≤ writeQuorum rf ∧ writeQuorum rf ≤ rf ∧ 2 * writeQuorum rf ≤ rf + 2 := by
  unfold writeQuorum
  split <;> omega

theorem params_of (rf : Nat) (replicated : Bool) (h : 1 ≤ rf) :
    Params (quorumOf rf replicated) (failThr rf replicated) (nrepOf rf replicated) := by
  have ⟨_, b, c⟩ := quorum_bounds rf h
  cases replicated
  · exact ⟨b, c, (Nat.add_assoc ..).symm.trans (congrArg (· + 1) (Nat.add_sub_cancel' b))⟩
  · exact ⟨Nat.le_refl 1, Nat.le_succ 2, rfl⟩

theorem thresholds_eq (sel : ThrSel) (rf : Nat) (replicated : Bool) :
    thresholds sel rf replicated = (quorumOf rf replicated, failThr rf replicated,
      match sel with | .success => quorumOf rf replicated | .failure => failThr rf replicated) := by
  cases replicated <;> rfl

theorem fanout_eq (sel : ThrSel) (rf : Nat) (replicated : Bool) (n : Nat) (rs : List Resp) :
    fanout sel rf replicated n rs = loop n (quorumOf rf replicated) (failThr rf replicated)
      (match sel with | .success => quorumOf rf replicated | .failure => failThr rf replicated) St.init rs := by
  unfold fanout
  rw [thresholds_eq]

theorem loop_eq_final {sT fT nrep : Nat} (P : Params sT fT nrep) (n : Nat) (rs : List Resp)
    (hc : Complete n nrep rs) (hwf : ∀ r, r ∈ rs → ∀ k, r.out = some k → wfKind k = true) :
    loop n sT fT fT St.init rs = final n fT fT rs := by
  rw [loop_eq_finish_consumed]
  obtain ⟨rest, hrest⟩ := consumed_prefix n sT fT St.init rs
  rcases consumed_early_or_all n sT fT St.init rs with h | h
  · rw [h]
    rfl
  · generalize consumed n sT fT St.init rs = c at hrest h
    subst hrest
    have : collect n fT fT (c.foldl step St.init) = collect n fT fT ((c ++ rest).foldl step St.init) := by
      refine filterMap_congr fun i hi => ?_
      have hi := List.mem_range.mp hi
      have hb := hc.oks_add_errs hi
      have hd := canReturnEarly_iff.mp h i hi
      rw [foldl_step_succ, foldl_step_errs] at hd
      rw [oks_append, errsOf_append] at hb
      rw [foldl_step_errs, foldl_step_errs, errsOf_append]
      exact entry_stable P (oks c i) _ _ (by omega) (errsOf_append c rest i ▸ errsOf_all hwf i) hd
    unfold final finish
    rw [this]

theorem Complete.fails_iff {sT fT nrep n i : Nat} {rs : List Resp} (P : Params sT fT nrep) (hc : Complete n nrep rs)
    (hi : i < n) : fT ≤ (errsOf rs i).length ↔ oks rs i < sT :=
  P.fT_le_iff (hc.oks_add_errs hi)

/-- The status when the code passes the failure threshold to `replCause`. -/
theorem final_status {sT fT nrep : Nat} (P : Params sT fT nrep) (n : Nat) (rs : List Resp)
    (hc : Complete n nrep rs) (hwf : ∀ r, r ∈ rs → ∀ k, r.out = some k → wfKind k = true) :
    httpStatus (final n fT fT rs) = verdict sT fT n (oks rs) (conflictsOf rs) := by
  have hall : ∀ p : RCause → Prop, (∀ c, c ∈ collect n fT fT (rs.foldl step St.init) → p c) ↔
      ∀ i, i < n → oks rs i < sT → p (replCause fT (errsOf rs i)) := fun p => by
    simp only [mem_collect, foldl_step_errs]
    exact ⟨fun h i hi hlt => h _ ⟨i, hi, (hc.fails_iff P hi).2 hlt, rfl⟩,
      fun h c ⟨i, hi, hl, e⟩ => e ▸ h i hi ((hc.fails_iff P hi).1 hl)⟩
  -- both sides are `if A then 200 else if B then 409 else 503`; `hall` turns a statement about all collected
  -- causes into one about all failing series: at `p := False` for A, at "is a conflict" for B
  refine (httpStatus_causes _ (collect_sentinels P.fT_pos _)).trans
    (ite_congr (propext ?_) (fun _ => rfl) fun _ => ite_congr (propext ((hall _).trans ?_)) (fun _ => rfl) fun _ => rfl)
  · exact List.eq_nil_iff_forall_not_mem.trans
      ((hall fun _ => False).trans (forall_congr' fun i => forall_congr' fun _ => Nat.not_lt))
  · exact forall_congr' fun i => forall_congr' fun hi => forall_congr' fun hlt =>
      replCause_conflict_iff P _ (errsOf_all hwf i) (hc.oks_add_errs hi ▸ Nat.le_add_left _ _)
        ((hc.fails_iff P hi).2 hlt)

/-- The acknowledgement decision of `fanoutForward`, whatever threshold the replication errors
    carry; when it acknowledges, the successes are among the answers consumed so far. -/
theorem loop_ok_iff {sT fT nrep : Nat} (P : Params sT fT nrep) (n thr : Nat) (rs : List Resp)
    (hc : Complete n nrep rs) :
    (loop n sT fT thr St.init rs = .ok ↔ ∀ i, i < n → sT ≤ oks rs i) ∧
    (loop n sT fT thr St.init rs = .ok → ∀ i, i < n → sT ≤ oks (consumed n sT fT St.init rs) i) := by
  have hpre := consumed_prefix n sT fT St.init rs
  have hsound : loop n sT fT thr St.init rs = .ok → ∀ i, i < n → sT ≤ oks (consumed n sT fT St.init rs) i := by
    intro hok i hi
    rw [loop_eq_finish_consumed, finish_ok_iff] at hok
    have hl := hok i hi
    rw [foldl_step_errs] at hl
    rcases consumed_early_or_all n sT fT St.init rs with hfull | hearly
    · rw [hfull] at hl ⊢
      exact Nat.not_lt.1 fun hlt => Nat.not_le.2 hl ((hc.fails_iff P hi).2 hlt)
    · rcases canReturnEarly_iff.mp hearly i hi with hs | hcf
      · rwa [foldl_step_succ] at hs
      · rw [foldl_step_errs] at hcf
        exact absurd (Nat.le_trans hcf List.countP_le_length) (Nat.not_le.2 hl)
  refine ⟨⟨fun hok i hi => Nat.le_trans (hsound hok i hi) (counts_mono hpre i).1, fun hall => ?_⟩, hsound⟩
  rw [loop_eq_finish_consumed, finish_ok_iff]
  intro i hi
  rw [foldl_step_errs]
  exact Nat.lt_of_le_of_lt (counts_mono hpre i).2 (P.lt_fT (hall i hi) (Nat.le_of_eq (hc.oks_add_errs hi)))

theorem replicasOf_length (rf rep : Nat) : (replicasOf rf rep).length = nrepOf rf (decide (rep ≠ 0)) := by
  unfold replicasOf nrepOf
  by_cases h0 : rep = 0 <;> simp [h0]

/-- a request that `handle` carried through and whose writes were each answered once: the result is
    `fanoutForward`'s on a complete fan-out, whichever threshold the replication errors carry — so what
    is proved of `fanout` on `Complete` answers holds of the handled request -/
theorem handle_done {sel : ThrSel} {rf rep : Nat} {placement : List (List Nat)} {script : List ((Nat × Nat) × Outcome)}
    {ws : Writes} {r : Result} {rs : List Resp} (hh : handle sel rf rep placement script = .done ws r)
    (hrs : respsOf ws script = some rs)
    (hans : (rs.map (·.ids)).Perm (ws.map (·.2))) :
    r = fanout sel rf (decide (rep ≠ 0)) placement.length rs ∧
      Complete placement.length (nrepOf rf (decide (rep ≠ 0))) rs := by
  unfold handle at hh
  split at hh
  · cases hh
  · split at hh
    · cases hh
    · rename_i ws0 hd
      split at hh
      · cases hh
      · rename_i rs0 hm
        obtain ⟨rfl, rfl⟩ := Handled.done.inj hh
        cases hm.symm.trans hrs
        exact ⟨rfl, replicasOf_length rf rep ▸ distribute_complete _ _ _ _ hd hans⟩

end Thanos.Quorum
