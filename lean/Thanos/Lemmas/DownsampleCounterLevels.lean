import Thanos.Lemmas.DownsampleAggrLoop
import Thanos.Lemmas.DownsampleCounterRead
import Thanos.Lemmas.DownsampleCounterWrite
/-
  For C37, the two levels.  Level 1: the chunks of DownsampleRaw carry the `ctrChunk`s of the segments `segsOf`
  (`level1_segs`).  From one level to the next: downsampleFloatAggrBatch reads the counter sub-chunks of a group of
  chunks back (Lemmas/DownsampleCounterRead) and writes one from what it read (Lemmas/DownsampleCounterWrite); the
  sub-chunk is again `ctrChunk` of the group's raw samples (`aggrCounter_group`), and so for every chunk of
  downsampleAggrLoop (`aggrLoop_counter`); what the reader returns for the new level: `aggrLoop_readback`.  The step
  takes `SegsOK r1` and yields `SegOK` per segment only: the output is not shown to meet `SegsOK r2` again (no
  `cover`), so it does not iterate to a third level, which thanos does not have.
-/
namespace Thanos.Downsample

/-- the segments (batch, emission timestamps) behind the chunks of DownsampleRaw -/
def segsOf (r : Int) (nc : Nat) (data : List Raw) : List (List Pt × List Int) :=
  (batchesOf r nc data).map fun b => (b, batchTs r b (lastT b))

/-- the level-1 chunks as counter chunks of the batches, for any int64 timestamps (`RawIn`) -/
theorem level1_segs (r : Int) (hr : 0 < r) (data : List Raw) (nc : Nat) (hnc : 0 < nc) (ok : RawIn data)
    (hv : ∀ p ∈ dropNaN data, 0 ≤ p.2) :
    ∃ chunks, downsampleRaw data r nc = some chunks ∧
      chunks.map (·.counter) = (segsOf r nc data).map (fun sg => ctrChunk sg.1 sg.2) ∧
      (∀ sg ∈ segsOf r nc data, SegOK sg.1 sg.2 ∧
        ∀ u ∈ sg.1, ∃ e ∈ segTs sg.1 sg.2, u.1 ≤ e ∧ e ≤ currentWindow u.1 r) ∧
      (segsOf r nc data).flatMap (·.1) = dropNaN data := by
  obtain ⟨hflat, hne, _⟩ := ptBatches_props r hr data nc ok.sorted
  have hper : ∀ b ∈ batchesOf r nc data, (chunkOf r b).counter = ctrChunk b (batchTs r b (lastT b)) ∧
      SegOK b (batchTs r b (lastT b)) ∧
      ∀ u ∈ b, ∃ e ∈ segTs b (batchTs r b (lastT b)), u.1 ≤ e ∧ e ≤ currentWindow u.1 r := fun b hb => by
    obtain ⟨hs, h0, _, _, t0, v0, lt, lv, hh, hl, hlt⟩ := batch_facts (r := r) (nc := nc) ok hflat hne b hb
    obtain ⟨hok, hcov, hc⟩ := floatBatch_counter r hr hh hl h0 hs fun p hp => hv p (hflat ▸ List.mem_flatten.mpr ⟨b, hb, hp⟩)
    rw [hlt]
    exact ⟨hc _ (floatBatch_chunkOf r (hne b hb)), hok, hcov⟩
  refine ⟨_, downsampleRaw_eq r data hnc, ?_, fun sg hsg => ?_, ?_⟩
  · rw [segsOf, List.map_map, List.map_map]
    exact List.map_congr_left fun b hb => (hper b hb).1
  · obtain ⟨b, hb, rfl⟩ := List.mem_map.mp hsg
    exact (hper b hb).2
  · rw [← hflat, segsOf, List.flatMap_def, List.map_map]
    exact congrArg List.flatten (List.map_id' _)

/-- a group of consecutive segments (the chunks of one level that one chunk of the next is made from): `SegsOK`
    without `nonnegV`, with `ne` -/
structure GroupOK (r1 : Int) (segs : List (List Pt × List Int)) : Prop where
  ne : segs ≠ []
  segok : ∀ sg ∈ segs, SegOK sg.1 sg.2
  sorted : Sorted (segs.flatMap (·.1))
  nonnegT : ∀ p ∈ segs.flatMap (·.1), 0 ≤ p.1
  cover : ∀ sg ∈ segs, ∀ u ∈ sg.1, ∃ e ∈ segTs sg.1 sg.2, u.1 ≤ e ∧ e ≤ currentWindow u.1 r1

/-- `T`: the emission timestamps of the `r2` windows over what the reader returned -/
theorem aggrCounter_group {r1 r2 : Int} (hr2 : 0 < r2) (hnest : ∀ t, currentWindow t r1 ≤ currentWindow t r2)
    {part : List Chunk} {segs : List (List Pt × List Int)}
    (hpart : part.map (·.counter) = segs.map (fun sg => ctrChunk sg.1 sg.2))
    (g : GroupOK r1 segs) (hv : ∀ p ∈ segs.flatMap (·.1), 0 ≤ p.2) :
    ∃ T, (floatAggrBatch part r2).counter = ctrChunk (segs.flatMap (·.1)) T ∧ SegOK (segs.flatMap (·.1)) T := by
  obtain ⟨sg0, hsg0⟩ := List.exists_mem_of_ne_nil _ g.ne
  obtain ⟨t0, v0, lt, lv, hf, hl⟩ := ends_of_ne_nil (vs := segs.flatMap (·.1))
    fun h => (g.segok sg0 hsg0).ne (List.flatMap_eq_nil_iff.mp h sg0 hsg0)
  -- every counter sub-chunk of the group is non-empty
  have hacs : (part.map (·.counter)).filter (fun c => !c.isEmpty) = segs.map (fun sg => ctrChunk sg.1 sg.2) := by
    rw [hpart]
    refine List.filter_eq_self.mpr fun c hc => ?_
    obtain ⟨sg, hsg, rfl⟩ := List.mem_map.mp hc
    obtain ⟨_, _, _, _, h1, h2⟩ := ends_of_ne_nil (g.segok sg hsg).ne
    rw [ctrChunk_eq _ h1 h2]
    rfl
  -- the reader returns for them the adjusted raw counter at the timestamps `Ts`, which cover the raw samples
  obtain ⟨hout, hlastV⟩ := applyResets_segs segs g.segok g.sorted
  rw [← List.map_flatMap] at hout
  obtain ⟨hts, hth, htl⟩ := groupTs_facts g.segok g.sorted hf hl
  have hcov : ∀ u ∈ segs.flatMap (·.1), ∃ e ∈ segs.flatMap (fun sg => segTs sg.1 sg.2),
      u.1 ≤ e ∧ e ≤ currentWindow u.1 r1 := fun u hu => by
    obtain ⟨sg, hsg, hus⟩ := List.mem_flatMap.mp hu
    obtain ⟨e, he, hue⟩ := g.cover sg hsg u hus
    exact ⟨e, List.mem_flatMap.mpr ⟨sg, hsg, he⟩, hue⟩
  have ht0 : 0 ≤ t0 := g.nonnegT (t0, v0) (List.mem_of_head? hf)
  have hrs := g.sorted
  -- from here on only the raw samples `raw`, the timestamps `Ts` and the buffer `buf` over them matter
  generalize (segs.flatMap fun sg => segTs sg.1 sg.2) = Ts at hout hts hth htl hcov
  generalize segs.flatMap (·.1) = raw at hv hf hl hout hlastV hcov hrs ⊢
  have htb := bounds_of_pairwise id hts hth htl
  have hkey := adjAt_track_eq hr2 hnest hrs hv hts (fun t ht => (htb t ht).2) hcov
  generalize hbuf : (Ts.map fun t => (t, adjAt raw t)) = buf at hout hkey
  have hbsorted : Sorted buf := hbuf ▸ List.pairwise_map.mpr hts
  have hbhead : buf.head? = some (t0, v0) := by
    rw [← hbuf, List.head?_map, hth, Option.map_some, adjAt_head hrs hf]
  have hblast : buf.getLast? = some (lt, adjAt raw lt) := by
    rw [← hbuf, List.getLast?_map, htl, Option.map_some]
  have hbb := bounds_of_pairwise (fun p : Pt => p.1) hbsorted hbhead hblast
  -- nothing is skipped by expandXor
  have hexp : expandXor buf 0 = buf := expandXor_id _ 0 hbsorted fun p hp => Int.le_trans ht0 (hbb p hp).1
  obtain ⟨hok, out, hdb, hctr⟩ := batch_ctrChunk r2 hr2 hrs hv hf hl hbhead hblast
    (fun p hp => Int.lt_of_lt_of_le (Int.lt_of_lt_of_le (by decide : minInt64 < 0) ht0) (hbb p hp).1) hbsorted hkey
  refine ⟨_, ?_, hok⟩
  simp only [floatAggrBatch, ← hctr, hacs, hout, hlastV _ hl, hexp, hbhead, hdb]

/-- consecutive segments of a raw counter series, each covered by its emission timestamps -/
structure SegsOK (r1 : Int) (segs : List (List Pt × List Int)) : Prop where
  segok : ∀ sg ∈ segs, SegOK sg.1 sg.2
  sorted : Sorted (segs.flatMap (·.1))
  nonnegT : ∀ p ∈ segs.flatMap (·.1), 0 ≤ p.1
  nonnegV : ∀ p ∈ segs.flatMap (·.1), 0 ≤ p.2
  cover : ∀ sg ∈ segs, ∀ u ∈ sg.1, ∃ e ∈ segTs sg.1 sg.2, u.1 ≤ e ∧ e ≤ currentWindow u.1 r1

theorem SegsOK.split {r1 : Int} {a b : List (List Pt × List Int)} (h : SegsOK r1 (a ++ b)) :
    SegsOK r1 a ∧ SegsOK r1 b := by
  obtain ⟨h1, h2, h3, h4, h5⟩ := h
  rw [List.flatMap_append] at h2 h3 h4
  rw [List.forall_mem_append] at h1 h3 h4 h5
  have hp := List.pairwise_append.mp h2
  exact ⟨⟨h1.1, hp.1, h3.1, h4.1, h5.1⟩, ⟨h1.2, hp.2.1, h3.2, h4.2, h5.2⟩⟩

/-- `segs2`: one segment per output chunk, the concatenated raw samples of its group; the groups partition
    the series -/
theorem aggrLoop_counter {r1 r2 : Int} (hr2 : 0 < r2) (hnest : ∀ t, currentWindow t r1 ≤ currentWindow t r2)
    (bs : Nat) (hbs : 1 ≤ bs) :
    ∀ (fuel : Nat) (chks : List Chunk) (segs : List (List Pt × List Int)) (out : List Chunk),
      chks.map (·.counter) = segs.map (fun sg => ctrChunk sg.1 sg.2) → SegsOK r1 segs →
      aggrLoop r2 bs fuel chks = .ok out →
      ∃ segs2 : List (List Pt × List Int), out.map (·.counter) = segs2.map (fun sg => ctrChunk sg.1 sg.2) ∧
        (∀ sg ∈ segs2, SegOK sg.1 sg.2) ∧ segs2.flatMap (·.1) = segs.flatMap (·.1) := by
  intro fuel chks
  -- arms as at `aggrLoop_progress`; the fourth, the only one with an output chunk, is taken last
  fun_induction aggrLoop r2 bs fuel chks with
  | case1 =>
    intro segs out hcs _ hloop
    cases hloop
    exact ⟨[], rfl, nofun, by rw [List.map_eq_nil_iff.mp hcs.symm]⟩
  | case2 => exact fun _ _ _ _ hloop => nomatch hloop
  | case3 => exact fun _ _ _ _ hloop => nomatch hloop
  | case5 _ _ _ _ _ _ hno => exact fun _ out _ _ hloop => (hno out hloop).elim
  | case4 fuel chks hne j chk _ out' hrest ih =>
    intro segs out hcs hok hloop
    cases hloop
    have hlen : segs.length = chks.length := by rw [← List.length_map (as := segs), ← hcs, List.length_map]
    have hpos : 0 < chks.length := List.length_pos_iff.mpr fun h => hne h
    have hj : 1 ≤ j := Nat.le_min.mpr ⟨hbs, hpos⟩
    -- split the segments like the chunks: the group of this iteration and the rest
    obtain ⟨okA, okB⟩ := ((List.take_append_drop j segs).symm ▸ hok : SegsOK r1 (segs.take j ++ segs.drop j)).split
    obtain ⟨segs2', h1, h2, h3⟩ := ih (segs.drop j) out' (by rw [List.map_drop, List.map_drop, hcs]) okB hrest
    have hA : segs.take j ≠ [] := List.ne_nil_of_length_pos (by
      rw [List.length_take, hlen]
      exact Nat.lt_min.mpr ⟨hj, hpos⟩)
    obtain ⟨T, hc1, hc2⟩ := aggrCounter_group hr2 hnest (part := chks.take j) (by rw [List.map_take, List.map_take, hcs])
      ⟨hA, okA.segok, okA.sorted, okA.nonnegT, okA.cover⟩ okA.nonnegV
    refine ⟨((segs.take j).flatMap (·.1), T) :: segs2', ?_, ?_, ?_⟩
    · rw [List.map_cons, List.map_cons, h1, hc1]
    · exact fun sg hsg => (List.mem_cons.mp hsg).elim (fun h => h ▸ hc2) (h2 sg)
    · rw [List.flatMap_cons, h3, ← List.flatMap_append, List.take_append_drop]

/-- **reading the counter aggregate of a re-downsampled level**, for any chunks whose counter sub-chunks are the
    `ctrChunk`s of consecutive segments of a raw series (not only those DownsampleRaw has just produced) and any
    resolution whose windows are unions of the earlier ones: every output chunk's counter is the `ctrChunk` of a segment
    of `segs2` (so it ends at the segment's last raw timestamp, `SegOK.tlast`), these segments partition the series
    again, and the reader returns the adjusted raw counter at their timestamps -/
theorem aggrLoop_readback {r1 r2 : Int} (hr2 : 0 < r2) (hnest : ∀ t, currentWindow t r1 ≤ currentWindow t r2)
    {l1 l2 : List Chunk} {nc : Nat} (hnc : 0 < nc) {segs : List (List Pt × List Int)}
    (hctr : l1.map (·.counter) = segs.map fun sg => ctrChunk sg.1 sg.2) (hok : SegsOK r1 segs)
    (e2 : downsampleAggrLoop true l1 r2 nc = .ok l2) :
    ∃ segs2 : List (List Pt × List Int), l2.map (·.counter) = segs2.map (fun sg => ctrChunk sg.1 sg.2) ∧
      (∀ sg ∈ segs2, SegOK sg.1 sg.2) ∧ segs2.flatMap (·.1) = segs.flatMap (·.1) ∧
      (applyResets (l2.map (·.counter))).1 =
        segs2.flatMap fun sg => (segTs sg.1 sg.2).map fun t => (t, adjAt (segs.flatMap (·.1)) t) := by
  rw [downsampleAggrLoop_pos hnc] at e2
  obtain ⟨segs2, hc2, hseg2, hflat2⟩ := aggrLoop_counter hr2 hnest _ (Nat.le_max_left 1 _) _ l1 _ l2 hctr hok e2
  have hlist := (applyResets_segs segs2 hseg2 (hflat2 ▸ hok.sorted)).1
  rw [hflat2, ← hc2] at hlist
  exact ⟨segs2, hc2, hseg2, hflat2, hlist⟩

end Thanos.Downsample
