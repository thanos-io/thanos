import Thanos.Model.CacheKey
import Thanos.Lemmas.ListFacts
/-
  For C43.  A key is parsed from the right one colon-free field at a time (`col_inj`) and from the
  left up to the first colon (`split_at`); the printers of its fields are injective and colon-free
  (numbers through core's `Nat.toDigits`; the replica labels because `joinComma` is `List.intercalate`
  and splitting at the commas undoes it).  `rangeKeyWith_inj` does this for the range key, whatever step and
  interval it is written for; the labels and series keys are parsed in Props/C43.lean.  The decoder of the matcher
  text reads back what a renderer wrote whose quoted values are a prefix code (`ReadsBack`, `rendered_of_readsBack`).
-/
namespace Thanos.CacheKey

theorem col_inj {a b x y : Str} (hx : ':' ∉ x) (hy : ':' ∉ y) (h : col a x = col b y) : a = b ∧ x = y :=
  split_at_right hx hy h

/-- every key has this form (`none` on a zero split interval, `some` text otherwise): a key that is `some k` is the text -/
theorem of_ite_none_eq_some {α : Type} {c : Prop} [Decidable c] {v k : α}
    (h : (if c then none else some v) = some k) : v = k :=
  Option.some.inj (Option.ite_none_left_eq_some.mp h).2

theorem showNat_inj {m n : Nat} (h : showNat m = showNat n) : m = n :=
  Nat.ofDigitChars_ten_toDigits.symm.trans ((congrArg (Nat.ofDigitChars 10 · 0) h).trans Nat.ofDigitChars_ten_toDigits)

theorem showNat_digit {n : Nat} {c : Char} (h : c ∈ showNat n) : c.isDigit :=
  Nat.isDigit_of_mem_toDigits (by decide) (by decide) h

theorem showNat_no_colon {n : Nat} : ':' ∉ showNat n := fun h =>
  absurd (showNat_digit h) (by decide)

theorem showNat_ne_nil {n : Nat} : showNat n ≠ [] := Nat.toDigits_ne_nil

theorem showNat_ne_dash {n : Nat} {s : Str} : showNat n ≠ '-' :: s := fun h =>
  absurd (showNat_digit (h ▸ List.mem_cons_self ..)) (by decide)

theorem showInt_inj : ∀ {i j : Int}, showInt i = showInt j → i = j
  | .ofNat _, .ofNat _, h => congrArg Int.ofNat (showNat_inj h)
  | .negSucc _, .negSucc _, h => congrArg Int.negSucc (Nat.succ.inj (showNat_inj (List.cons.inj h).2))
  | .ofNat _, .negSucc _, h => absurd h showNat_ne_dash
  | .negSucc _, .ofNat _, h => absurd h.symm showNat_ne_dash

theorem showInt_chars {i : Int} {c : Char} (h : c ∈ showInt i) : c.isDigit ∨ c = '-' := by
  cases i with
  | ofNat n => exact Or.inl (showNat_digit h)
  | negSucc n =>
    simp only [showInt, List.mem_cons] at h
    rcases h with h | h
    · exact Or.inr h
    · exact Or.inl (showNat_digit h)

theorem showInt_no_colon {i : Int} : ':' ∉ showInt i := by
  intro h; rcases showInt_chars h with h | h <;> revert h <;> decide

theorem showInt_ne_dash : ∀ {i : Int}, showInt i ≠ ['-']
  | .ofNat _ => showNat_ne_dash
  | .negSucc _ => fun h => showNat_ne_nil (List.cons.inj h).2

theorem showInt_ne_showBool {i : Int} {b : Bool} : showInt i ≠ showBool b := by
  intro e
  have hc : ∀ c ∈ showBool b, c.isDigit ∨ c = '-' := fun c hc => showInt_chars (e ▸ hc)
  cases b
  · exact absurd (hc 'f' (List.mem_cons_self ..)) (by decide)
  · exact absurd (hc 't' (List.mem_cons_self ..)) (by decide)

theorem showBool_inj : ∀ {a b : Bool}, showBool a = showBool b → a = b := by decide

theorem showBool_no_colon : ∀ {a : Bool}, ':' ∉ showBool a := by decide

theorem perm_insertS (x : Str) : ∀ l : List Str, (insertS x l).Perm (x :: l)
  | [] => .refl _
  | y :: l => by
    rw [insertS]
    split
    · exact .refl _
    · exact ((perm_insertS x l).cons y).trans (.swap ..)

theorem perm_sortS : ∀ l : List Str, (sortS l).Perm l
  | [] => .refl _
  | x :: l => (perm_insertS x _).trans ((perm_sortS l).cons x)

/-- what a replica label must look like for the join to be unambiguous -/
def LabelOK (x : Str) : Prop := x ≠ [] ∧ ',' ∉ x ∧ ':' ∉ x

theorem sortS_ok {l : List Str} (h : ∀ x ∈ l, LabelOK x) : ∀ x ∈ sortS l, LabelOK x :=
  fun x hx => h x ((perm_sortS l).mem_iff.mp hx)

theorem joinComma_no_colon {l : List Str} (h : ∀ x ∈ l, LabelOK x) : ':' ∉ joinComma l := by
  fun_induction joinComma l with
  | case1 => exact List.not_mem_nil
  | case2 x => exact (h x (List.mem_cons_self ..)).2.2
  | case3 x y l ih =>
    rw [List.forall_mem_cons] at h
    simp only [List.mem_append, List.mem_cons, not_or]
    exact ⟨h.1.2.2, by decide, ih h.2⟩

theorem joinComma_eq_nil : ∀ {l : List Str}, (∀ x ∈ l, LabelOK x) → joinComma l = [] → l = []
  | [], _, _ => rfl
  | [x], hl, h => absurd h (hl x (List.mem_cons_self ..)).1
  | _ :: _ :: _, _, h => absurd (List.append_eq_nil_iff.mp h).2 (List.cons_ne_nil _ _)

theorem joinComma_eq : ∀ l : List Str, joinComma l = [','].intercalate l
  | [] => rfl
  | [_] => List.intercalate_singleton.symm
  | x :: y :: l => by
    rw [List.intercalate_cons_cons, ← joinComma_eq (y :: l), List.append_assoc]
    rfl

theorem splitOn_joinComma {l : List Str} (hl : ∀ x ∈ l, LabelOK x) (h : l ≠ []) : (joinComma l).splitOn ',' = l := by
  rw [joinComma_eq, List.splitOn_intercalate _ (fun x hx => (hl x hx).2.1) h]

theorem joinComma_inj {l m : List Str} (hl : ∀ x ∈ l, LabelOK x) (hm : ∀ x ∈ m, LabelOK x)
    (h : joinComma l = joinComma m) : l = m := by
  by_cases hl0 : l = []
  · subst hl0
    exact (joinComma_eq_nil hm h.symm).symm
  by_cases hm0 : m = []
  · subst hm0
    exact joinComma_eq_nil hl h
  exact (splitOn_joinComma hl hl0).symm.trans ((congrArg _ h).trans (splitOn_joinComma hm hm0))

/-- the part of a shard info that `generateShardInfoKey` writes -/
def shardView (s : Option ShardInfo) : Option (Int × Int) := s.map fun s => (s.total, s.index)

theorem col_col_eq (A x y : Str) : col A (x ++ ':' :: y) = col (col A x) y := by simp [col]

/-- the shard field is "-" or two numbers; no number prints as "-", so it is self-delimiting
    when read from the right -/
theorem col_shard_inj {A B : Str} {s s' : Option ShardInfo}
    (h : col A (shardKey s) = col B (shardKey s')) : A = B ∧ shardView s = shardView s' := by
  cases s with
  | none =>
    cases s' with
    | none => exact ⟨(col_inj (by decide) (by decide) h).1, rfl⟩
    | some t =>
      simp only [shardKey, col_col_eq] at h
      exact absurd (col_inj (by decide) showInt_no_colon h).2.symm showInt_ne_dash
  | some t =>
    cases s' with
    | none =>
      simp only [shardKey, col_col_eq] at h
      exact absurd (col_inj showInt_no_colon (by decide) h).2 showInt_ne_dash
    | some t' =>
      simp only [shardKey, col_col_eq] at h
      obtain ⟨h, i1⟩ := col_inj showInt_no_colon showInt_no_colon h
      obtain ⟨h, i2⟩ := col_inj showInt_no_colon showInt_no_colon h
      exact ⟨h, by simp [shardView, showInt_inj i1, showInt_inj i2]⟩

/-- the separators are not escaped, so the fields written next to them must be free of them: no ':' in tenant and
    engine, replica labels non-empty without ',' and ':' (`LabelOK`); otherwise the fixed-arity tail is ambiguous -/
def RangeFieldsOK (r : RangeReq) : Prop :=
  ':' ∉ r.tenant ∧ ':' ∉ r.engine ∧ ∀ x ∈ r.replicas, LabelOK x

/-- `generateQueryRangeCacheKey` separates everything it writes, for queries of any content (':' included) and for
    whatever step and interval it is called with — the request's own (`GenerateCacheKey`, `rangeKey`) or a lower step
    (`GenerateCacheKeyAlternatives`).  Parse from the right: the last ten ':'-separated fields have fixed arity (the
    shard field: `col_shard_inj`), the query is what remains after the first ':' following the colon-free tenant. -/
theorem rangeKeyWith_inj {a b : RangeReq} {s s' c c' : Int} (ha : RangeFieldsOK a) (hb : RangeFieldsOK b)
    (h : rangeKeyWith a s c = rangeKeyWith b s' c') :
    a.tenant = b.tenant ∧ a.query = b.query ∧ s = s' ∧ a.splitMs = b.splitMs ∧ c = c' ∧
    bucketOf a.msr = bucketOf b.msr ∧ shardView a.shard = shardView b.shard ∧ a.lookback = b.lookback ∧
    a.engine = b.engine ∧ a.partialResp = b.partialResp ∧ sortS a.replicas = sortS b.replicas ∧
    a.analyze = b.analyze := by
  obtain ⟨hat, hae, har⟩ := ha
  obtain ⟨hbt, hbe, hbr⟩ := hb
  have hsa := sortS_ok har
  have hsb := sortS_ok hbr
  obtain ⟨h, e12⟩ := col_inj showBool_no_colon showBool_no_colon h
  obtain ⟨h, e11⟩ := col_inj (joinComma_no_colon hsa) (joinComma_no_colon hsb) h
  obtain ⟨h, e10⟩ := col_inj showBool_no_colon showBool_no_colon h
  obtain ⟨h, e9⟩ := col_inj hae hbe h
  obtain ⟨h, e8⟩ := col_inj showInt_no_colon showInt_no_colon h
  obtain ⟨h, e7⟩ := col_shard_inj h
  obtain ⟨h, e6⟩ := col_inj showNat_no_colon showNat_no_colon h
  obtain ⟨h, e5⟩ := col_inj showInt_no_colon showInt_no_colon h
  obtain ⟨h, e4⟩ := col_inj showInt_no_colon showInt_no_colon h
  obtain ⟨h, e3⟩ := col_inj showInt_no_colon showInt_no_colon h
  -- "fe:" ++ tenant ++ ":" ++ query: the tenant ends at the first colon
  simp only [col, List.cons_append, List.nil_append, List.cons.injEq, true_and] at h
  obtain ⟨e1, e2⟩ := split_at hat hbt h
  exact ⟨e1, e2, showInt_inj e3, showInt_inj e4, showInt_inj e5, showNat_inj e6, e7, showInt_inj e8, e9,
    showBool_inj e10, joinComma_inj hsa hsb e11, showBool_inj e12⟩

theorem unquoteBody_close (f : Nat) (acc s : Str) : unquoteBody (f + 1) acc ('"' :: s) = some (acc.reverse, s) := rfl

theorem unquoteBody_escape {c : Char} (hc : c = '"' ∨ c = '\\') (f : Nat) (acc s : Str) :
    unquoteBody (f + 1) acc ('\\' :: c :: s) = unquoteBody f (c :: acc) s := by
  rcases hc with rfl | rfl <;> rfl

theorem unquoteBody_plain {c : Char} (hc : ¬ (c = '"' ∨ c = '\\')) (f : Nat) (acc s : Str) :
    unquoteBody (f + 1) acc (c :: s) = unquoteBody f (c :: acc) s := by
  rw [unquoteBody.eq_def]
  exact (if_neg fun h => hc (.inl h)).trans (if_neg fun h => hc (.inr h))

theorem unquoteBody_quoteMin : ∀ (v : Str) (fuel : Nat) (acc rest : Str), (quoteMin v).length + 1 ≤ fuel →
    unquoteBody fuel acc (quoteMin v ++ '"' :: rest) = some (acc.reverse ++ v, rest)
  | _, 0, _, _, h => absurd h (Nat.not_succ_le_zero _)
  | [], f + 1, acc, rest, _ => by rw [quoteMin, List.nil_append, unquoteBody_close, List.append_nil]
  | c :: v, f + 1, acc, rest, h => by
    have ih := unquoteBody_quoteMin v f (c :: acc) rest
    rw [List.reverse_cons, List.append_assoc] at ih
    by_cases hc : c = '"' ∨ c = '\\'
    · rw [quoteMin, if_pos hc] at h ⊢
      exact (unquoteBody_escape hc ..).trans (ih (by simp only [List.length_cons] at h; omega))
    · rw [quoteMin, if_neg hc] at h ⊢
      exact (unquoteBody_plain hc ..).trans (ih (by simp only [List.length_cons] at h; omega))

theorem span_loop_ident (rest : Str) (hr : ∀ c r, rest = c :: r → isIdentChar c = false) (n acc : Str)
    (hn : ∀ c ∈ n, isIdentChar c = true) : List.span.loop isIdentChar (n ++ rest) acc = (acc.reverse ++ n, rest) := by
  induction n generalizing acc with
  | nil =>
    cases rest with
    | nil => simp [List.span.loop]
    | cons c r => simp [List.span.loop, hr c r rfl]
  | cons c n ih =>
    rw [List.forall_mem_cons] at hn
    simp only [List.cons_append, List.span.loop, hn.1]
    rw [ih _ hn.2, List.reverse_cons, List.append_assoc]
    rfl

theorem span_ident (n rest : Str) (hn : ∀ c ∈ n, isIdentChar c = true)
    (hr : ∀ c r, rest = c :: r → isIdentChar c = false) : (n ++ rest).span isIdentChar = (n, rest) := by
  unfold List.span
  rw [span_loop_ident rest hr n [] hn]
  simp

/-- a matcher whose name is written verbatim (a legacy identifier) and whose operator exists -/
def Matcher.Plain (m : Matcher) : Prop := (∀ c ∈ m.name, isIdentChar c = true) ∧ m.op < 4

/-- what the decoder needs of the way a value is written between the quotes: it reads back, whatever follows
    the closing quote (the quoted value is a prefix code) -/
def ReadsBack (q : Str → Str) : Prop :=
  ∀ v rest, unquoteBody ((q v ++ '"' :: rest).length + 1) [] (q v ++ '"' :: rest) = some (v, rest)

theorem readsBack_quoteMin : ReadsBack quoteMin := fun v rest => unquoteBody_quoteMin v _ [] rest (by simp)

/-- a matcher and a set as `renderWith q` writes them (its local `rm`, `rs`) -/
def renderM (q : Str → Str) (m : Matcher) : Str := m.name ++ opText m.op ++ '"' :: q m.value ++ ['"']
def renderS (q : Str → Str) (ms : List Matcher) : Str := '[' :: joinSp (ms.map (renderM q)) ++ [']']

theorem joinSp_cons_append (x : Str) (l : List Str) (y : Str) :
    joinSp (x :: l) ++ y = x ++ match l with | [] => y | _ :: _ => ' ' :: (joinSp l ++ y) := by
  cases l with
  | nil => rfl
  | cons _ _ => exact List.append_assoc ..

section
variable {q : Str → Str}

theorem renderM_append (m : Matcher) (y : Str) :
    renderM q m ++ y = m.name ++ (opText m.op ++ '"' :: (q m.value ++ '"' :: y)) := by
  simp [renderM, List.append_assoc]

theorem opText_head : ∀ op, ∃ c t, opText op = c :: t ∧ (c = '=' ∨ c = '!')
  | 0 | 2 => ⟨_, _, rfl, .inl rfl⟩
  | 1 | _ + 3 => ⟨_, _, rfl, .inr rfl⟩

/-- a rendered matcher begins with an identifier character or with its operator -/
theorem renderM_head (m : Matcher) (h : m.Plain) (y r : Str) {c : Char} (hc : c = '"' ∨ c = ']') :
    renderM q m ++ y ≠ c :: r := by
  obtain ⟨o, t, eo, ho⟩ := opText_head m.op
  rw [renderM_append, eo]
  intro e
  have : isIdentChar c = true ∨ c = '=' ∨ c = '!' := by
    cases hn : m.name with
    | nil =>
      rw [hn] at e
      cases e
      exact .inr ho
    | cons a n =>
      rw [hn] at e
      cases e
      exact .inl (h.1 c (hn ▸ List.mem_cons_self ..))
  -- neither `"` nor `]` is one of these
  rcases hc with rfl | rfl <;> revert this <;> decide

theorem renderS_append (ms : List Matcher) (y : Str) :
    renderS q ms ++ y = '[' :: (joinSp (ms.map (renderM q)) ++ ']' :: y) := by
  simp [renderS, List.append_assoc]

variable (hq : ReadsBack q)
include hq

theorem unrenderMatcher_render (m : Matcher) (h : m.Plain) (y : Str) :
    unrenderMatcher (renderM q m ++ y) = some (m, y) := by
  unfold unrenderMatcher
  split
  · rename_i r e
    exact absurd e (renderM_head m h y r (.inl rfl))
  · obtain ⟨name, op, value⟩ := m
    match op, h.2 with
    | 0, _ | 1, _ | 2, _ | 3, _ =>
      -- the name ends where the operator begins; what is left is evaluated up to the quoted value
      rw [renderM_append, span_ident name _ h.1]
      · show Option.bind (unquoteBody _ [] _) _ = _
        rw [hq value y]
        rfl
      · intro c r e
        cases e
        rfl

/-- `m₁ m₂ … mₙ]` reads back; the fuel is any bound on the length of the text -/
theorem unrenderSet_render : ∀ (ms : List Matcher) (fuel : Nat) (rest : Str), (∀ m ∈ ms, m.Plain) →
    (joinSp (ms.map (renderM q)) ++ ']' :: rest).length < fuel →
    unrenderSet fuel (joinSp (ms.map (renderM q)) ++ ']' :: rest) = some (ms, rest)
  | _, 0, _, _, hf => absurd hf (Nat.not_lt_zero _)
  | [], f + 1, rest, _, _ => rfl
  | m :: l, f + 1, rest, hp, hf => by
    have hm := hp m (List.mem_cons_self ..)
    have ih := unrenderSet_render l f rest fun x hx => hp x (List.mem_cons_of_mem _ hx)
    rw [List.map_cons, joinSp_cons_append] at hf ⊢
    rw [unrenderSet.eq_3 _ _ fun r => renderM_head m hm _ r (.inr rfl), unrenderMatcher_render hq m hm]
    cases l with
    | nil => rfl
    | cons _ _ => exact congrArg (Option.bind · _) (ih (by simp only [List.map_cons, List.length_append, List.length_cons] at hf ⊢; omega))

/-- `[…] […] … […]]` reads back -/
theorem unrenderSets_render : ∀ (sets : List (List Matcher)) (fuel : Nat) (rest : Str),
    (∀ ms ∈ sets, ∀ m ∈ ms, m.Plain) → (joinSp (sets.map (renderS q)) ++ ']' :: rest).length < fuel →
    unrenderSets fuel (joinSp (sets.map (renderS q)) ++ ']' :: rest) = some (sets, rest)
  | _, 0, _, _, hf => absurd hf (Nat.not_lt_zero _)
  | [], f + 1, rest, _, _ => rfl
  | ms :: l, f + 1, rest, hp, hf => by
    have ih := unrenderSets_render l f rest fun x hx => hp x (List.mem_cons_of_mem _ hx)
    rw [List.map_cons, joinSp_cons_append, renderS_append] at hf ⊢
    rw [unrenderSets, unrenderSet_render hq ms _ _ (hp ms (List.mem_cons_self ..)) (Nat.lt_succ_self _)]
    cases l with
    | nil => rfl
    | cons _ _ => exact congrArg (Option.bind · _) (ih (by simp only [List.map_cons, List.length_append, List.length_cons] at hf ⊢; omega))

theorem rendered_of_readsBack (sets : List (List Matcher)) (hp : ∀ ms ∈ sets, ∀ m ∈ ms, m.Plain) :
    Rendered (renderWith q sets) sets := by
  show unrender ('[' :: (joinSp (sets.map (renderS q)) ++ [']'])) = some sets
  rw [unrender, unrenderSets_render hq sets _ [] hp (Nat.lt_succ_self _)]

end

end Thanos.CacheKey
