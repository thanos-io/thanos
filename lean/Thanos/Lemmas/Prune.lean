import Thanos.Model.Prune
import Thanos.Lemmas.ListFacts
/-
  What C05 takes from the model alone.  Labels are read through `get`, so the label-set algebra is `get` of `del`,
  `set`, `extend` (with unique names the external value wins, `get_extend_of_has`, so a label set that rejects the
  matchers rejects every series served under it, `matchAll_of_rejects`); `mem_served` says which series a
  store serves, `storeMatches_skip` what `storeMatches` has found when it skips a store for its time range or its
  labels, `extLoop_sound` what `matchesExternalLabels` may drop.  The loops that pick stores are filters over the
  clients paired with their positions (`matchingStores_go_eq`, `selStores_eq`), and the head of `ProxyStore.Series`
  either rejects the request or asks what they find for the forwarded matchers (`seriesDecision_of_kept`,
  `seriesDecisionSel_of_kept`).  For the TSDB selector the point is
  `matchAll_selUnion`: the matchers added for any selection of stores accept what those stores serve under the label
  sets the selector keeps.
-/
namespace Thanos.Prune

/-- label names are unique (an invariant of `labels.Labels`) -/
def WF (ls : Labels) : Prop := (ls.map (·.1)).Nodup

theorem has_eq_true_iff {ls : Labels} {n : String} : has ls n = true ↔ n ∈ ls.map (·.1) := by
  induction ls with
  | nil => simp [has]
  | cons p r ih =>
    obtain ⟨k, v⟩ := p
    by_cases h : k = n
    · simp [has, h]
    · simp only [has, h, if_false, ih, List.map_cons, List.mem_cons]
      constructor
      · exact Or.inr
      · rintro (h' | h')
        · exact absurd h'.symm h
        · exact h'

theorem get_of_not_has {ls : Labels} {n : String} (h : has ls n = false) : get ls n = "" := by
  induction ls with
  | nil => simp [get]
  | cons p r ih =>
    obtain ⟨k, v⟩ := p
    by_cases hk : k = n
    · simp [has, hk] at h
    · simp only [has, hk, if_false] at h
      simp [get, hk, ih h]

theorem get_eq_find (ls : Labels) (n : String) : get ls n = ((ls.find? (·.1 = n)).map (·.2)).getD "" := by
  induction ls with
  | nil => rfl
  | cons p r ih =>
    rw [get, List.find?_cons]
    by_cases hk : p.1 = n <;> simp [hk, ih]

theorem get_del (ls : Labels) (n m : String) : get (del ls n) m = if m = n then "" else get ls m := by
  rw [get_eq_find, del, find?_filter_key (key := (·.1)) (k := n) (k' := m) (by simp) (by simp), get_eq_find]
  split <;> rfl

/-- `labels.Builder.Set` as `get` sees it -/
theorem get_set (ls : Labels) (n v m : String) : get (set ls n v) m = if m = n then v else get ls m := by
  unfold set
  by_cases hv : v = ""
  · simp [hv, get_del]
  · by_cases hm : m = n
    · simp [hv, hm, get]
    · simp [hv, hm, get, get_del, Ne.symm hm]

theorem extend_cons (raw : Labels) (p : String × String) (e : Labels) :
    extend raw (p :: e) = extend (set raw p.1 p.2) e := by
  simp [extend]

theorem get_extend_of_not_has (e raw : Labels) (n : String) (h : has e n = false) :
    get (extend raw e) n = get raw n := by
  induction e generalizing raw with
  | nil => rfl
  | cons p e ih =>
    obtain ⟨k, v⟩ := p
    have hk : ¬ k = n := by
      intro hk; simp [has, hk] at h
    rw [extend_cons, ih _ (by simpa [has, hk] using h), get_set, if_neg (Ne.symm hk)]

/-- `ExtendSortedLabels`: the external value wins over the series' own -/
theorem get_extend_of_has (e raw : Labels) (n : String) (wf : WF e) (h : has e n = true) :
    get (extend raw e) n = get e n := by
  induction e generalizing raw with
  | nil => simp [has] at h
  | cons p e ih =>
    obtain ⟨k, v⟩ := p
    have wf' := List.nodup_cons.mp (show (k :: e.map (·.1)).Nodup from wf)
    rw [extend_cons]
    by_cases hk : k = n
    · -- names are unique: the rest of `e` leaves `n` as the head set it
      subst hk
      have hn : has e k = false := Bool.eq_false_iff.mpr (fun hh => wf'.1 (has_eq_true_iff.mp hh))
      rw [get_extend_of_not_has e _ k hn, get_set, if_pos rfl]
      simp [get]
    · rw [ih _ wf'.2 (by simpa [has, hk] using h)]
      simp [get, hk]

/-- one advertised label set `e`: if some matcher names a label `e` has and rejects its value (`lsetRejects`, the inner
    loop of `LabelSetsMatch`), no series served under `e` is selected, whatever its own labels — the external value
    wins.  `C05_sound_labels`: when `labelSetsMatch` says no, every advertised set is such a one -/
theorem matchAll_of_rejects {ms : List Matcher} {e : Labels} (h : lsetRejects ms e = true) (wf : WF e)
    (raw : Labels) : matchAll ms (extend raw e) = false := by
  simp only [lsetRejects, List.any_eq_true, Bool.and_eq_true] at h
  obtain ⟨m, hm, hhas, hno⟩ := h
  simp only [matchAll, List.all_eq_false]
  refine ⟨m, hm, ?_⟩
  rw [get_extend_of_has e raw m.name wf hhas]
  simpa using hno

theorem mem_served {c : Client} {raw : List Series} {s : Series} :
    s ∈ served c raw ↔
      c.extSets = [] ∧ s ∈ raw ∨ ∃ e ∈ c.extSets, ∃ r ∈ raw, { r with lbls := extend r.lbls e } = s := by
  unfold served
  cases c.extSets with
  | nil => simp only [List.isEmpty_nil, if_true, true_and, List.not_mem_nil, false_and, exists_false, or_false]
  | cons a l =>
    simp only [List.isEmpty_cons, Bool.false_eq_true, if_false, List.mem_flatMap, List.mem_map, reduceCtorEq,
      false_and, false_or]

theorem storeMatchDebug_cases (c : Client) (dbg : List (List Matcher)) :
    storeMatchDebug c dbg = .ok ∨ storeMatchDebug c dbg = .localStore ∨ storeMatchDebug c dbg = .addr := by
  unfold storeMatchDebug
  split
  · exact Or.inl rfl
  · split
    · exact Or.inr (Or.inl rfl)
    · split
      · exact Or.inl rfl
      · exact Or.inr (Or.inr rfl)

/-- the second is one-directional: the time range and the debug store matchers are tested before the labels -/
theorem storeMatches_skip (dbg : List (List Matcher)) (c : Client) (mint maxt : Int) (ms : List Matcher) :
    (storeMatches dbg c mint maxt ms = .time ↔ (mint > c.maxt ∨ maxt < c.mint)) ∧
    (storeMatches dbg c mint maxt ms = .extlabels → labelSetsMatch ms c.extSets = false) := by
  unfold storeMatches
  by_cases ht : mint > c.maxt ∨ maxt < c.mint
  · simp [ht]
  · rw [if_neg ht]
    rcases storeMatchDebug_cases c dbg with h | h | h <;> rw [h] <;> simp [ht]
    cases labelSetsMatch ms c.extSets <;> cases c.filterOK <;> simp

/-- the series carries the (non-empty) labels `sel` -/
def Carries (ls sel : Labels) : Prop := ∀ n, get sel n ≠ "" → get ls n = get sel n

theorem extLoop_sound (sel : Labels) (ls : Labels) (hcar : Carries ls sel) (ms : List Matcher) :
    (extLoop sel ms = none → matchAll ms ls = false) ∧
    (∀ kept, extLoop sel ms = some kept → matchAll kept ls = matchAll ms ls) := by
  induction ms with
  | nil =>
    refine ⟨fun h => (by cases h), fun kept h => ?_⟩
    cases h
    rfl
  | cons tm rest ih =>
    obtain ⟨ih1, ih2⟩ := ih
    have hcons : ∀ l, matchAll (tm :: l) ls = (tm.matches (get ls tm.name) && matchAll l ls) := fun _ => rfl
    rw [extLoop]
    by_cases hev : get sel tm.name = ""
    · -- the selector labels say nothing about this matcher: it is forwarded
      rw [if_pos hev]
      cases hr : extLoop sel rest with
      | none => exact ⟨fun _ => by rw [hcons, ih1 hr, Bool.and_false], fun kept h => by cases h⟩
      | some k =>
        refine ⟨fun h => (by cases h), fun kept h => ?_⟩
        cases h
        rw [hcons, hcons, ih2 k hr]
    · -- the series carries the selector's value for this label
      rw [if_neg hev, ← hcar _ hev]
      cases hm : tm.matches (get ls tm.name)
      · exact ⟨fun _ => by rw [hcons, hm, Bool.false_and], fun kept h => by cases h⟩
      · exact ⟨fun h => by rw [hcons, ih1 h, Bool.and_false],
          fun kept h => by rw [hcons, hm, Bool.true_and, ih2 kept h]⟩

theorem matchingStores_go_eq (dbg : List (List Matcher)) (mint maxt : Int) (ms : List Matcher)
    (cs : List Client) (base : Nat) :
    matchingStores.go dbg mint maxt ms base cs =
      ((cs.zipIdx base).filter (fun p => storeMatches dbg p.1 mint maxt ms = .ok)).map (·.2) := by
  induction cs generalizing base with
  | nil => rfl
  | cons c r ih =>
    rw [matchingStores.go, ih, List.zipIdx_cons, List.filter_cons]
    split <;> simp [*]

theorem mem_matchingStores {dbg : List (List Matcher)} {cs : List Client} {mint maxt : Int}
    {ms : List Matcher} {i : Nat} :
    i ∈ matchingStores dbg cs mint maxt ms ↔
      ∃ c, cs[i]? = some c ∧ storeMatches dbg c mint maxt ms = .ok := by
  simp [matchingStores, matchingStores_go_eq, List.mem_zipIdx_iff_getElem?]

/-- Once the selector labels leave `kept`, the head of `ProxyStore.Series` rejects the request as a whole or asks
    exactly the stores `matchingStores` finds for `kept`. -/
theorem seriesDecision_of_kept {ms kept : List Matcher} {sel : Labels} (hk : matchesExternalLabels ms sel = some kept)
    (abort : Bool) (dbg : List (List Matcher)) (cs : List Client) (mint maxt : Int) :
    seriesDecision sel abort dbg cs mint maxt ms = .invalid ∨
    seriesDecision sel abort dbg cs mint maxt ms = .unavailable ∨
    seriesDecision sel abort dbg cs mint maxt ms = .queried (matchingStores dbg cs mint maxt kept) kept := by
  unfold seriesDecision
  rw [hk]
  dsimp only
  split
  · exact .inl rfl
  split
  · exact .inr (.inl rfl)
  · exact .inr (.inr rfl)

theorem matchLabelSets_of_kept (sel : Selector) (sets : List Labels) (e : Labels) (he : e ∈ sets)
    (hk : sel.isNil = true ∨ sel.keep e = true) :
    (matchLabelSets sel sets).1 = true ∧ (sel.isNil = false → e ∈ (matchLabelSets sel sets).2) := by
  unfold matchLabelSets
  rcases hk with hk | hk
  · simp [hk]
  · have hne : sets.isEmpty = false := List.isEmpty_eq_false_iff_exists_mem.mpr ⟨e, he⟩
    cases hn : sel.isNil with
    | true => simp
    | false =>
      have hmem : e ∈ sets.filter sel.keep := List.mem_filter.mpr ⟨he, hk⟩
      simp [hne, List.isEmpty_eq_false_iff_exists_mem.mpr ⟨e, hmem⟩, hmem]

theorem matchLabelSets_sub (sel : Selector) (sets : List Labels) :
    ∀ e ∈ (matchLabelSets sel sets).2, e ∈ sets := by
  unfold matchLabelSets
  split
  · simp
  · intro e he; exact (List.mem_filter.mp he).1

theorem matchLabelSets_nil (sel : Selector) (sets : List Labels) (h : sel.isNil = true) :
    (matchLabelSets sel sets).2 = [] := by
  simp [matchLabelSets, h]

def takesPart (sel : Selector) (dbg : List (List Matcher)) (mint maxt : Int) (ms : List Matcher) (c : Client) : Bool :=
  (matchLabelSets sel c.extSets).1 && decide (storeMatches dbg c mint maxt ms = .ok)

theorem selStores_eq (sel : Selector) (dbg : List (List Matcher)) (mint maxt : Int) (ms : List Matcher)
    (cs : List Client) (base : Nat) :
    selStores sel dbg mint maxt ms base cs =
      (((cs.zipIdx base).filter (fun x => takesPart sel dbg mint maxt ms x.1)).map (·.2),
       (cs.filter (takesPart sel dbg mint maxt ms)).flatMap (fun c => (matchLabelSets sel c.extSets).2)) := by
  induction cs generalizing base with
  | nil => rfl
  | cons c r ih =>
    rw [selStores, ih, List.zipIdx_cons, List.filter_cons, List.filter_cons]
    show (if takesPart sel dbg mint maxt ms c = true then _ else _) = _
    split <;> rfl

/-- The same with a TSDB selector: what is asked, and the label sets the added matchers are made for, is what
    `selStores` finds for `kept`. -/
theorem seriesDecisionSel_of_kept {ms kept : List Matcher} {selLabels : Labels}
    (hk : matchesExternalLabels ms selLabels = some kept) (sel : Selector) (abort : Bool) (dbg : List (List Matcher))
    (cs : List Client) (mint maxt : Int) :
    seriesDecisionSel sel selLabels abort dbg cs mint maxt ms = .invalid ∨
    seriesDecisionSel sel selLabels abort dbg cs mint maxt ms = .unavailable ∨
    seriesDecisionSel sel selLabels abort dbg cs mint maxt ms =
      .queried (selStores sel dbg mint maxt kept 0 cs).1 kept (matchersForLabelSets (selStores sel dbg mint maxt kept 0 cs).2) := by
  unfold seriesDecisionSel
  rw [hk]
  dsimp only
  split
  · exact .inl rfl
  split
  · exact .inr (.inl rfl)
  · exact .inr (.inr rfl)

theorem matchAll_append (a b : List Matcher) (s : Labels) :
    matchAll (a ++ b) s = (matchAll a s && matchAll b s) := by
  simp [matchAll, List.all_append]

theorem mem_labelNames {sets : List Labels} {n : String} :
    n ∈ labelNames sets ↔ ∃ ls ∈ sets, has ls n = true := by
  unfold labelNames
  rw [List.mem_eraseDups]
  simp only [List.mem_flatMap, List.mem_map]
  constructor
  · rintro ⟨ls, hls, p, hp, rfl⟩
    exact ⟨ls, hls, has_eq_true_iff.mpr (List.mem_map.mpr ⟨p, hp, rfl⟩)⟩
  · rintro ⟨ls, hls, h⟩
    obtain ⟨p, hp, rfl⟩ := List.mem_map.mp (has_eq_true_iff.mp h)
    exact ⟨ls, hls, p, hp, rfl⟩

/-- `hclash`: the series has no label of its own under an external label name that `e` lacks -/
theorem matchAll_matchersForLabelSets (union : List Labels) (e : Labels) (he : e ∈ union) (s : Labels)
    (hext : ∀ n, has e n = true → get s n = get e n)
    (hclash : ∀ n ∈ labelNames union, has e n = false → get s n = "") :
    matchAll (matchersForLabelSets union) s = true := by
  simp only [matchAll, matchersForLabelSets, List.all_eq_true, List.mem_map]
  rintro m ⟨n, hn, rfl⟩
  simp only [selMatcher, Matcher.matches]
  cases hh : has e n with
  | true =>
    rw [hext n hh]
    have : get e n ∈ valuesOf union n := by
      simp only [valuesOf, List.mem_filterMap]
      exact ⟨e, he, by simp [hh]⟩
    simp [this]
  | false =>
    rw [hclash n hn hh]
    have : someLacks union n = true := by
      simp only [someLacks, List.any_eq_true]
      exact ⟨e, he, by simp [hh]⟩
    simp [this]

/-- `f` is any selection of stores, `c` one of them: what else is selected does not matter -/
theorem matchAll_selUnion (sel : Selector) (cs : List Client) (f : Client → Bool) (c : Client) (hc : c ∈ cs.filter f)
    (e : Labels) (he : e ∈ c.extSets) (hkeep : sel.isNil = true ∨ sel.keep e = true) (wf : WF e) (raw : Labels)
    (hclash : ∀ n ∈ labelNames (cs.flatMap (·.extSets)), has e n = false → get (extend raw e) n = "") :
    matchAll (matchersForLabelSets ((cs.filter f).flatMap fun c => (matchLabelSets sel c.extSets).2))
      (extend raw e) = true := by
  cases hn : sel.isNil with
  | true =>
    -- the default selector adds no matcher
    rw [List.flatMap_eq_nil_iff.mpr (fun c' _ => matchLabelSets_nil sel c'.extSets hn)]
    rfl
  | false =>
    refine matchAll_matchersForLabelSets _ e ?_ _ (get_extend_of_has e raw · wf) (fun n hn' hh => hclash n ?_ hh)
    · exact List.mem_flatMap.mpr ⟨c, hc, (matchLabelSets_of_kept sel c.extSets e he hkeep).2 hn⟩
    · -- the union holds matched label sets of stores only
      obtain ⟨ls, hls, hhas⟩ := mem_labelNames.mp hn'
      obtain ⟨c', hc', hx⟩ := List.mem_flatMap.mp hls
      exact mem_labelNames.mpr
        ⟨ls, List.mem_flatMap.mpr ⟨c', (List.mem_filter.mp hc').1, matchLabelSets_sub sel _ ls hx⟩, hhas⟩

end Thanos.Prune
