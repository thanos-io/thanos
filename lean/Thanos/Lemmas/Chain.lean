import Thanos.Model.Merge
import Thanos.Lemmas.ListFacts
import Thanos.Lemmas.ChunkOrder
/-
  The chunk map of `chainSeriesAndRemIdenticalChunks` as a fold of keyed inserts (`foldKeyed`): over
  chunks that the key tells apart it ends up holding each of them once (`foldKeyed_values`), so the
  chunks of `chain` are those the series carry, each once, in `AggrChunk.Compare` order
  (`chain_of_keyed`, for any key whose fold the map is).  The repaired code keys a chunk by all its
  populated fields (`keyOf`; `KeyInj`, `Populated`: what the theorems assume of the hashes in it); the
  unrepaired code is a keyed fold only on chunks with a single populated field (`key1`).
-/
namespace Thanos.Merge

def keyOf (c : Chunk) : Key := (dedupFields c).map (fun p => (p.1, p.2.hash))

def key1 (c : Chunk) : Key :=
  match dedupFields c with
  | [(_, f)] => [(0, f.hash)]
  | _ => []

/-- the chunk hashes tell the chunks apart (xxhash is not modelled: injectivity on the chunks at
    hand is the hypothesis; the harness skips its oracle when a generated case has a collision) -/
def KeyInj (cs : List Chunk) : Prop := ∀ c ∈ cs, ∀ d ∈ cs, keyOf c = keyOf d → c = d

/-- every chunk has some populated field -/
def Populated (cs : List Chunk) : Prop := ∀ c ∈ cs, keyOf c ≠ []

def insertKeyed (κ : Chunk → Key) (c : Chunk) (m : List (Key × Chunk)) : List (Key × Chunk) :=
  if (κ c).isEmpty then m else if m.any (fun e => e.1 = κ c) then m else m ++ [(κ c, c)]

section keyed
variable (κ : Chunk → Key)

theorem insertKeyed_eq (c : Chunk) (m : List (Key × Chunk)) (hk : ∀ e ∈ m, e.1 = κ e.2) (hpop : κ c ≠ [])
    (hinj : ∀ e ∈ m, κ e.2 = κ c → e.2 = c) :
    insertKeyed κ c m = if c ∈ m.map (·.2) then m else m ++ [(κ c, c)] := by
  have hkey : m.any (fun e => e.1 = κ c) = true ↔ c ∈ m.map (·.2) := by
    rw [List.any_eq_true, List.mem_map]
    constructor
    · rintro ⟨e, he, hek⟩
      exact ⟨e, he, hinj e he (by rw [← hk e he]; exact of_decide_eq_true hek)⟩
    · rintro ⟨e, he, rfl⟩
      exact ⟨e, he, decide_eq_true (hk e he)⟩
  unfold insertKeyed
  rw [if_neg (by rwa [List.isEmpty_iff])]
  simp only [hkey]

def foldKeyed (m : List (Key × Chunk)) (cs : List Chunk) : List (Key × Chunk) :=
  cs.foldl (fun m c => insertKeyed κ c m) m

/-- `S`: the set the chunks are drawn from; `κ` is only assumed injective on it, so membership in it has to survive
    into the map -/
theorem foldKeyed_mem (S : Chunk → Prop) (hinj : ∀ c d, S c → S d → κ c = κ d → c = d)
    (cs : List Chunk) (m : List (Key × Chunk))
    (hk : ∀ e ∈ m, e.1 = κ e.2 ∧ S e.2) (hn : (m.map (·.2)).Nodup) (hcs : ∀ c ∈ cs, S c ∧ κ c ≠ []) :
    ((foldKeyed κ m cs).map (·.2)).Nodup ∧ ∀ c, c ∈ (foldKeyed κ m cs).map (·.2) ↔ c ∈ m.map (·.2) ∨ c ∈ cs := by
  induction cs generalizing m with
  | nil => exact ⟨hn, fun c => by simp [foldKeyed]⟩
  | cons c r ih =>
    obtain ⟨hc, hr⟩ := List.forall_mem_cons.mp hcs
    rw [show foldKeyed κ m (c :: r) = foldKeyed κ (insertKeyed κ c m) r from rfl,
      insertKeyed_eq κ c m (fun e he => (hk e he).1) hc.2 (fun e he => hinj _ _ (hk e he).2 hc.1)]
    split
    · next hv =>
      obtain ⟨h1, h2⟩ := ih m hk hn hr
      refine ⟨h1, fun d => (h2 d).trans ?_⟩
      rw [List.mem_cons]
      exact ⟨Or.imp_right Or.inr, fun h => h.elim Or.inl (fun h => h.elim (fun e => Or.inl (e ▸ hv)) Or.inr)⟩
    · next hv =>
      obtain ⟨h1, h2⟩ := ih (m ++ [(κ c, c)])
        (List.forall_mem_append.mpr ⟨hk, List.forall_mem_singleton.mpr ⟨rfl, hc.1⟩⟩)
        (by rw [List.map_append]; exact nodup_concat hn hv) hr
      exact ⟨h1, fun d => (h2 d).trans (by simp [or_assoc])⟩

theorem foldKeyed_values (cs : List Chunk)
    (hinj : ∀ c ∈ cs, ∀ d ∈ cs, κ c = κ d → c = d) (hpop : ∀ c ∈ cs, κ c ≠ []) :
    ((foldKeyed κ [] cs).map (·.2)).Nodup ∧ ∀ c, c ∈ (foldKeyed κ [] cs).map (·.2) ↔ c ∈ cs := by
  obtain ⟨h1, h2⟩ := foldKeyed_mem κ (· ∈ cs) (fun c d hc hd => hinj c hc d hd) cs [] (fun _ he => nomatch he) List.nodup_nil
    (fun c hc => ⟨hc, hpop c hc⟩)
  exact ⟨h1, fun c => (h2 c).trans (by simp)⟩

end keyed

theorem dedupMap_fixed (cs : List Chunk) : dedupMap true cs = foldKeyed keyOf [] cs := rfl

/-- holds of raw chunks, and when a single aggregate is requested -/
def SingleField (cs : List Chunk) : Prop := ∀ c ∈ cs, ∃ i f, dedupFields c = [(i, f)]

theorem dedupMap_unfixed_single (cs : List Chunk) (m : List (Key × Chunk)) (h : SingleField cs) :
    cs.foldl (fun m c => insertByField c (dedupFields c) m) m = foldKeyed key1 m cs := by
  induction cs generalizing m with
  | nil => rfl
  | cons c r ih =>
    obtain ⟨⟨i, f, hc⟩, hr⟩ := List.forall_mem_cons.mp h
    simp only [List.foldl_cons, foldKeyed]
    rw [show insertByField c (dedupFields c) m = insertKeyed key1 c m by unfold insertKeyed key1; rw [hc]; rfl]
    exact ih _ hr

theorem chain_lbls (fixed : Bool) (first : Series) (rest : List Series) :
    (chain fixed first rest).lbls = first.lbls := by
  unfold chain
  simp only
  split <;> rfl

/-- `hmap`: the chunk map is the `κ`-keyed fold; `dedupMap_fixed` has it for `keyOf`, `dedupMap_unfixed_single` for
    `key1` -/
theorem chain_of_keyed (fixed : Bool) (κ : Chunk → Key) (first : Series) (rest : List Series)
    (hmap : dedupMap fixed ((first :: rest).flatMap (·.chunks)) = foldKeyed κ [] ((first :: rest).flatMap (·.chunks)))
    (hinj : ∀ c ∈ (first :: rest).flatMap (·.chunks), ∀ d ∈ (first :: rest).flatMap (·.chunks), κ c = κ d → c = d)
    (hpop : ∀ c ∈ (first :: rest).flatMap (·.chunks), κ c ≠ []) :
    (chain fixed first rest).chunks.Nodup ∧
    (∀ c, c ∈ (chain fixed first rest).chunks ↔ c ∈ (first :: rest).flatMap (·.chunks)) ∧
    (chain fixed first rest).chunks.Pairwise chunkLe := by
  have hv := foldKeyed_values κ _ hinj hpop
  have hc : (chain fixed first rest).chunks = sortChunks ((foldKeyed κ [] ((first :: rest).flatMap (·.chunks))).map (·.2)) := by
    unfold chain
    simp only
    rw [hmap]
    split
    · next hm =>
      -- nothing in the map: no store sent a chunk
      rw [List.isEmpty_iff.mp hm]
      refine List.eq_nil_iff_forall_not_mem.mpr fun c hc => ?_
      have := (hv.2 c).mpr (List.mem_flatMap.mpr ⟨first, List.mem_cons_self, hc⟩)
      rw [List.isEmpty_iff.mp hm] at this
      cases this
    · rfl
  have hp := sortChunks_perm ((foldKeyed κ [] ((first :: rest).flatMap (·.chunks))).map (·.2))
  rw [hc]
  exact ⟨hp.nodup_iff.mpr hv.1, fun c => hp.mem_iff.trans (hv.2 c), sortChunks_sortedFull _⟩

end Thanos.Merge
