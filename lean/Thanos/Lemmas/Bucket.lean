import Thanos.Model.Bucket
import Thanos.Lemmas.ListFacts
/-
  The bucket as a finite map; the consistency invariant `Good` of C28 / C35 and the steps (`SafeOp`) that keep
  it.  A crash cuts a run after a prefix of its mutating calls (`exec_trace`), so `Good` at every crash point is
  `Good` after every prefix of a `SafeRun` (`good_exec`).
-/
namespace Thanos.Bucket

theorem get_eq_find (s : Bucket) (k : Key) : get s k = (s.find? (·.1 = k)).map (·.2) := by
  induction s with
  | nil => rfl
  | cons p s ih =>
    rw [get, List.find?_cons]
    by_cases e : p.1 = k <;> simp [e, ih]

theorem get_del (s : Bucket) (k k' : Key) : get (del s k) k' = if k' = k then none else get s k' := by
  rw [get_eq_find, del, find?_filter_key (key := (·.1)) (k := k) (k' := k') (by simp) (by simp), get_eq_find]
  split <;> rfl

theorem get_put (s : Bucket) (k : Key) (o : Obj) (k' : Key) :
    get (put s k o) k' = if k' = k then some o else get s k' := by
  simp only [put, get]
  by_cases h : k = k'
  · subst h; simp
  · have : ¬ k' = k := fun e => h e.symm
    simp [h, this, get_del]

theorem applyAll_nil (s : Bucket) : applyAll s [] = s := rfl
theorem applyAll_cons (s : Bucket) (op : Op) (ops : List Op) :
    applyAll s (op :: ops) = applyAll (apply s op) ops := rfl
theorem applyAll_append (s : Bucket) (a b : List Op) :
    applyAll s (a ++ b) = applyAll (applyAll s a) b := by
  simp [applyAll, List.foldl_append]

theorem isSome_applyAll_puts : ∀ (ops : List Op) (s : Bucket), (∀ op ∈ ops, ∃ k o, op = .put k o) → ∀ k,
    (get (applyAll s ops) k).isSome = true ↔ (get s k).isSome = true ∨ ∃ o, Op.put k o ∈ ops
  | [], s, _, k => by simp [applyAll]
  | op :: ops, s, hp, k => by
    obtain ⟨k', o', rfl⟩ := hp op List.mem_cons_self
    rw [applyAll_cons, isSome_applyAll_puts ops _ (fun o ho => hp o (List.mem_cons_of_mem _ ho)), apply, get_put]
    by_cases e : k = k' <;> simp [e]

theorem get_applyAll_dels (n : Nat) : ∀ (fs : List String) (s : Bucket) (k : Key),
    get (applyAll s (fs.map fun f => Op.del (n, f))) k =
      if k.1 = n ∧ k.2 ∈ fs then none else get s k
  | [], s, k => by simp [applyAll]
  | f :: fs, s, k => by
    simp only [List.map_cons, applyAll_cons, get_applyAll_dels n fs, apply, get_del, List.mem_cons, Prod.ext_iff]
    by_cases h1 : k.1 = n
    · by_cases h2 : k.2 ∈ fs <;> simp [h1, h2]
    · simp [h1]

-- not used below: two more characterisations of `applyAll`
theorem mem_applyAll : ∀ (ops : List Op) (s : Bucket) (p : Key × Obj), p ∈ applyAll s ops →
    p ∈ s ∨ Op.put p.1 p.2 ∈ ops
  | [], _, _, h => Or.inl h
  | op :: ops, s, p, h => by
    rcases mem_applyAll ops _ p h with h | h
    · cases op with
      | put k o =>
        rcases List.mem_cons.mp h with rfl | h
        · exact Or.inr List.mem_cons_self
        · exact Or.inl (List.mem_filter.mp h).1
      | del k => exact Or.inl (List.mem_filter.mp h).1
    · exact Or.inr (List.mem_cons_of_mem _ h)

theorem get_applyAll_puts_ne : ∀ (ops : List Op) (s : Bucket) (key : Key),
    (∀ op ∈ ops, ∃ k o, op = .put k o ∧ k ≠ key) → get (applyAll s ops) key = get s key
  | [], _, _, _ => rfl
  | op :: ops, s, key, h => by
    obtain ⟨k, o, rfl, hne⟩ := h op List.mem_cons_self
    rw [applyAll_cons, get_applyAll_puts_ne ops _ key (fun op hop => h op (List.mem_cons_of_mem _ hop)), apply,
      get_put, if_neg (Ne.symm hne)]

/-- names that are never data files of a block -/
def reserved : List String := [metaName, markName, noCompactName, dirMarkerChunks, dirMarkerBlock]

def WFBlock (b : Block) : Prop :=
  (∀ f a c, (f, a) ∈ b.files → (f, c) ∈ b.files → a = c) ∧ (∀ f sz, (f, sz) ∈ b.files → f ∉ reserved)

/-- `w` is the world: block number ↦ the (immutable) local files of that block -/
def WF (w : Nat → Block) : Prop := ∀ n, WFBlock (w n)

/-- decidable sufficient condition, for concrete examples -/
theorem wfBlock_of_nodup (b : Block) (h1 : (b.files.map (·.1)).Nodup)
    (h2 : ∀ p ∈ b.files, p.1 ∉ reserved) : WFBlock b :=
  ⟨fun _ _ _ ha hc => congrArg Prod.snd (inj_of_nodup_map h1 ha hc rfl), fun f sz h => h2 (f, sz) h⟩

/-- meta.json of block `n` is in the bucket: readers take the block as uploaded -/
def Visible (s : Bucket) (n : Nat) : Prop := (get s (n, metaName)).isSome = true

instance (s : Bucket) (n : Nat) : Decidable (Visible s n) := by unfold Visible; infer_instance

theorem visible_put {s : Bucket} {k : Key} {o : Obj} {n : Nat} :
    Visible (put s k o) n ↔ (n, metaName) = k ∨ Visible s n := by
  rw [Visible, get_put]
  split
  next e => exact iff_of_true rfl (Or.inl e)
  next e => exact (or_iff_right e).symm

def Complete (s : Bucket) (n : Nat) : Prop :=
  ∃ r files, get s (n, metaName) = some (.metaJson r files) ∧
    ∀ f sz, (f, sz) ∈ files → get s (n, f) = some (.data sz)

/-- refutes `Visible → Complete`; the two lookups are one hypothesis so that a concrete bucket is evaluated once -/
theorem visible_incomplete {s : Bucket} {n : Nat} {r : Bool} {files : List (String × Nat)} {f : String}
    {sz : Nat} (h : get s (n, metaName) = some (.metaJson r files) ∧ get s (n, f) ≠ some (.data sz))
    (hf : (f, sz) ∈ files) : ¬ (Visible s n → Complete s n) := by
  intro hc
  obtain ⟨r', files', hm', hall⟩ := hc (by rw [Visible, h.1]; rfl)
  rw [h.1] at hm'
  cases hm'
  exact h.2 (hall f sz hf)

/-- The invariant.  `sizes` compares with the local file, which is immutable. -/
structure Good (w : Nat → Block) (s : Bucket) : Prop where
  sizes : ∀ n f sz o, (f, sz) ∈ (w n).files → get s (n, f) = some o → o = .data sz
  metas : ∀ n o, get s (n, metaName) = some o → ∃ r, o = .metaJson r (w n).files
  present : ∀ n, Visible s n → ∀ f sz, (f, sz) ∈ (w n).files → (get s (n, f)).isSome = true

theorem Good.complete {w : Nat → Block} {s : Bucket} (h : Good w s) (n : Nat) (hv : Visible s n) :
    Complete s n := by
  obtain ⟨o, hm⟩ := Option.isSome_iff_exists.mp hv
  obtain ⟨r, rfl⟩ := h.metas n o hm
  refine ⟨r, (w n).files, hm, fun f sz hf => ?_⟩
  obtain ⟨o', hg⟩ := Option.isSome_iff_exists.mp (h.present n hv f sz hf)
  rw [hg, h.sizes n f sz o' hf hg]

theorem good_empty (w : Nat → Block) : Good w [] :=
  ⟨by intro n f sz o _ h; simp [get] at h, by intro n o h; simp [get] at h,
   by intro n hv; simp [Visible, get] at hv⟩

inductive SafeOp (w : Nat → Block) (s : Bucket) : Op → Prop where
  | putData (n : Nat) (f : String) (sz : Nat) : (f, sz) ∈ (w n).files → SafeOp w s (.put (n, f) (.data sz))
  | putOther (n : Nat) (f : String) (sz : Nat) : f ≠ metaName → (∀ z, (f, z) ∉ (w n).files) →
      SafeOp w s (.put (n, f) (.data sz))
  | putMeta (n : Nat) (r : Bool) : (∀ f sz, (f, sz) ∈ (w n).files → (get s (n, f)).isSome = true) →
      SafeOp w s (.put (n, metaName) (.metaJson r (w n).files))
  | delMeta (n : Nat) : SafeOp w s (.del (n, metaName))
  | delInvisible (n : Nat) (f : String) : ¬ Visible s n → SafeOp w s (.del (n, f))
  | delOther (n : Nat) (f : String) : (∀ z, (f, z) ∉ (w n).files) → SafeOp w s (.del (n, f))

theorem meta_not_file {w : Nat → Block} (hw : WF w) (n : Nat) (z : Nat) : (metaName, z) ∉ (w n).files := by
  intro h
  exact (hw n).2 metaName z h (by simp [reserved])

/-- `Good` survives setting one key to `v` (`some o`: a put, `none`: a deletion) when `v` is what the world allows there -/
theorem good_set {w : Nat → Block} (hw : WF w) {s s' : Bucket} (hs : Good w s) {n : Nat} {f : String} {v : Option Obj}
    (hget : ∀ k, get s' k = if k = (n, f) then v else get s k)
    (hsz : ∀ sz o, (f, sz) ∈ (w n).files → v = some o → o = .data sz)
    (hmeta : f = metaName → ∀ o, v = some o → (∃ r, o = .metaJson r (w n).files) ∧
      ∀ g sz, (g, sz) ∈ (w n).files → (get s (n, g)).isSome = true)
    (hdel : v = none → f = metaName ∨ ¬ Visible s n ∨ ∀ z, (f, z) ∉ (w n).files) : Good w s' := by
  refine ⟨fun n' f' sz' o' hf' hg => ?_, fun n' o' hg => ?_, fun n' hv f' sz' hf' => ?_⟩
  · rw [hget] at hg
    split at hg
    · next e => cases e; exact hsz sz' o' hf' hg
    · exact hs.sizes n' f' sz' o' hf' hg
  · rw [hget] at hg
    split at hg
    · next e => cases e; exact (hmeta rfl o' hg).1
    · exact hs.metas n' o' hg
  · rw [Visible, hget] at hv
    rw [hget]
    by_cases em : (n', metaName) = (n, f)
    · -- meta.json was set: it was put (the block is visible now), so every file was there; meta.json is none of them
      cases em
      obtain ⟨o, ho⟩ := Option.isSome_iff_exists.mp (if_pos rfl ▸ hv)
      rw [if_neg fun e : (n, f') = (n, metaName) => meta_not_file hw n sz' (by cases e; exact hf')]
      exact (hmeta rfl o ho).2 f' sz' hf'
    · rw [if_neg em] at hv
      split
      · next e =>
        cases e
        cases v with
        | some o => rfl
        | none =>
          rcases hdel rfl with e | h | h
          · exact absurd (e ▸ rfl) em
          · exact absurd hv h
          · exact absurd hf' (h sz')
      · exact hs.present n' hv f' sz' hf'

theorem good_apply {w : Nat → Block} (hw : WF w) {s : Bucket} (hs : Good w s) {op : Op}
    (hop : SafeOp w s op) : Good w (apply s op) := by
  cases hop with
  | putData n f sz hf =>
    exact good_set hw hs (get_put s _ _) (fun sz' o hf' e => by cases e; rw [(hw n).1 f sz sz' hf hf'])
      (fun e => absurd (e ▸ hf) (meta_not_file hw n sz)) fun e => nomatch e
  | putOther n f sz hfm hnf =>
    exact good_set hw hs (get_put s _ _) (fun z _ hz => absurd hz (hnf z)) (fun e => absurd e hfm) fun e => nomatch e
  | putMeta n r hall =>
    exact good_set hw hs (get_put s _ _) (fun z _ hz => absurd hz (meta_not_file hw n z))
      (fun _ o e => by cases e; exact ⟨⟨r, rfl⟩, hall⟩) fun e => nomatch e
  | delMeta n => exact good_set hw hs (get_del s _) (fun _ _ _ e => nomatch e) (fun _ _ e => nomatch e) fun _ => Or.inl rfl
  | delInvisible n f hinv => exact good_set hw hs (get_del s _) (fun _ _ _ e => nomatch e) (fun _ _ e => nomatch e) fun _ => Or.inr (Or.inl hinv)
  | delOther n f hnf => exact good_set hw hs (get_del s _) (fun _ _ _ e => nomatch e) (fun _ _ e => nomatch e) fun _ => Or.inr (Or.inr hnf)

def SafeRun (w : Nat → Block) : Bucket → List Op → Prop
  | _, [] => True
  | s, op :: ops => SafeOp w s op ∧ SafeRun w (apply s op) ops

theorem safeRun_append {w : Nat → Block} : ∀ (a b : List Op) (s : Bucket),
    SafeRun w s (a ++ b) ↔ SafeRun w s a ∧ SafeRun w (applyAll s a) b
  | [], b, s => by simp [SafeRun, applyAll]
  | op :: a, b, s => by
    simp only [List.cons_append, SafeRun, applyAll_cons, safeRun_append a b (apply s op), and_assoc]

theorem good_all {w : Nat → Block} (hw : WF w) : ∀ (ops : List Op) (s : Bucket), Good w s → SafeRun w s ops →
    Good w (applyAll s ops)
  | [], _, hs, _ => hs
  | _ :: ops, _, hs, hr => good_all hw ops _ (good_apply hw hs hr.1) hr.2

theorem muts_map_mu (ops : List Op) : muts (ops.map .mu) = ops := by
  induction ops with
  | nil => rfl
  | cons op ops ih => simp [muts, ih]

theorem muts_map_muIgn (ops : List Op) : muts (ops.map .muIgn) = ops := by
  induction ops with
  | nil => rfl
  | cons op ops ih => simp [muts, ih]

theorem muts_append (a b : List Call) : muts (a ++ b) = muts a ++ muts b := by
  induction a with
  | nil => rfl
  | cons c a ih => cases c <;> simp [muts, ih]

theorem crashed_iff (b : Option Nat) : crashed b = true ↔ b = some 0 := by
  rcases b with _ | _ | k <;> simp [crashed]

theorem take_budget {b : Option Nat} (hc : ¬ crashed b = true) (op : Op) (m : List Op) :
    (op :: m).take (b.getD (m.length + 1)) = op :: m.take ((dec b).getD m.length) := by
  rcases b with _ | _ | k
  · rfl
  · exact absurd rfl hc
  · rfl

theorem exec_trace (b : Option Nat) (sc : List Call) (s : Bucket) :
    (exec b sc s).trace = (muts sc).take (b.getD (muts sc).length) ∧
    (exec b sc s).bkt = applyAll s (exec b sc s).trace := by
  -- the arms of `exec`: no call left; then for `rd`, `mu op`, `muIgn op` in turn: crashed, not crashed
  fun_induction exec b sc s with
  | case1 b s => exact ⟨List.take_nil.symm, rfl⟩
  | case2 b cs s hc => rw [(crashed_iff b).mp hc]; exact ⟨rfl, rfl⟩
  | case3 b cs s hc ih => exact ih
  | case4 b op cs s hc => rw [(crashed_iff b).mp hc]; exact ⟨rfl, rfl⟩
  | case5 b op cs s hc r ih => exact ⟨(congrArg (op :: ·) ih.1).trans (take_budget hc op _).symm, ih.2⟩
  | case6 b op cs s hc ih => rw [(crashed_iff b).mp hc] at ih ⊢; exact ih
  | case7 b op cs s hc r ih => exact ⟨(congrArg (op :: ·) ih.1).trans (take_budget hc op _).symm, ih.2⟩

theorem exec_bkt (b : Option Nat) (sc : List Call) (s : Bucket) :
    ∃ k, (exec b sc s).bkt = applyAll s ((muts sc).take k) :=
  ⟨_, (exec_trace b sc s).1 ▸ (exec_trace b sc s).2⟩

theorem good_exec {w : Nat → Block} (hw : WF w) (b : Option Nat) (sc : List Call) (s : Bucket)
    (hs : Good w s) (hr : SafeRun w s (muts sc)) : Good w (exec b sc s).bkt := by
  obtain ⟨k, hk⟩ := exec_bkt b sc s
  rw [← List.take_append_drop k (muts sc), safeRun_append] at hr
  exact hk ▸ good_all hw _ s hs hr.1

/-- `ops` puts data files of `b`, with their sizes, under block number `n`, and does nothing else -/
def DataPuts (n : Nat) (b : Block) (ops : List Op) : Prop :=
  ∀ op ∈ ops, ∃ f sz, op = .put (n, f) (.data sz) ∧ (f, sz) ∈ b.files

theorem DataPuts.safeRun {w : Nat → Block} {n : Nat} : ∀ {ops : List Op}, DataPuts n (w n) ops → ∀ s, SafeRun w s ops
  | [], _, _ => trivial
  | op :: ops, h, s => by
    obtain ⟨f, sz, rfl, hf⟩ := h op List.mem_cons_self
    exact ⟨.putData n f sz hf, DataPuts.safeRun (fun o ho => h o (List.mem_cons_of_mem _ ho)) _⟩

/-- the shape of every upload: data files, then meta.json -/
theorem safeRun_data_meta {w : Nat → Block} {n : Nat} {ops : List Op} (hd : DataPuts n (w n) ops) (r : Bool)
    (s : Bucket) (hall : ∀ f sz, (f, sz) ∈ (w n).files → (get s (n, f)).isSome = true ∨ ∃ o, Op.put (n, f) o ∈ ops) :
    SafeRun w s (ops ++ [.put (n, metaName) (.metaJson r (w n).files)]) :=
  (safeRun_append _ _ s).mpr ⟨hd.safeRun s,
    .putMeta n r fun f sz hf => (isSome_applyAll_puts ops s
      (fun op hop => let ⟨_, _, e, _⟩ := hd op hop; ⟨_, _, e⟩) _).mpr (hall f sz hf), trivial⟩

theorem safeRun_dels_invisible {w : Nat → Block} (n : Nat) : ∀ (fs : List String) (s : Bucket),
    ¬ Visible s n → SafeRun w s (fs.map fun f => Op.del (n, f))
  | [], _, _ => trivial
  | f :: fs, s, h => by
    refine ⟨.delInvisible n f h, safeRun_dels_invisible n fs _ ?_⟩
    simp only [Visible, apply, get_del]
    split
    · simp
    · exact h

end Thanos.Bucket
