import Thanos.Model.Pool
/-
  For C17.  Shard-matcher buffers: every id handed out so far is live or pooled,
  exactly once (`Acct`: live ++ pooled is a permutation of `range next`); every event keeps that
  (`acct_step`) and the ownership invariant `Inv` is read off it (`inv_run`).  On a matcher not yet closed the
  unrepaired `Close` does what the repaired one does (`closeHeld_same`), so a schedule that closes no matcher
  twice runs alike under both (`run_false_eq_true`).  `BucketedPool`: the accounting invariant `BInv` (the budget
  holds; a parked slice fits its bucket), through one case analysis of `Get` (`get_cases`); a new pool has it and
  every step of a script keeps it, so every answer of a script is within the budget (`runScript_budget`).
-/
namespace Thanos.Pool

structure Inv (s : PState) : Prop where
  freeNodup : s.free.Nodup
  liveNodup : (liveBufs s).Nodup
  disjoint : ∀ b ∈ liveBufs s, b ∉ s.free
  freeLt : ∀ b ∈ s.free, b < s.next
  heldLt : ∀ h ∈ s.held, h.buf < s.next

/-- every buffer id handed out so far is live or pooled, exactly once.  Every event keeps it (`acct_step`): `Close`
    moves a buffer from live to pooled, a reuse back, `New` adds the next id -/
def Acct (s : PState) : Prop :=
  (liveBufs s ++ s.free).Perm (List.range s.next) ∧ ∀ h ∈ s.held, h.buf < s.next

theorem Acct.inv {s : PState} (h : Acct s) : Inv s :=
  have hn := List.nodup_append.mp (h.1.nodup_iff.mpr List.nodup_range)
  ⟨hn.2.1, hn.1, fun b hb hm => hn.2.2 b hb b hm rfl,
    fun _ hb => List.mem_range.mp (h.1.subset (List.mem_append_right _ hb)), h.2⟩

theorem acct_init : Acct PState.init := ⟨.refl _, fun _ h => nomatch h⟩

theorem perm_cons_eraseIdx : ∀ {l : List Nat} {k b : Nat}, l[k]? = some b → (b :: l.eraseIdx k).Perm l
  | a :: r, 0, b, h => by
    rw [List.getElem?_cons_zero, Option.some.injEq] at h
    rw [h]; exact List.Perm.refl _
  | a :: r, k + 1, b, h => (List.Perm.swap a b _).trans ((perm_cons_eraseIdx (l := r) h).cons a)

theorem closeHeld_idem_perm (m : Nat) (held : List Held) :
    (((closeHeld true m held).1.filter (fun h => !h.closed)).map (·.buf) ++ (closeHeld true m held).2).Perm
      ((held.filter (fun h => !h.closed)).map (·.buf)) := by
  induction held with
  | nil => exact List.Perm.refl _
  | cons h r ih =>
    rw [closeHeld]
    by_cases hm : h.matcher = m
    · rw [if_pos hm]
      cases hc : h.closed
      · simp [List.filter, hc]
      · simp
    · rw [if_neg hm]
      cases hc : h.closed
      · simpa [List.filter, hc] using ih
      · simpa [List.filter, hc] using ih

theorem closeHeld_bufs (idem : Bool) (m : Nat) (held : List Held) :
    (closeHeld idem m held).1.map (·.buf) = held.map (·.buf) := by
  induction held with
  | nil => rfl
  | cons h r ih =>
    rw [closeHeld]
    split
    · split <;> rfl
    · exact congrArg (h.buf :: ·) ih

theorem closeHeld_same (m : Nat) (held : List Held) (hyp : ∀ h ∈ held, h.closed = true → h.matcher ≠ m) :
    closeHeld false m held = closeHeld true m held := by
  induction held with
  | nil => rfl
  | cons h r ih =>
    unfold closeHeld
    by_cases hm : h.matcher = m
    · have hc : h.closed = false := Bool.eq_false_iff.mpr (fun hh => hyp h List.mem_cons_self hh hm)
      simp [hm, hc]
    · simp only [hm, if_false]
      rw [ih (fun x hx => hyp x (List.mem_cons_of_mem _ hx))]

theorem mem_closeHeld {idem : Bool} {m : Nat} {held : List Held} {x : Held}
    (hx : x ∈ (closeHeld idem m held).1) : x.matcher = m ∨ x ∈ held := by
  induction held with
  | nil => exact Or.inr hx
  | cons h r ih =>
    rw [closeHeld] at hx
    by_cases hm : h.matcher = m
    · rw [if_pos hm] at hx
      split at hx
      · exact Or.inr hx
      · rcases List.mem_cons.mp hx with rfl | hx
        · exact Or.inl hm
        · exact Or.inr (List.mem_cons_of_mem _ hx)
    · rw [if_neg hm] at hx
      rcases List.mem_cons.mp hx with rfl | hx
      · exact Or.inr List.mem_cons_self
      · exact (ih hx).imp_right (List.mem_cons_of_mem _)

theorem step_opn (idem : Bool) (s : PState) (m : Nat) (pick : Option Nat) :
    step idem s (.opn m pick) = step true s (.opn m pick) ∧
      ∃ b, (step true s (.opn m pick)).held = ⟨m, b, false⟩ :: s.held := by
  cases pick with
  | none => exact ⟨rfl, _, rfl⟩
  | some k =>
    refine ⟨rfl, ?_⟩
    dsimp only [step]
    cases s.free[k]? with
    | none => exact ⟨_, rfl⟩
    | some b => exact ⟨_, rfl⟩

theorem acct_step {s : PState} (h : Acct s) (e : Ev) : Acct (step true s e) := by
  have fresh : ∀ m, Acct { s with next := s.next + 1, held := ⟨m, s.next, false⟩ :: s.held } := fun m =>
    ⟨List.range_succ ▸ (h.1.cons s.next).trans (List.perm_append_singleton _ _).symm,
      List.forall_mem_cons.mpr ⟨Nat.lt_succ_self _, fun x hx => Nat.lt_succ_of_lt (h.2 x hx)⟩⟩
  cases e with
  | opn m pick =>
    cases pick with
    | none => exact fresh m
    | some k =>
      simp only [step]
      cases hk : s.free[k]? with
      | none => exact fresh m
      | some b =>
        have hp := List.perm_middle.symm.trans ((perm_cons_eraseIdx hk).append_left (liveBufs s))
        exact ⟨hp.trans h.1, List.forall_mem_cons.mpr
          ⟨List.mem_range.mp (h.1.subset (List.mem_append_right _ (List.mem_of_getElem? hk))), h.2⟩⟩
  | cls m =>
    refine ⟨?_, fun x hx => ?_⟩
    · show ((_ : List Nat) ++ ((closeHeld true m s.held).2 ++ s.free)).Perm _
      rw [← List.append_assoc]
      exact ((closeHeld_idem_perm m s.held).append_right s.free).trans h.1
    · have : x.buf ∈ s.held.map (·.buf) := closeHeld_bufs true m s.held ▸ List.mem_map_of_mem hx
      obtain ⟨h0, hh0, e⟩ := List.mem_map.mp this
      exact e ▸ h.2 h0 hh0

theorem inv_run (evs : List Ev) {s : PState} (h : Acct s) : Inv (run true s evs) := by
  induction evs generalizing s with
  | nil => exact h.inv
  | cons e r ih => exact ih (acct_step h e)

def closesOf (evs : List Ev) : List Nat := evs.filterMap (fun e => match e with | .cls m => some m | _ => none)

def opensOf (evs : List Ev) : List Nat := evs.filterMap (fun e => match e with | .opn m _ => some m | _ => none)

theorem run_false_eq_true (evs : List Ev) (s : PState) (hn : (closesOf evs).Nodup)
    (hyp : ∀ h ∈ s.held, h.closed = true → h.matcher ∉ closesOf evs) : run false s evs = run true s evs := by
  induction evs generalizing s with
  | nil => rfl
  | cons e r ih =>
    show run false (step false s e) r = run true (step true s e) r
    cases e with
    | opn m pick =>
      obtain ⟨he, b, hh⟩ := step_opn false s m pick
      rw [he]
      refine ih _ hn (fun h hmem hc => ?_)
      rw [hh] at hmem
      rcases List.mem_cons.mp hmem with rfl | hmem
      · cases hc
      · exact hyp h hmem hc
    | cls m =>
      have hn' := List.nodup_cons.mp (show (m :: closesOf r).Nodup from hn)
      have hsame : closeHeld false m s.held = closeHeld true m s.held :=
        closeHeld_same m s.held (fun h hh hc hm => hyp h hh hc (hm ▸ List.mem_cons_self))
      rw [show step false s (.cls m) = step true s (.cls m) by simp only [step, hsame]]
      refine ih _ hn'.2 (fun h hh hc => ?_)
      rcases mem_closeHeld hh with hm | hold
      · rw [hm]; exact hn'.1
      · exact fun hmem => hyp h hold hc (List.mem_cons_of_mem _ hmem)

def Parked (bs : List (Nat × List Nat)) : Prop := ∀ x ∈ bs, ∀ c ∈ x.2, c ≤ x.1

structure BInv (p : BPool) : Prop where
  budget : p.maxTotal > 0 → p.used ≤ p.maxTotal
  parked : Parked p.buckets

theorem findBucket_spec {bs : List (Nat × List Nat)} {sz i b : Nat} {parked : List Nat}
    (h : findBucket bs sz = some (i, b, parked)) : bs[i]? = some (b, parked) ∧ sz ≤ b := by
  induction bs generalizing i with
  | nil => simp [findBucket] at h
  | cons x r ih =>
    obtain ⟨b0, p0⟩ := x
    unfold findBucket at h
    by_cases hgt : sz > b0
    · simp only [hgt, if_true, Option.map_eq_some_iff] at h
      obtain ⟨⟨i', b', p'⟩, hr, heq⟩ := h
      simp only [Prod.mk.injEq] at heq
      obtain ⟨rfl, rfl, rfl⟩ := heq
      exact ih hr
    · simp only [hgt, if_false, Option.some.injEq, Prod.mk.injEq] at h
      obtain ⟨rfl, rfl, rfl⟩ := h
      exact ⟨rfl, Nat.le_of_not_gt hgt⟩

theorem parked_setParked {bs : List (Nat × List Nat)} {i b : Nat} {old : List Nat} (new : List Nat)
    (hp : Parked bs) (h : bs[i]? = some (b, old)) (hn : ∀ c ∈ new, c ≤ b) : Parked (setParked bs i new) := by
  induction bs generalizing i with
  | nil => simp at h
  | cons x0 r ih =>
    obtain ⟨b0, p0⟩ := x0
    have hr : Parked r := fun y hy => hp y (List.mem_cons_of_mem _ hy)
    intro x hx
    cases i with
    | zero =>
      obtain ⟨rfl, rfl⟩ := Prod.mk.inj (Option.some.inj h)
      rcases List.mem_cons.mp hx with rfl | hx
      · exact hn
      · exact hr x hx
    | succ i =>
      rcases List.mem_cons.mp hx with rfl | hx
      · exact hp _ List.mem_cons_self
      · exact ih hr h x hx

theorem parked_mem {bs : List (Nat × List Nat)} (hp : Parked bs) {i b : Nat} {parked : List Nat}
    (h : bs[i]? = some (b, parked)) : ∀ c ∈ parked, c ≤ b :=
  hp (b, parked) (List.mem_of_getElem? h)

theorem overBudget_false {fixed : Bool} {p : BPool} {n : Nat} (h : (fixed && overBudget p n) = false)
    (hf : fixed = true) (hm : p.maxTotal > 0) : p.used + n ≤ p.maxTotal := by
  simp only [hf, Bool.true_and, overBudget, Bool.and_eq_false_iff, decide_eq_false_iff_not] at h
  omega

theorem get_cases (fixed : Bool) (p : BPool) (sz : Nat) (ch : Option Nat) :
    p.get fixed sz ch = (p, .exhausted) ∨ p.get fixed sz ch = (p, .badChoice) ∨
    ∃ c bs, p.get fixed sz ch = ({ p with used := p.used + c, buckets := bs }, .ok c) ∧
      (fixed = true → Parked p.buckets → Parked bs ∧ (p.maxTotal > 0 → p.used + c ≤ p.maxTotal)) := by
  unfold BPool.get
  cases h1 : (!fixed && overBudget p sz)
  case true => exact Or.inl rfl
  rw [if_neg Bool.false_ne_true]
  cases hf : findBucket p.buckets sz with
  | none =>
    dsimp only
    cases ho : (fixed && overBudget p sz)
    case true => exact Or.inl rfl
    rw [if_neg Bool.false_ne_true]
    refine Or.inr (Or.inr ⟨sz, p.buckets, rfl, fun hfx hp => ⟨hp, overBudget_false ho hfx⟩⟩)
  | some x =>
    obtain ⟨i, bkt, parked⟩ := x
    have hs := findBucket_spec hf
    dsimp only
    cases ho : (fixed && overBudget p bkt)
    case true => exact Or.inl rfl
    rw [if_neg Bool.false_ne_true]
    cases ch with
    | none =>
      exact Or.inr (Or.inr ⟨bkt, p.buckets, rfl, fun hfx hp => ⟨hp, overBudget_false ho hfx⟩⟩)
    | some c =>
      dsimp only
      cases hc : parked.contains c
      case false => exact Or.inr (Or.inl rfl)
      rw [if_pos rfl]
      refine Or.inr (Or.inr ⟨c, _, rfl, fun hfx hp => ?_⟩)
      have hcb : c ≤ bkt := parked_mem hp hs.1 c (by simpa using hc)
      refine ⟨parked_setParked _ hp hs.1
        (fun y hy => parked_mem hp hs.1 y (List.mem_of_mem_erase hy)), fun hm => ?_⟩
      have := overBudget_false ho hfx hm
      omega

theorem binv_get_fixed {p : BPool} (inv : BInv p) (sz : Nat) (ch : Option Nat) :
    BInv (p.get true sz ch).1 := by
  rcases get_cases true p sz ch with h | h | ⟨c, bs, h, hb⟩
  · rw [h]; exact inv
  · rw [h]; exact inv
  · rw [h]
    exact ⟨(hb rfl inv.parked).2, (hb rfl inv.parked).1⟩

theorem binv_put {p : BPool} (inv : BInv p) (c : Nat) : BInv (p.put c) := by
  unfold BPool.put
  refine ⟨?_, ?_⟩
  · intro hm
    have := inv.budget hm
    simp only
    split <;> omega
  · cases hf : findBucket p.buckets c with
    | none => simpa using inv.parked
    | some x =>
      obtain ⟨i, bkt, parked⟩ := x
      have hs := findBucket_spec hf
      simp only
      exact parked_setParked _ inv.parked hs.1 (List.forall_mem_cons.mpr ⟨hs.2, parked_mem inv.parked hs.1⟩)

theorem put_maxTotal (p : BPool) (c : Nat) : (p.put c).maxTotal = p.maxTotal := by
  simp [BPool.put]

theorem get_maxTotal (fixed : Bool) (p : BPool) (sz : Nat) (ch : Option Nat) :
    (p.get fixed sz ch).1.maxTotal = p.maxTotal := by
  rcases get_cases fixed p sz ch with h | h | ⟨c, bs, h, _⟩ <;> rw [h]

def BAns.used : BAns → Nat
  | .got _ u => u
  | .put u => u

theorem runScript_step (p : BPool) (got : List (Option Nat)) (op : BOp) (r : List BOp) :
    ∃ p' got' a, p.runScript true got (op :: r) = a :: p'.runScript true got' r ∧ a.used = p'.used ∧
      (BInv p → BInv p') ∧ p'.maxTotal = p.maxTotal := by
  cases op with
  | get sz ch => exact ⟨_, _, _, rfl, rfl, fun inv => binv_get_fixed inv sz ch, get_maxTotal true p sz ch⟩
  | putGot k =>
    rw [BPool.runScript]
    split
    · rename_i c _
      exact ⟨_, _, _, rfl, rfl, fun inv => binv_put inv c, put_maxTotal p c⟩
    · exact ⟨_, _, _, rfl, rfl, id, rfl⟩
  | putCap c => exact ⟨_, _, _, rfl, rfl, fun inv => binv_put inv c, put_maxTotal p c⟩

theorem runScript_budget (ops : List BOp) (p : BPool) (got : List (Option Nat)) (inv : BInv p)
    (hm : p.maxTotal > 0) : ∀ a ∈ p.runScript true got ops, a.used ≤ p.maxTotal := by
  induction ops generalizing p got with
  | nil => simp [BPool.runScript]
  | cons op r ih =>
    obtain ⟨p', got', a, he, hu, hi, hmt⟩ := runScript_step p got op r
    rw [he, ← hmt]
    intro b hb
    rcases List.mem_cons.mp hb with rfl | hb
    · exact hu ▸ (hi inv).budget (hmt ▸ hm)
    · exact ih p' got' (hi inv) (hmt ▸ hm) b hb

/-- a new pool has nothing checked out and nothing parked -/
theorem binv_new {min max num den maxTotal : Nat} {p : BPool} (h : BPool.new min max num den maxTotal = some p) :
    BInv p ∧ p.maxTotal = maxTotal := by
  simp only [BPool.new, Option.map_eq_some_iff] at h
  obtain ⟨sizes, _, rfl⟩ := h
  refine ⟨⟨fun _ => Nat.zero_le _, fun x hx c hc => ?_⟩, rfl⟩
  obtain ⟨s, _, rfl⟩ := List.mem_map.mp hx
  cases hc

end Thanos.Pool
