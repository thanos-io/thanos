import Thanos.Model.IndexHeader
import Thanos.Lemmas.IndexHeader
import Thanos.Lemmas.ListFacts
/-
  C11, the multi-value lookup: one induction per loop of `postingsOffset`, each showing that a run
  appends what `specOne` gives for the wanted values it consumes (`inner_ok`, `iterLoop_ok`,
  `outer_ok`).  What the `Iter` loop needs of the entries kept in memory is said by values, not
  positions (`Top`): every sampled value beyond the cursor is still to be read, nothing lies beyond
  the last one, and where the index `i` stands relative to the cursor.  `top_of_sample` gets it from
  `Sampling` where the outer loop starts a scan, `Top.step` carries it to the next table entry.  The result is
  `lookup_of_sampling`.
-/
namespace Thanos.IndexHeader

/-! Facts about core lists (`Pairwise`, `getLast?`, `takeWhile`), nothing of the model: down to `takeWhile_length_spec`. -/

theorem getLast?_of_succ_eq_length {α : Type} {l : List α} {i : Nat} (h : i + 1 = l.length) :
    l.getLast? = l[i]? := by
  rw [List.getLast?_eq_getElem?, ← h, Nat.add_sub_cancel]

theorem le_of_head? {l : List Nat} {a : Nat} (hs : l.Pairwise (· ≤ ·)) (h : l.head? = some a) : ∀ x ∈ l, a ≤ x :=
  fun x hx => (head?_rel hs h x hx).elim (· ▸ Nat.le_refl _) id

theorem le_getLast {tbl : List (Nat × Nat)} {e : Nat × Nat} (hs : tbl.Pairwise (·.1 < ·.1))
    (h : tbl.getLast? = some e) : ∀ e' ∈ tbl, e'.1 ≤ e.1 :=
  fun e' he' => (rel_getLast? hs h e' he').elim (· ▸ Nat.le_refl _) Nat.le_of_lt

theorem takeWhile_length_spec {α : Type} (p : α → Bool) (l : List α) :
    (∀ a ∈ l.take (l.takeWhile p).length, p a = true) ∧
    (∀ a, l[(l.takeWhile p).length]? = some a → p a = false) := by
  induction l with
  | nil => exact ⟨fun _ h => (by cases h), fun _ h => (by cases h)⟩
  | cons a l ih =>
    cases h : p a with
    | false =>
      simp only [List.takeWhile_cons, h, Bool.false_eq_true, if_false]
      exact ⟨fun _ hb => (by cases hb), fun b hb => (by cases hb; exact h)⟩
    | true =>
      simp only [List.takeWhile_cons, h, if_true]
      refine ⟨fun b hb => ?_, ih.2⟩
      rcases List.mem_cons.mp hb with rfl | hb
      · exact h
      · exact ih.1 b hb

/-- where the posting list of a table entry ends, given the entries that follow it: the two cases of
    `specOne` in one -/
def endOf (lastValOffset : Int) : List (Nat × Nat) → Int
  | [] => lastValOffset
  | (_, p') :: _ => (p' : Int) - 4

theorem specOne_cons (lastValOffset : Int) (v p w : Nat) (rest' : List (Nat × Nat)) :
    specOne lastValOffset ((v, p) :: rest') w =
      if v = w then ⟨(p : Int) + 4, endOf lastValOffset rest'⟩ else specOne lastValOffset rest' w := by
  cases rest' with
  | nil => rfl
  | cons e r => rfl

theorem specOne_notFound (lastValOffset : Int) (w : Nat) (tbl : List (Nat × Nat)) (h : ∀ e ∈ tbl, e.1 ≠ w) :
    specOne lastValOffset tbl w = notFound := by
  induction tbl with
  | nil => rfl
  | cons e tbl ih =>
    rw [specOne_cons, if_neg (h e List.mem_cons_self)]
    exact ih fun e he => h e (List.mem_cons_of_mem _ he)

theorem specOne_lt_head {v p w : Nat} {rest' : List (Nat × Nat)} (lastValOffset : Int)
    (hinc : ((v, p) :: rest').Pairwise (·.1 < ·.1)) (h : w < v) :
    specOne lastValOffset ((v, p) :: rest') w = notFound :=
  specOne_notFound lastValOffset w _ fun e he => by
    rcases List.mem_cons.mp he with rfl | he
    · exact Nat.ne_of_gt h
    · exact Nat.ne_of_gt (Nat.lt_trans h (List.rel_of_pairwise_cons hinc he))

theorem specOne_drop (lastValOffset : Int) (x : Nat) (tbl : List (Nat × Nat)) (k : Nat)
    (h : ∀ e ∈ tbl.take k, e.1 < x) : specOne lastValOffset tbl x = specOne lastValOffset (tbl.drop k) x := by
  induction tbl generalizing k with
  | nil => simp
  | cons e tbl ih =>
    cases k with
    | zero => rfl
    | succ k =>
      have hv : e.1 < x := h e (by simp)
      rw [specOne_cons, if_neg (Nat.ne_of_lt hv)]
      exact ih k fun e he => h e (by simp [he])

section
variable {offsets : List Sampled} {i v w : Nat}

theorem inner_gt (p : Nat) (h : v < w) (ws r pe vi) :
    inner offsets i v p (w :: ws) r pe vi = .done r pe vi := by
  rw [inner, if_neg (Nat.not_le.mpr h)]

/-- a hit: one more pending range, and with a pending range the loop cannot `break Iter` -/
theorem inner_eq (offsets : List Sampled) (i v p : Nat) (ws r pe vi) :
    inner offsets i v p (v :: ws) r pe vi = inner offsets i v p ws r (pe ++ [⟨(p : Int) + 4, 0⟩]) (vi + 1) := by
  rw [inner, if_pos (Nat.le_refl v), if_pos rfl]
  cases ws with
  | nil => rfl
  | cons w' ws' =>
    have : (pe ++ [(⟨(p : Int) + 4, 0⟩ : Rng)]).isEmpty = false := by
      rw [List.isEmpty_eq_false_iff]; exact List.append_ne_nil_of_right_ne_nil _ (List.cons_ne_nil _ _)
    simp only [this, Bool.false_and, Bool.false_eq_true, if_false]

theorem inner_lt_break {o : Sampled} {w' : Nat} (p : Nat) (h : w < v) (ho : offsets[i + 1]? = some o)
    (hx : o.1 ≤ w') (ws r vi) :
    inner offsets i v p (w :: w' :: ws) r [] vi = .breakIter (r ++ [notFound]) (vi + 1) := by
  rw [inner, if_pos (Nat.le_of_lt h), if_neg (Nat.ne_of_gt h)]
  simp only [List.isEmpty_nil, Bool.true_and, ho, decide_eq_true hx,
    decide_eq_true (List.getElem?_eq_some_iff.mp ho).1, if_true]

theorem inner_lt_next (p : Nat) (h : w < v) {ws : List Nat}
    (hno : ∀ w' o, ws.head? = some w' → offsets[i + 1]? = some o → w' < o.1) (r vi) :
    inner offsets i v p (w :: ws) r [] vi = inner offsets i v p ws (r ++ [notFound]) [] (vi + 1) := by
  rw [inner, if_pos (Nat.le_of_lt h), if_neg (Nat.ne_of_gt h)]
  cases ws with
  | nil => rfl
  | cons w' ws' =>
    cases ho : offsets[i + 1]? with
    | none => simp only [Bool.and_false, Bool.false_eq_true, if_false]
    | some o =>
      have : ¬ (w' ≥ o.1) := Nat.not_le.mpr (hno w' o rfl ho)
      simp only [decide_eq_false this, Bool.and_false, Bool.false_eq_true, if_false]
end

/-- What the inner loop does at the table entry `(v, p)` (followed by `rest'`), started with the
    pending ranges `pe0`: it consumes the wanted values `< v` (not found) and `= v` (pending), and
    stops at the first one `> v` — or breaks out of `Iter` after a value `< v` when the next one has
    reached the next sampled value (`nx`, that is `offsets[i + 1]?`).  Pending ranges count as closed at the
    end of this entry. -/
def InnerOK (lastValOffset : Int) (v p : Nat) (rest' : List (Nat × Nat)) (nx : Option Sampled) (ws : List Nat)
    (r0 pe0 : List Rng) (vi : Nat) : Inner → Prop
  | .done r pe vi' => ∃ c, vi' = vi + c ∧
      r ++ closeAll pe (endOf lastValOffset rest') =
        r0 ++ closeAll pe0 (endOf lastValOffset rest') ++ (ws.take c).map (specOne lastValOffset ((v, p) :: rest')) ∧
      (∀ w, ws[c]? = some w → v < w) ∧
      -- `i` lags (the next sampled value is not beyond `v`): started below `v`, the loop leaves by
      -- `break Iter` at the first value `≥ v`, so where it is `done` it never hit `v`
      (pe0 = [] → ∀ o, nx = some o → o.1 ≤ v → (∀ w0, ws.head? = some w0 → w0 < v) → pe = [])
  | .breakIter r vi' => ∃ c, c ≥ 1 ∧ vi' = vi + c ∧ pe0 = [] ∧
      r = r0 ++ (ws.take c).map (specOne lastValOffset ((v, p) :: rest'))

section
variable {lastValOffset : Int} {v p : Nat} {rest' : List (Nat × Nat)} {nx : Option Sampled} {ws : List Nat}
  {r0 pe0 : List Rng} {vi : Nat} {res : Inner}

theorem InnerOK.cons_eq (h : InnerOK lastValOffset v p rest' nx ws r0 (pe0 ++ [⟨(p : Int) + 4, 0⟩]) (vi + 1) res) :
    InnerOK lastValOffset v p rest' nx (v :: ws) r0 pe0 vi res := by
  cases res with
  | breakIter r vi' =>
    obtain ⟨c, _, _, hk0, _⟩ := h
    exact absurd hk0 (List.append_ne_nil_of_right_ne_nil _ (List.cons_ne_nil _ _))
  | done r pe vi' =>
    obtain ⟨c, h1, h3, h4, _⟩ := h
    refine ⟨c + 1, by rw [h1, Nat.add_assoc, Nat.add_comm 1], ?_, h4,
      fun _ _ _ _ hall => absurd (hall v rfl) (Nat.lt_irrefl _)⟩
    rw [h3, List.take_succ_cons, List.map_cons, specOne_cons, if_pos rfl, closeAll, List.map_append]
    simp only [closeAll, List.map_cons, List.map_nil, List.append_assoc, List.cons_append, List.nil_append]

theorem InnerOK.cons_lt {w : Nat} (hS : specOne lastValOffset ((v, p) :: rest') w = notFound)
    (hno : ∀ w' o, ws.head? = some w' → nx = some o → w' < o.1)
    (h : InnerOK lastValOffset v p rest' nx ws (r0 ++ [notFound]) [] (vi + 1) res) :
    InnerOK lastValOffset v p rest' nx (w :: ws) r0 [] vi res := by
  cases res with
  | breakIter r vi' =>
    obtain ⟨c, _, h2, _, h5⟩ := h
    refine ⟨c + 1, Nat.le_add_left 1 c, by rw [h2, Nat.add_assoc, Nat.add_comm 1], rfl, ?_⟩
    rw [h5, List.take_succ_cons, List.map_cons, hS, List.append_assoc, List.singleton_append]
  | done r pe vi' =>
    obtain ⟨c, h1, h3, h4, h7⟩ := h
    refine ⟨c + 1, by rw [h1, Nat.add_assoc, Nat.add_comm 1], ?_, h4,
      fun _ o ho hov _ => h7 rfl o ho hov fun w' hw' => Nat.lt_of_lt_of_le (hno w' o hw' ho) hov⟩
    rw [h3, List.take_succ_cons, List.map_cons, hS]
    simp only [closeAll, List.map_nil, List.append_nil, List.append_assoc, List.cons_append, List.nil_append]

theorem InnerOK.stop (hgt : ∀ w, ws.head? = some w → v < w) :
    InnerOK lastValOffset v p rest' nx ws r0 pe0 vi (.done r0 pe0 vi) :=
  ⟨0, rfl, by rw [List.take_zero, List.map_nil, List.append_nil],
    fun w hw => hgt w (by rwa [List.head?_eq_getElem?]), fun h _ _ _ _ => h⟩

end

theorem inner_ok (offsets : List Sampled) (i : Nat) (lastValOffset : Int) (v p : Nat) (rest' : List (Nat × Nat))
    (hinc : ((v, p) :: rest').Pairwise (·.1 < ·.1)) :
    ∀ (ws : List Nat) (r0 pe0 : List Rng) (vi : Nat), ws.Pairwise (· ≤ ·) → (pe0 ≠ [] → ∀ w ∈ ws, v ≤ w) →
      InnerOK lastValOffset v p rest' offsets[i + 1]? ws r0 pe0 vi (inner offsets i v p ws r0 pe0 vi) := by
  intro ws
  induction ws with
  | nil => exact fun r0 pe0 vi _ _ => InnerOK.stop (fun _ h => by cases h)
  | cons w ws1 ih =>
    intro r0 pe0 vi hs hk
    rcases Nat.lt_trichotomy w v with hlt | rfl | hgt
    · have hk0 : pe0 = [] := Decidable.byContradiction fun hp => Nat.not_le.mpr hlt (hk hp w List.mem_cons_self)
      subst hk0
      have hS := specOne_lt_head lastValOffset hinc hlt
      by_cases hb : ∃ o, offsets[i + 1]? = some o ∧ ∃ w', ws1.head? = some w' ∧ o.1 ≤ w'
      · obtain ⟨o, ho, w', hw', hx⟩ := hb
        cases ws1 with
        | nil => cases hw'
        | cons a ws2 =>
          cases hw'
          rw [inner_lt_break p hlt ho hx]
          exact ⟨1, Nat.le_refl 1, rfl, rfl,
            by rw [List.take_succ_cons, List.take_zero, List.map_singleton, hS]⟩
      · have hno : ∀ w' o, ws1.head? = some w' → offsets[i + 1]? = some o → w' < o.1 :=
          fun w' o hw ho => Nat.lt_of_not_le fun hle => hb ⟨o, ho, w', hw, hle⟩
        rw [inner_lt_next p hlt hno]
        exact (ih (r0 ++ [notFound]) [] (vi + 1) hs.of_cons (absurd rfl)).cons_lt hS hno
    · rw [inner_eq]
      exact (ih r0 _ (vi + 1) hs.of_cons fun _ x hx => List.rel_of_pairwise_cons hs hx).cons_eq
    · rw [inner_gt p hgt]
      exact InnerOK.stop (fun _ h => by cases h; exact hgt)

/-- What an iteration of the `Iter` loop relies on, at the entry `(v, p)` followed by `rest'`, with the
    sampled entries `S`, the index `i` into them and the first wanted value `w0`.  The first four
    fields do not mention `i` and `w0`. -/
structure Top (S : List Sampled) (i v p : Nat) (rest' : List (Nat × Nat)) (w0 : Nat) : Prop where
  inc : ((v, p) :: rest').Pairwise (·.1 < ·.1)
  incS : S.Pairwise (·.1 < ·.1)
  /-- every sampled value beyond the cursor is the value of an entry still to be read … -/
  ahead : ∀ o ∈ S, v < o.1 → ∃ e ∈ rest', e.1 = o.1
  /-- … and no entry lies beyond the last sampled one -/
  bound : ∀ o, S.getLast? = some o → ∀ e ∈ rest', e.1 ≤ o.1
  lt : i < S.length
  /-- `i` lags (the next sampled entry is not beyond the cursor) only while the wanted value is smaller -/
  next : ∀ o, S[i + 1]? = some o → o.1 ≤ v → w0 < v
  /-- at the last sampled entry nothing beyond the wanted value is left: the cursor is on the last
      table entry, or `i` was advanced early because the wanted value is the last sampled value -/
  last : i + 1 = S.length → ∀ e ∈ rest', e.1 ≤ w0

theorem Top.step {S : List Sampled} {i v p v' p' : Nat} {rest'' : List (Nat × Nat)} {w0 w : Nat} {o : Sampled}
    (T : Top S i v p ((v', p') :: rest'') w0) (ho : S[i + 1]? = some o) (hle : w ≤ o.1) :
    Top S (if w = o.1 then i + 1 else i) v' p' rest'' w := by
  have hvv : v < v' := List.rel_of_pairwise_cons T.inc List.mem_cons_self
  have hbound := fun o' ho' e he => T.bound o' ho' e (List.mem_cons_of_mem _ he)
  have hahead : ∀ o' ∈ S, v' < o'.1 → ∃ e ∈ rest'', e.1 = o'.1 := fun o' ho' hlt => by
    obtain ⟨e, he, hev⟩ := T.ahead o' ho' (Nat.lt_trans hvv hlt)
    rcases List.mem_cons.mp he with rfl | he
    · exact absurd hev (Nat.ne_of_lt hlt)
    · exact ⟨e, he, hev⟩
  have hi1 := (List.getElem?_eq_some_iff.mp ho).1
  by_cases hwo : w = o.1
  · rw [if_pos hwo]
    refine ⟨T.inc.of_cons, T.incS, hahead, hbound, hi1, fun o' ho' hov => ?_, fun hl e he => ?_⟩
    · exact hwo ▸ Nat.lt_of_lt_of_le (rel_of_getElem?_lt T.incS (Nat.lt_succ_self (i + 1)) ho ho') hov
    · exact hwo ▸ hbound o ((getLast?_of_succ_eq_length hl).trans ho) e he
  · rw [if_neg hwo]
    refine ⟨T.inc.of_cons, T.incS, hahead, hbound, T.lt, fun o' ho' hov => ?_, fun hl => ?_⟩
    · cases ho.symm.trans ho'
      exact Nat.lt_of_lt_of_le (Nat.lt_of_le_of_ne hle hwo) hov
    · exact absurd hl (Nat.ne_of_lt hi1)

theorem finish_ok (lastValOffset : Int) (rest' : List (Nat × Nat)) (r pe : List Rng) (vi' : Nat)
    (h : pe = [] ∨ rest' ≠ []) : finish rest' r pe vi' = .ok (r ++ closeAll pe (endOf lastValOffset rest'), vi') := by
  unfold finish
  cases pe with
  | nil => simp [closeAll]
  | cons a as =>
    rcases h with h | h
    · cases h
    · cases rest' with
      | nil => exact absurd rfl h
      | cons e r' => obtain ⟨v', p'⟩ := e; simp [endOf]

/-- One run of the `Iter` loop started on the unread entries `rest`: it appends the locations of the
    `c` values it consumes, and `c ≥ 1` when it is started where `search_start` puts it, which is what
    the outer loop's fuel argument needs.  Induction on `rest` as a whole, so that the step is one
    argument whatever follows the entry under the cursor. -/
theorem iterLoop_ok (S : List Sampled) (lastValOffset : Int) (values : List Nat) (hsorted : values.Pairwise (· ≤ ·))
    (rest : List (Nat × Nat)) :
    ∀ (v p : Nat) (rest' : List (Nat × Nat)) (i : Nat) (rngs pending : List Rng) (vi w0 : Nat),
      rest = (v, p) :: rest' → values[vi]? = some w0 → Top S i v p rest' w0 →
      ∃ c, iterLoop S lastValOffset values rest i rngs pending vi =
          .ok (rngs ++ closeAll pending ((p : Int) - 4) ++
            ((values.drop vi).take c).map (specOne lastValOffset rest), vi + c) ∧
        ((w0 ≤ v ∨ ∃ o, S[i + 1]? = some o ∧ w0 < o.1) → c ≥ 1) := by
  induction rest with
  | nil => nofun
  | cons _ rest' ih =>
    rintro v p _ i rngs pending vi w0 ⟨⟩ hw0 T
    have hws : (values.drop vi).head? = some w0 := by rw [List.head?_drop]; exact hw0
    have hI := inner_ok S i lastValOffset v p rest' T.inc (values.drop vi)
      (rngs ++ closeAll pending ((p : Int) - 4)) [] vi hsorted.drop (absurd rfl)
    unfold iterLoop
    simp only
    cases hres : inner S i v p (values.drop vi) (rngs ++ closeAll pending ((p : Int) - 4)) [] vi with
    | breakIter r vi' =>
      rw [hres] at hI
      obtain ⟨c, h1, h2, _, h5⟩ := hI
      exact ⟨c, by rw [h2, h5], fun _ => h1⟩
    | done r pe vi' =>
      rw [hres] at hI
      obtain ⟨c, h1, h3, h4, h7⟩ := hI
      rw [show closeAll [] (endOf lastValOffset rest') = [] from rfl, List.append_nil] at h3
      -- consuming nothing means stopping at the first wanted value, which is then above `v`
      have hc1 : w0 ≤ v → c ≥ 1 := fun hle => Nat.pos_of_ne_zero fun h0 =>
        Nat.not_lt.mpr hle (h4 w0 (by rw [h0, ← List.head?_eq_getElem?]; exact hws))
      -- the first wanted value is above `v`: the inner loop stops at once
      have h6 : v < w0 → pe = [] ∧ vi' = vi := fun hvw => by
        obtain ⟨ws, hws⟩ := List.head?_eq_some_iff.mp hws
        rw [hws, inner_gt p hvw] at hres
        cases hres
        exact ⟨rfl, rfl⟩
      have hc0 : v < w0 → values[vi']? = some w0 := fun hvw => by rw [(h6 hvw).2]; exact hw0
      rcases Nat.eq_or_lt_of_le (Nat.succ_le_of_lt T.lt) with hlast | hlt
      · simp only [if_pos hlast]
        -- closing with lastValOffset is closing with the end of this entry
        have hclose : closeAll pe lastValOffset = closeAll pe (endOf lastValOffset rest') := by
          cases rest' with
          | nil => rfl
          | cons e2 _ =>
            -- an entry is left: the wanted value is beyond the cursor, nothing was hit
            have hvw := Nat.lt_of_lt_of_le (List.rel_of_pairwise_cons T.inc List.mem_cons_self)
              (T.last hlast e2 List.mem_cons_self)
            rw [(h6 hvw).1]; rfl
        refine ⟨c, by rw [hclose, h3, h1], Or.rec hc1 fun ⟨o, ho, _⟩ => ?_⟩
        exact absurd (List.getElem?_eq_some_iff.mp ho).1 (Nat.lt_irrefl _ ∘ (hlast ▸ ·))
      · obtain ⟨o, ho⟩ : ∃ o, S[i + 1]? = some o := ⟨_, List.getElem?_eq_getElem hlt⟩
        simp only [if_neg (Nat.ne_of_lt hlt), ho]
        -- pending ranges can be closed with the next entry's offset
        have hfin : pe = [] ∨ rest' ≠ [] := by
          rcases Nat.lt_or_ge v o.1 with hvo | hov
          · obtain ⟨e, he, _⟩ := T.ahead o (List.mem_of_getElem? ho) hvo
            exact Or.inr (List.ne_nil_of_mem he)
          · exact Or.inl (h7 rfl o ho hov fun w hw => by
              rw [hws] at hw; cases hw; exact T.next o ho hov)
        cases hv : values[vi']? with
        | none =>
          refine ⟨c, by rw [finish_ok lastValOffset rest' r pe vi' hfin, h3, h1], Or.rec hc1 fun _ => ?_⟩
          exact (Nat.lt_or_ge v w0).elim (fun hvw => by rw [hc0 hvw] at hv; cases hv) hc1
        | some w =>
          simp only
          have hwv : v < w := h4 w (by rw [← hv, h1, List.getElem?_drop])
          by_cases hle : w ≤ o.1
          · rw [if_pos hle]
            obtain ⟨e, he, _⟩ := T.ahead _ (List.mem_of_getElem? ho) (Nat.lt_of_lt_of_le hwv hle)
            cases rest' with
            | nil => cases he
            | cons e2 rest'' =>
              obtain ⟨v', p'⟩ := e2
              obtain ⟨c', hc1', hc3⟩ := ih v' p' rest'' (if w = o.1 then i + 1 else i) r pe vi' w
                rfl hv (T.step ho hle)
              refine ⟨c + c', ?_, ?_⟩
              · rw [hc1', h1, ← Nat.add_assoc]
                refine congrArg (fun l => Except.ok (l, vi + c + c')) ?_
                -- the later values are beyond v: their location does not depend on this entry
                have hlater : ((values.drop (vi + c)).take c').map (specOne lastValOffset ((v', p') :: rest'')) =
                    ((values.drop (vi + c)).take c').map (specOne lastValOffset ((v, p) :: (v', p') :: rest'')) :=
                  List.map_congr_left fun x hx => by
                    have hwx := le_of_head? hsorted.drop (by rw [List.head?_drop, ← h1]; exact hv)
                      x (List.mem_of_mem_take hx)
                    rw [specOne_cons lastValOffset v, if_neg (Nat.ne_of_lt (Nat.lt_of_lt_of_le hwv hwx))]
                rw [show r ++ closeAll pe ((p' : Int) - 4) = _ from h3, hlater, List.take_add, List.drop_drop,
                  List.map_append, List.append_assoc]
              · rintro (h | ⟨_, ⟨⟩, hlt'⟩)
                · exact Nat.le_trans (hc1 h) (Nat.le_add_right _ _)
                · rcases Nat.lt_or_ge v w0 with hvw | hvw
                  · -- nothing consumed here: w = w0 is below the next sampled value, so the next run makes progress
                    cases hv.symm.trans (hc0 hvw)
                    have := hc3 (Or.inr ⟨_, by rw [if_neg (Nat.ne_of_lt hlt')]; exact ho, hlt'⟩)
                    exact Nat.le_trans this (Nat.le_add_left _ _)
                  · exact Nat.le_trans (hc1 hvw) (Nat.le_add_right _ _)
          · rw [if_neg hle]
            refine ⟨c, by rw [finish_ok lastValOffset rest' r pe vi' hfin, h3, h1],
              Or.rec hc1 fun ⟨_, ho', hlt'⟩ => ?_⟩
            refine (Nat.lt_or_ge v w0).elim (fun hvw => ?_) hc1
            cases ho'
            cases hv.symm.trans (hc0 hvw)
            exact absurd (Nat.le_of_lt hlt') hle

theorem top_of_sample {tbl : List (Nat × Nat)} {S : List Sampled} (hS : Sampling tbl S)
    (hinc : tbl.Pairwise (·.1 < ·.1)) {i : Nat} {oi : Sampled} (hoi : S[i]? = some oi) :
    ∃ p rest', tbl.drop oi.2 = (oi.1, p) :: rest' ∧ ∀ w0, oi.1 ≤ w0 → Top S i oi.1 p rest' w0 := by
  obtain ⟨p, hp⟩ := hS.entry oi (List.mem_of_getElem? hoi)
  obtain ⟨hk, he⟩ := List.getElem?_eq_some_iff.mp hp
  have hdrop : tbl.drop oi.2 = (oi.1, p) :: tbl.drop (oi.2 + 1) := by rw [List.drop_eq_getElem_cons hk, he]
  have hincd : ((oi.1, p) :: tbl.drop (oi.2 + 1)).Pairwise (·.1 < ·.1) := hdrop ▸ hinc.drop
  -- later in the table means larger
  have hincS : S.Pairwise (·.1 < ·.1) := hS.pos.imp_of_mem fun ha hb hab => by
    obtain ⟨pa, hpa⟩ := hS.entry _ ha
    obtain ⟨pb, hpb⟩ := hS.entry _ hb
    exact (rel_of_getElem?_lt hinc hab hpa hpb :)
  have hbound : ∀ o, S.getLast? = some o → ∀ e ∈ tbl.drop (oi.2 + 1), e.1 ≤ o.1 := fun o ho e he => by
    have hl := List.getLast?_eq_some_getLast (List.ne_nil_of_mem (List.mem_of_mem_drop he))
    cases ho.symm.trans (hS.last _ hl)
    exact le_getLast hinc hl e (List.mem_of_mem_drop he)
  refine ⟨p, _, hdrop, fun w0 hw0 => ⟨hincd, hincS, fun o ho hlt => ?_, hbound,
    (List.getElem?_eq_some_iff.mp hoi).1, fun o ho hov => ?_, fun hl e he => ?_⟩⟩
  · -- a larger value is not among the entries before the sampled one
    obtain ⟨po, hpo⟩ := hS.entry o ho
    have hmem : (o.1, po) ∈ tbl.take oi.2 ++ tbl.drop oi.2 := by
      rw [List.take_append_drop]; exact List.mem_of_getElem? hpo
    rw [hdrop] at hmem
    rcases List.mem_append.mp hmem with h | h
    · exact absurd (hinc.rel_of_mem_take_of_mem_drop (y := (oi.1, p)) h (hdrop ▸ List.mem_cons_self))
        (Nat.lt_asymm hlt)
    · rcases List.mem_cons.mp h with h | h
      · exact absurd (congrArg Prod.fst h).symm (Nat.ne_of_lt hlt)
      · exact ⟨_, h, rfl⟩
  · exact absurd (rel_of_getElem?_lt hincS (Nat.lt_succ_self i) hoi ho) (Nat.not_lt.mpr hov)
  · exact Nat.le_trans (hbound oi ((getLast?_of_succ_eq_length hl).trans hoi) e he) hw0

theorem searchGE_spec (offsets : List Sampled) (w : Nat) :
    (∀ e ∈ offsets.take (searchGE offsets w), e.1 < w) ∧
    (∀ o, offsets[searchGE offsets w]? = some o → w ≤ o.1) ∧ searchGE offsets w ≤ offsets.length := by
  obtain ⟨h1, h2⟩ := takeWhile_length_spec (fun o : Sampled => decide (o.1 < w)) offsets
  exact ⟨fun e he => of_decide_eq_true (h1 e he), fun o ho => Nat.le_of_not_lt (of_decide_eq_false (h2 o ho)),
    (List.takeWhile_sublist _).length_le⟩

/-- the search runs past the last sampled entry, which is the last table entry: every table value is below `w0` -/
theorem search_end {tbl : List (Nat × Nat)} {S : List Sampled} (hS : Sampling tbl S)
    (hinc : tbl.Pairwise (·.1 < ·.1)) {w0 : Nat} (h : searchGE S w0 = S.length) :
    ∀ e ∈ tbl, e.1 < w0 := fun e' he' => by
  have he := List.getLast?_eq_some_getLast (List.ne_nil_of_mem he')
  have := (searchGE_spec S w0).1 _ (by rw [h, List.take_length]; exact List.mem_of_getLast? (hS.last _ he))
  exact Nat.lt_of_le_of_lt (le_getLast hinc he e' he') this

/-- the sampled entry the scan starts from: the last one not above the wanted value -/
theorem search_start (S : List Sampled) {w0 : Nat} (h0 : ∀ o, S[0]? = some o → o.1 ≤ w0) {o : Sampled}
    (hgo : S[searchGE S w0]? = some o) :
    ∃ i oi, (if searchGE S w0 > 0 ∧ o.1 ≠ w0 then searchGE S w0 - 1 else searchGE S w0) = i ∧
      S[i]? = some oi ∧ oi.1 ≤ w0 ∧ (w0 ≤ oi.1 ∨ ∃ o', S[i + 1]? = some o' ∧ w0 < o'.1) := by
  obtain ⟨hs1, hs2, _⟩ := searchGE_spec S w0
  generalize searchGE S w0 = i0 at *
  have how : w0 ≤ o.1 := hs2 o hgo
  have hi0 := (List.getElem?_eq_some_iff.mp hgo).1
  by_cases heq : o.1 = w0
  · exact ⟨i0, o, if_neg (fun h => h.2 heq), hgo, Nat.le_of_eq heq, Or.inl (Nat.le_of_eq heq.symm)⟩
  · have hpos : i0 > 0 := Nat.pos_of_ne_zero fun h0' => by
      subst h0'; exact heq (Nat.le_antisymm (h0 o hgo) how)
    have hprev : i0 - 1 < S.length := Nat.lt_of_le_of_lt (Nat.sub_le _ _) hi0
    refine ⟨i0 - 1, S[i0 - 1], if_pos ⟨hpos, heq⟩, List.getElem?_eq_getElem hprev, ?_,
      Or.inr ⟨o, by rw [Nat.sub_add_cancel hpos]; exact hgo, Nat.lt_of_le_of_ne how (Ne.symm heq)⟩⟩
    exact Nat.le_of_lt (hs1 _ (List.mem_take_iff_getElem.mpr
      ⟨i0 - 1, Nat.lt_min.mpr ⟨Nat.sub_lt hpos Nat.one_pos, hprev⟩, rfl⟩))

/-- The third hypothesis: `lookup` has discarded the wanted values below the first sampled value before it enters
    the loop, which is `search_start`'s `h0`. -/
theorem outer_ok {tbl : List (Nat × Nat)} {S : List Sampled} (hS : Sampling tbl S)
    (hinc : tbl.Pairwise (·.1 < ·.1)) (lastValOffset : Int) (values : List Nat) (hsorted : values.Pairwise (· ≤ ·)) :
    ∀ (fuel vi : Nat) (rngs : List Rng), values.length - vi + 1 ≤ fuel →
      rngs = (values.take vi).map (specOne lastValOffset tbl) →
      (∀ o w, S[0]? = some o → values[vi]? = some w → o.1 ≤ w) →
      outer S tbl lastValOffset values fuel rngs vi = .ok (values.map (specOne lastValOffset tbl)) := by
  intro fuel
  induction fuel with
  | zero => intro vi rngs hf; omega
  | succ fuel ih =>
    intro vi rngs hf hr hfirst
    unfold outer
    cases hv : values[vi]? with
    | none =>
      simp only
      rw [hr, List.take_of_length_le (List.getElem?_eq_none_iff.mp hv)]
    | some w0 =>
      simp only
      have hvi := (List.getElem?_eq_some_iff.mp hv).1
      have hhead : (values.drop vi).head? = some w0 := by rw [List.head?_drop]; exact hv
      have hge_w0 := le_of_head? hsorted.drop hhead
      by_cases hi0 : searchGE S w0 = S.length
      · -- past the end: nothing of what is left exists
        rw [if_pos hi0]
        have hall := search_end hS hinc hi0
        have hnf : (values.drop vi).map (specOne lastValOffset tbl) = List.replicate (values.drop vi).length notFound :=
          List.map_eq_replicate_iff.mpr fun x hx => specOne_notFound lastValOffset x tbl fun e he =>
            Nat.ne_of_lt (Nat.lt_of_lt_of_le (hall e he) (hge_w0 x hx))
        have hrlen : rngs.length = vi := by
          rw [hr, List.length_map, List.length_take]; exact Nat.min_eq_left (Nat.le_of_lt hvi)
        rw [hrlen, ← List.length_drop, ← hnf, hr, ← List.map_append, List.take_append_drop]
      · rw [if_neg hi0]
        have hgo := List.getElem?_eq_getElem (Nat.lt_of_le_of_ne (searchGE_spec S w0).2.2 hi0)
        obtain ⟨i, oi, hi, hoi, hoiw, hprogress⟩ := search_start S
          (fun o ho => hfirst o w0 ho hv) hgo
        simp only [hgo]
        rw [hi]
        simp only [hoi]
        obtain ⟨p, rest', hdrop, hTop⟩ := top_of_sample hS hinc hoi
        rw [hdrop]
        obtain ⟨c, hc1, hc3⟩ := iterLoop_ok S lastValOffset values hsorted _ oi.1 p rest' i rngs [] vi w0
          rfl hv (hTop w0 hoiw)
        have hcpos : c ≥ 1 := hc3 hprogress
        -- `omega` below takes the existential in `hprogress` apart and builds an ill-typed term from it
        clear hprogress
        rw [hc1]
        simp only [closeAll, List.map_nil, List.append_nil]
        -- the locations found relative to the rest of the table are the locations in the table
        have hconv : ((values.drop vi).take c).map (specOne lastValOffset ((oi.1, p) :: rest')) =
            ((values.drop vi).take c).map (specOne lastValOffset tbl) :=
          List.map_congr_left fun x hx => by
            rw [← hdrop]
            exact (specOne_drop lastValOffset x tbl oi.2 fun e he =>
              Nat.lt_of_lt_of_le (hinc.rel_of_mem_take_of_mem_drop (y := (oi.1, p)) he (hdrop ▸ List.mem_cons_self))
                (Nat.le_trans hoiw (hge_w0 x (List.mem_of_mem_take hx)))).symm
        rw [hconv]
        apply ih (vi + c) _ (by omega)
        · rw [hr, List.take_add, List.map_append]
        · intro o w ho hw
          rw [← List.getElem?_drop] at hw
          exact Nat.le_trans (hfirst o w0 ho hv) (hge_w0 w (List.mem_of_getElem? hw))

/-- The multi-value lookup answers as the full table does from *any* list of entries kept in memory
    that is in table order and has the first and the last entry of the table: the sampling rate, and
    which entries in between are kept, only decide how far the scan reads. -/
theorem lookup_of_sampling {tbl : List (Nat × Nat)} {S : List Sampled} (hS : Sampling tbl S) (hne : tbl ≠ [])
    (hinc : tbl.Pairwise (·.1 < ·.1)) (lastValOffset : Int) {values : List Nat} (hsorted : values.Pairwise (· ≤ ·)) :
    lookup S tbl lastValOffset values = .ok (specLookup tbl lastValOffset values) := by
  obtain ⟨⟨v0, p0⟩, rest0, rfl⟩ := List.exists_cons_of_ne_nil hne
  have hfirst := hS.first _ rfl
  unfold lookup
  by_cases hv : values.isEmpty = true
  · rw [if_pos hv, List.isEmpty_iff.mp hv]; rfl
  · rw [if_neg hv]
    cases S with
    | nil => cases hfirst
    | cons f more =>
      cases hfirst
      simp only
      obtain ⟨h1, h2⟩ := takeWhile_length_spec (fun v => decide (v < v0)) values
      apply outer_ok hS hinc lastValOffset values hsorted _ _ _ (Nat.succ_le_succ (Nat.sub_le _ _)) _
        fun _ w ho hw => by cases ho; exact Nat.le_of_not_lt (of_decide_eq_false (h2 w hw))
      -- the values before the first table value are not found
      rw [List.map_eq_replicate_iff.mpr fun x hx => specOne_lt_head lastValOffset hinc (of_decide_eq_true (h1 x hx)),
        List.length_take, Nat.min_eq_left (List.takeWhile_sublist _).length_le]

end Thanos.IndexHeader
