import Thanos.Model.Rewrite
import Thanos.Lemmas.ListFacts
/-
  C48: merging intervals keeps the set of covered timestamps (`covered_addIv`, for any intervals,
  empty ones included); the chunk loop of the code computes the per-chunk filter of the
  specification (`codeChunks_eq_spec`), and so does the encoding-aware loop where it does not panic
  (`codeChunksK_ok`; on float chunks it never does, `codeChunksK_float`).
-/
namespace Thanos.Rewrite

theorem has_iff (i : Interval) (t : Int) : i.has t = true ↔ i.mint ≤ t ∧ t ≤ i.maxt := by
  simp [Interval.has]

theorem covered_iff (ivs : List Interval) (t : Int) :
    covered ivs t = true ↔ ∃ i ∈ ivs, i.mint ≤ t ∧ t ≤ i.maxt := by
  simp [covered, List.any_eq_true, has_iff]

theorem covered_cons (r : Interval) (rs : List Interval) (t : Int) :
    covered (r :: rs) t = true ↔ r.has t = true ∨ covered rs t = true := by
  rw [covered, List.any_cons, Bool.or_eq_true]; rfl

theorem has_merge {n r : Interval} (t : Int) (h1 : ¬ r.maxt < n.mint - 1) (h2 : ¬ n.maxt + 1 < r.mint) :
    (Interval.mk (min n.mint r.mint) (max n.maxt r.maxt)).has t = true ↔ n.has t = true ∨ r.has t = true := by
  simp only [has_iff]
  omega

theorem covered_addIv (t : Int) (n : Interval) (l : List Interval) :
    covered (addIv n l) t = true ↔ n.has t = true ∨ covered l t = true := by
  -- no interval left; `r` lies before `n`; `n` lies before `r`; they overlap or touch and are merged
  fun_induction addIv n l with
  | case1 n => exact covered_cons n [] t
  | case2 n r rs h1 ih => rw [covered_cons, ih, covered_cons, or_left_comm]
  | case3 n r rs h1 h2 => exact covered_cons n (r :: rs) t
  | case4 n r rs h1 h2 ih => rw [ih, has_merge t h1 h2, covered_cons, or_assoc]

theorem covered_foldl_addIv (t : Int) : ∀ (ivs acc : List Interval),
    (covered (ivs.foldl (fun acc i => addIv i acc) acc) t = true ↔ covered ivs t = true ∨ covered acc t = true)
  | [], acc => by simp [covered]
  | i :: is, acc => by
    rw [List.foldl_cons, covered_foldl_addIv t is, covered_addIv, covered_cons, or_left_comm, or_assoc]

/-- a chunk as blocks hold it -/
def ChunkWF (c : Chunk) : Prop := c ≠ [] ∧ c.Pairwise (fun a b => a.1 < b.1)

theorem chunk_bounds (c : Chunk) (h : ChunkWF c) :
    ∃ mn mx, chunkMin c = some mn ∧ chunkMax c = some mx ∧ ∀ x ∈ c, mn ≤ x.1 ∧ x.1 ≤ mx := by
  have hmn := List.head?_eq_some_head h.1
  have hmx := List.getLast?_eq_some_getLast h.1
  exact ⟨(c.head h.1).1, (c.getLast h.1).1, by rw [chunkMin, hmn]; rfl, by rw [chunkMax, hmx]; rfl,
    bounds_of_pairwise (·.1) h.2 hmn hmx⟩

theorem covered_of_subrange {ivs : List Interval} {c : Chunk} {mn mx : Int} (hb : ∀ x ∈ c, mn ≤ x.1 ∧ x.1 ≤ mx)
    (h : ivs.any (fun i => i.has mn && i.has mx) = true) : ∀ x ∈ c, covered ivs x.1 = true := by
  intro x hx
  obtain ⟨i, hi, h⟩ := List.any_eq_true.mp h
  rw [Bool.and_eq_true, has_iff, has_iff] at h
  have := hb x hx
  exact (covered_iff ivs x.1).mpr ⟨i, hi, by omega, by omega⟩

/-- what the specification leaves of the chunks of a series -/
def specChunks (ivs : List Interval) (cs : List Chunk) : List Chunk :=
  (cs.map fun c => c.filter fun x => !covered ivs x.1).filter (!·.isEmpty)

theorem specChunks_cons (ivs : List Interval) (c : Chunk) (cs : List Chunk) :
    specChunks ivs (c :: cs) =
      if (c.filter fun x => !covered ivs x.1).isEmpty then specChunks ivs cs
      else (c.filter fun x => !covered ivs x.1) :: specChunks ivs cs := by
  by_cases h : (c.filter fun x => !covered ivs x.1).isEmpty <;> simp [specChunks, h]

theorem mem_specChunks {ivs : List Interval} {cs : List Chunk} {c' : Chunk} :
    c' ∈ specChunks ivs cs ↔ c' ≠ [] ∧ ∃ c ∈ cs, (c.filter fun x => !covered ivs x.1) = c' := by
  simp only [specChunks, List.mem_filter, List.mem_map, Bool.not_eq_eq_eq_not, Bool.not_true,
    List.isEmpty_eq_false_iff, ne_eq, and_comm]

theorem covered_overlapping {ivs : List Interval} {mn mx t : Int} (ht : mn ≤ t ∧ t ≤ mx) :
    covered (ivs.filter fun i => decide (mn ≤ i.maxt) && decide (i.mint ≤ mx)) t = covered ivs t := by
  rw [Bool.eq_iff_iff, covered_iff, covered_iff]
  constructor
  · rintro ⟨i, hi, h⟩
    exact ⟨i, (List.mem_filter.mp hi).1, h⟩
  · rintro ⟨i, hi, h⟩
    refine ⟨i, List.mem_filter.mpr ⟨hi, ?_⟩, h⟩
    rw [Bool.and_eq_true, decide_eq_true_eq, decide_eq_true_eq]
    omega

/-- the chunk loop of the repaired code computes the specification's chunks: a chunk as blocks hold it
    lies between its first and last timestamp, so inside one interval every sample is covered, and
    otherwise a sample is covered by the intervals iff it is covered by those overlapping the chunk -/
theorem codeChunks_eq_spec (ivs : List Interval) : ∀ (cs : List Chunk), (∀ c ∈ cs, ChunkWF c) →
    codeChunks true ivs cs = specChunks ivs cs
  | [], _ => rfl
  | c :: cs, hwf => by
    obtain ⟨hc, ht⟩ := List.forall_mem_cons.mp hwf
    obtain ⟨mn, mx, hmn, hmx, hb⟩ := chunk_bounds c hc
    rw [specChunks_cons, ← codeChunks_eq_spec ivs cs ht, codeChunks]
    simp only [hmn, hmx]
    by_cases h1 : (ivs.any fun i => i.has mn && i.has mx) = true
    · rw [if_pos h1, if_pos]
      rw [List.isEmpty_iff, List.filter_eq_nil_iff]
      intro x hx
      rw [covered_of_subrange hb h1 x hx]
      exact Bool.noConfusion
    · rw [if_neg h1, List.filter_congr fun x hx => congrArg (!·) (covered_overlapping (ivs := ivs) (hb x hx))]
      by_cases h2 : (ivs.filter fun i => decide (mn ≤ i.maxt) && decide (i.mint ≤ mx)).isEmpty = true
      · -- nothing overlaps: nothing is covered, the chunk stays as it is
        have hall : (c.filter fun x => !covered ivs x.1) = c :=
          List.filter_eq_self.mpr fun x hx => by
            rw [← covered_overlapping (ivs := ivs) (hb x hx), List.isEmpty_iff.mp h2]; rfl
        rw [if_pos h2, hall, if_neg (by rw [List.isEmpty_iff]; exact hc.1)]
      · rw [if_neg h2, if_pos trivial]

/-- when the encoding-aware chunk loop does not panic, it computes — encodings aside — what the
    float loop computes (hence the specification's chunks) -/
theorem codeChunksK_ok (ivs : List Interval) : ∀ (kcs out : List KChunk), codeChunksK ivs kcs = some out →
    out.map (·.2) = codeChunks true ivs (kcs.map (·.2)) := by
  intro kcs
  -- along the loop's own recursion; in each branch the float loop takes the same branch
  fun_induction codeChunksK ivs kcs with
  | case1 => intro out h; cases h; rfl
  | case2 hist c cs mn mx hmx hmn h1 ih =>
    -- inside one interval: dropped
    intro out h
    simp only [List.map_cons, codeChunks, hmn, hmx, h1]
    exact ih out h
  | case3 hist c cs mn mx hmx hmn h1 ov h2 ih =>
    -- no interval overlaps: kept as it is
    intro out h
    obtain ⟨rest, hr, rfl⟩ := Option.map_eq_some_iff.mp h
    simp only [List.map_cons, codeChunks, hmn, hmx, h1, ov, h2, ih rest hr]
    rfl
  | case4 hist c cs mn mx hmx hmn h1 ov h2 c' h3 ih =>
    -- emptied by the overlapping intervals: skipped
    intro out h
    simp only [List.map_cons, codeChunks, hmn, hmx, h1, ov, h2, c', h3]
    exact ih out h
  | case5 => exact fun out h => nomatch h  -- a histogram chunk to re-encode: no result
  | case6 hist c cs mn mx hmx hmn h1 ov h2 c' h3 hh ih =>
    -- a float chunk re-encoded without the deleted samples
    intro out h
    obtain ⟨rest, hr, rfl⟩ := Option.map_eq_some_iff.mp h
    simp only [List.map_cons, codeChunks, hmn, hmx, h1, ov, h2, c', h3, ih rest hr]
    rfl
  | case7 hist c cs hn ih =>
    -- an empty chunk
    intro out h
    rw [List.map_cons, codeChunks]
    split
    · exact (hn _ _ ‹_› ‹_›).elim
    · exact ih out h

/-- float chunks never make the loop panic -/
theorem codeChunksK_float (ivs : List Interval) : ∀ (kcs : List KChunk), (∀ kc ∈ kcs, kc.1 = false) →
    ∃ out, codeChunksK ivs kcs = some out := by
  intro kcs
  -- the only branch without a result is the re-encoding of a histogram chunk
  fun_induction codeChunksK ivs kcs with
  | case1 => exact fun _ => ⟨[], rfl⟩
  | case5 c cs => exact fun hf => nomatch hf _ List.mem_cons_self
  | case2 hist c cs mn mx hmx hmn h1 ih | case4 hist c cs mn mx hmx hmn h1 ov h2 c' h3 ih | case7 hist c cs hn ih =>
    exact fun hf => ih fun k hk => hf k (List.mem_cons_of_mem _ hk)
  | case3 hist c cs mn mx hmx hmn h1 ov h2 ih | case6 hist c cs mn mx hmx hmn h1 ov h2 c' h3 hh ih =>
    intro hf
    obtain ⟨rest, hr⟩ := ih fun k hk => hf k (List.mem_cons_of_mem _ hk)
    exact ⟨_, by rw [hr]; rfl⟩

end Thanos.Rewrite
