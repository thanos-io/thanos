import Thanos.Model.BlockSet
import Thanos.Lemmas.OrderedInsert
import Thanos.Lemmas.ListFacts
/-
  `bucketBlockSet.add` / `remove` / `getFor` (C15), function by function: what the loop of `getFor` over one level
  (`fill`) returns, as rules over `fill`'s own recursion, and from them what `getForL` / `getFor` return (`getFor_sound`,
  `getForL_cover`, `getForL_nodup`); where `firstIdx` enters a descending list of resolutions; `add` / `remove` as the
  replacement of one level (`addAt_eq_set`, `removeLevels_eq_set`) and as permutation / sublist of the flattened levels,
  so that distinct blocks stay distinct.  The invariant of a set built from these is in Lemmas/BlockSetInv.lean.
-/
namespace Thanos.BlockSet
open Thanos.OrderedInsert

def covers (b : Block) (t : Int) : Prop := b.mint ≤ t ∧ t < b.maxt

instance (b : Block) (t : Int) : Decidable (covers b t) := by unfold covers; infer_instance

theorem mem_appendMissing (more acc : List Block) (x : Block) : x ∈ appendMissing acc more ↔ x ∈ acc ∨ x ∈ more := by
  fun_induction appendMissing acc more with
  | case1 acc => exact ⟨Or.inl, (·.elim id (nomatch ·))⟩
  | case2 acc m ms h ih =>
    rw [ih, List.mem_cons]
    exact ⟨Or.imp_right Or.inr, fun h' => h'.elim Or.inl (·.elim (fun e => Or.inl (e ▸ h)) Or.inr)⟩
  | case3 acc m ms h ih => rw [ih, List.mem_append, List.mem_singleton, List.mem_cons, or_assoc]

theorem nodup_appendMissing (more acc : List Block) (h : acc.Nodup) : (appendMissing acc more).Nodup := by
  fun_induction appendMissing acc more with
  | case1 => exact h
  | case2 acc m ms _ ih => exact ih h
  | case3 acc m ms hm ih => exact ih (nodup_concat h hm)

theorem mem_app {dd : Bool} {acc more : List Block} {x : Block} :
    x ∈ app dd acc more ↔ x ∈ acc ∨ x ∈ more := by
  cases dd
  · exact List.mem_append
  · exact mem_appendMissing more acc x

/-- `bs = append(bs, b)` under the block-matcher test.  `acc2` of `fill` is `push b acc1` by `rfl`: the `fun_induction`
    arms below apply `mem_push` / `nodup_push` to it directly. -/
def push (b : Block) (acc : List Block) : List Block := if b.keep then acc ++ [b] else acc

theorem mem_push {b x : Block} {acc : List Block} : x ∈ push b acc ↔ x ∈ acc ∨ (x = b ∧ b.keep = true) := by
  unfold push
  split
  next h => simp [h]
  next h => simp [h]

theorem nodup_push {b : Block} {acc : List Block} (h : acc.Nodup) (hb : b ∉ acc) : (push b acc).Nodup := by
  unfold push
  split
  · exact nodup_concat h hb
  · exact h

variable {dd : Bool} {rec : Int → Int → List Block} {mint maxt : Int}

theorem fill_nil (start : Int) (acc : List Block) :
    fill dd rec mint maxt [] start acc = app dd acc (rec start maxt) := rfl

theorem fill_cons (b : Block) (bs : List Block) (start : Int) (acc : List Block) :
    fill dd rec mint maxt (b :: bs) start acc =
      if b.maxt ≤ mint then fill dd rec mint maxt bs start acc
      else if b.mint > maxt then app dd acc (rec start maxt)
      else fill dd rec mint maxt bs b.maxt (push b (app dd acc (rec start (b.mint - 1)))) := rfl

/-! ### five rules over `fill`'s own recursion; `rec` stands for the answer of the next level

  Arms of `fun_induction fill`: 1 level exhausted; 2 block ends before the range (skipped); 3 block starts after it
  (scan ends); 4 block taken, after the next level's answer for the gap in front of it.  `fill_forall` asks `rec` only
  about sub-ranges of `[mint, maxt]`: that lets `getForL_sound` carry `mint < x.maxt` down a level.  `fill_block_in`: a
  kept block of a sorted level that overlaps the range is returned.  `fill_gap_cover`: an instant that no block of this
  level covers lies in a gap, and what `rec` returns for the gap covers it. -/

theorem fill_forall (P : Block → Prop) (hrec : ∀ s e, mint ≤ s → e ≤ maxt → ∀ x ∈ rec s e, P x) (bs : List Block)
    (start : Int) (acc : List Block) (hs : mint ≤ start) (hacc : ∀ x ∈ acc, P x)
    (hbs : ∀ b ∈ bs, b.keep = true → mint < b.maxt → b.mint ≤ maxt → P b) :
    ∀ x ∈ fill dd rec mint maxt bs start acc, P x := by
  have happ {s e : Int} {acc : List Block} (hs : mint ≤ s) (he : e ≤ maxt) (hacc : ∀ x ∈ acc, P x) :
      ∀ x ∈ app dd acc (rec s e), P x :=
    fun x hx => (mem_app.mp hx).elim (hacc x) (hrec s e hs he x)
  fun_induction fill dd rec mint maxt bs start acc with
  | case1 => exact happ hs (Int.le_refl _) hacc
  | case2 b bs start acc hskip ih => exact ih hs hacc (List.forall_mem_cons.mp hbs).2
  | case3 => exact happ hs (Int.le_refl _) hacc
  | case4 b bs start acc h1 h2 acc1 acc2 ih =>
    have h1 := Int.not_le.mp h1
    have h2 := Int.not_lt.mp h2
    refine ih (Int.le_of_lt h1) (fun y hy => ?_) (List.forall_mem_cons.mp hbs).2
    rcases mem_push.mp hy with hy | ⟨rfl, hk⟩
    · exact happ hs (Int.le_trans (Int.sub_le_self _ (by decide)) h2) hacc y hy
    · exact hbs y List.mem_cons_self hk h1 h2

theorem fill_mono (bs : List Block) (start : Int) (acc : List Block) (x : Block) (hx : x ∈ acc) :
    x ∈ fill dd rec mint maxt bs start acc := by
  fun_induction fill dd rec mint maxt bs start acc with
  | case1 => exact mem_app.mpr (.inl hx)
  | case2 b bs start acc hskip ih => exact ih hx
  | case3 => exact mem_app.mpr (.inl hx)
  | case4 b bs start acc h1 h2 acc1 acc2 ih => exact ih (mem_push.mpr (.inl (mem_app.mpr (.inl hx))))

/-- sorted by min time, as `add` leaves every level -/
def SortedByMin (bs : List Block) : Prop := bs.Pairwise (fun a b => a.mint ≤ b.mint)

theorem fill_block_in (bs : List Block) (start : Int) (acc : List Block) (b : Block) (hsort : SortedByMin bs)
    (hb : b ∈ bs) (hk : b.keep = true) (h1 : mint < b.maxt) (h2 : b.mint ≤ maxt) :
    b ∈ fill dd rec mint maxt bs start acc := by
  fun_induction fill dd rec mint maxt bs start acc with
  | case1 => exact nomatch hb
  | case2 x bs start acc hskip ih =>
    rcases List.mem_cons.mp hb with rfl | hb'
    · exact absurd hskip (Int.not_le.mpr h1)
    · exact ih (List.pairwise_cons.mp hsort).2 hb'
  | case3 x bs start acc h hstop =>
    -- the scan does not stop before `b`: `x` starts no later
    have hxb : x.mint ≤ b.mint := (List.mem_cons.mp hb).elim (· ▸ Int.le_refl _) ((List.pairwise_cons.mp hsort).1 b)
    exact absurd hstop (Int.not_lt.mpr (Int.le_trans hxb h2))
  | case4 x bs start acc h h' acc1 acc2 ih =>
    rcases List.mem_cons.mp hb with rfl | hb'
    · exact fill_mono bs _ _ b (mem_push.mpr (.inr ⟨rfl, hk⟩))
    · exact ih (List.pairwise_cons.mp hsort).2 hb'

/-- `start ≤ t` is all that is asked of `start`: overlapping blocks may make it move backwards -/
theorem fill_gap_cover {t : Int}
    (hrec : ∀ s e, s ≤ t → t ≤ e → ∃ b' ∈ rec s e, covers b' t) (htM : t ≤ maxt) (bs : List Block)
    (start : Int) (acc : List Block) (hs : start ≤ t) (hnc : ∀ b ∈ bs, ¬ covers b t) :
    ∃ b' ∈ fill dd rec mint maxt bs start acc, covers b' t := by
  have happ {s e : Int} (acc : List Block) (hs : s ≤ t) (he : t ≤ e) : ∃ b' ∈ app dd acc (rec s e), covers b' t :=
    let ⟨b', hb', hc⟩ := hrec s e hs he
    ⟨b', mem_app.mpr (.inr hb'), hc⟩
  fun_induction fill dd rec mint maxt bs start acc with
  | case1 => exact happ _ hs htM
  | case2 b bs start acc hskip ih => exact ih hs (List.forall_mem_cons.mp hnc).2
  | case3 => exact happ _ hs htM
  | case4 b bs start acc h1 h2 acc1 acc2 ih =>
    by_cases hlt : t < b.mint
    · obtain ⟨b', hb', hc⟩ := happ acc hs (Int.le_sub_one_of_lt hlt)
      exact ⟨b', fill_mono bs _ _ b' (mem_push.mpr (.inl hb')), hc⟩
    · -- `t` is not in `b`, so it lies behind it
      have hb : b.maxt ≤ t := Int.not_lt.mp fun h => hnc b List.mem_cons_self ⟨Int.not_lt.mp hlt, h⟩
      exact ih hb (List.forall_mem_cons.mp hnc).2

/-- no duplicates (repaired code): `appendMissing` takes from the next level only what is new, so what the next
    level returns need not even be free of duplicates -/
theorem fill_nodup (bs : List Block) (start : Int) (acc : List Block) (hacc : acc.Nodup) (hbs : bs.Nodup)
    (hdis : ∀ x ∈ bs, x ∉ acc) (hrd : ∀ s e, ∀ x ∈ rec s e, x ∉ bs) :
    (fill true rec mint maxt bs start acc).Nodup := by
  fun_induction fill true rec mint maxt bs start acc with
  | case1 => exact nodup_appendMissing _ _ hacc
  | case2 b bs start acc hskip ih =>
    exact ih hacc (List.nodup_cons.mp hbs).2 (List.forall_mem_cons.mp hdis).2
      fun s e x h h' => hrd s e x h (List.mem_cons_of_mem _ h')
  | case3 => exact nodup_appendMissing _ _ hacc
  | case4 b bs start acc h1 h2 acc1 acc2 ih =>
    have hbs' := List.nodup_cons.mp hbs
    have hnew : ∀ x ∈ b :: bs, x ∉ app true acc (rec start (b.mint - 1)) := fun x hx h =>
      (mem_app.mp h).elim (hdis x hx) (fun h => hrd _ _ x h hx)
    refine ih (nodup_push (nodup_appendMissing _ _ hacc) (hnew b List.mem_cons_self)) hbs'.2 (fun x hx h => ?_)
      fun s e x h h' => hrd s e x h (List.mem_cons_of_mem _ h')
    rcases mem_push.mp h with h | ⟨rfl, _⟩
    · exact hnew x (List.mem_cons_of_mem _ hx) h
    · exact hbs'.1 hx

/-! ### `getForL` / `getFor` -/

theorem getForL_cons (dd : Bool) (bs : List Block) (rest : List (List Block)) (mint maxt : Int) :
    getForL dd (bs :: rest) mint maxt =
      if mint > maxt then [] else fill dd (getForL dd rest) mint maxt bs mint [] := rfl

theorem getForL_sound (dd : Bool) (levels : List (List Block)) : ∀ (mint maxt : Int) (x : Block),
    x ∈ getForL dd levels mint maxt →
    (∃ l ∈ levels, x ∈ l) ∧ x.keep = true ∧ mint < x.maxt ∧ x.mint ≤ maxt := by
  induction levels with
  | nil => exact fun _ _ _ h => nomatch h
  | cons bs rest ih =>
    intro mint maxt x h
    rw [getForL_cons] at h
    by_cases hm : mint > maxt
    · rw [if_pos hm] at h
      exact nomatch h
    · rw [if_neg hm] at h
      refine fill_forall (fun y => (∃ l ∈ bs :: rest, y ∈ l) ∧ y.keep = true ∧ mint < y.maxt ∧ y.mint ≤ maxt)
        (fun s e hs he y hy => ?_) bs mint [] (Int.le_refl _) (fun _ => (nomatch ·))
        (fun b hb hk h1 h2 => ⟨⟨bs, List.mem_cons_self, hb⟩, hk, h1, h2⟩) x h
      obtain ⟨⟨l, hl, hyl⟩, hk, h1, h2⟩ := ih s e y hy
      exact ⟨⟨l, List.mem_cons_of_mem _ hl, hyl⟩, hk, Int.lt_of_le_of_lt hs h1, Int.le_trans h2 he⟩

theorem getForL_cover (dd : Bool) (levels : List (List Block)) : ∀ (mint maxt t : Int),
    (∀ l ∈ levels, SortedByMin l) → mint ≤ t → t ≤ maxt →
    (∃ l ∈ levels, ∃ b ∈ l, covers b t) →
    (∀ l ∈ levels, ∀ b ∈ l, b.keep = true) →
    ∃ b' ∈ getForL dd levels mint maxt, covers b' t := by
  induction levels with
  | nil => exact fun _ _ _ _ _ _ ⟨_, hl, _⟩ => nomatch hl
  | cons bs rest ih =>
    intro mint maxt t hsort hm hM hex hkeep
    rw [getForL_cons, if_neg (Int.not_lt.mpr (Int.le_trans hm hM))]
    by_cases hhere : ∃ b ∈ bs, covers b t
    · obtain ⟨b, hb, hc⟩ := hhere
      exact ⟨b, fill_block_in bs mint [] b (hsort bs List.mem_cons_self) hb (hkeep bs List.mem_cons_self b hb)
        (Int.lt_of_le_of_lt hm hc.2) (Int.le_trans hc.1 hM), hc⟩
    · -- the covering block lies on a later level
      obtain ⟨l, hl, hlb⟩ := hex
      have hl' := (List.mem_cons.mp hl).resolve_left fun e => hhere (e ▸ hlb)
      exact fill_gap_cover (fun s e hs he => ih s e t
        (List.forall_mem_cons.mp hsort).2 hs he ⟨l, hl', hlb⟩
        (List.forall_mem_cons.mp hkeep).2) hM bs mint [] hm fun b hb hc => hhere ⟨b, hb, hc⟩

/-- `levels.flatten.Nodup`: the blocks are pointer identities in the Go code -/
theorem getForL_nodup (levels : List (List Block)) (mint maxt : Int) (hd : levels.flatten.Nodup) :
    (getForL true levels mint maxt).Nodup := by
  match levels with
  | [] => exact List.nodup_nil
  | bs :: rest =>
    rw [getForL_cons]
    by_cases hm : mint > maxt
    · rw [if_pos hm]
      exact List.nodup_nil
    · rw [if_neg hm]
      rw [List.flatten_cons, List.nodup_append] at hd
      refine fill_nodup bs mint [] List.nodup_nil hd.1 (fun _ _ => List.not_mem_nil) (fun s e x hx hxb => ?_)
      obtain ⟨⟨l, hl, hxl⟩, _⟩ := getForL_sound true rest s e x hx
      exact hd.2.2 x hxb x (List.mem_flatten.mpr ⟨l, hl, hxl⟩) rfl

theorem getFor_of_lt {dd guard : Bool} {s : BSet} {mint maxt maxRes : Int} (hm : ¬ mint > maxt)
    (hi : firstIdx s.ress maxRes < s.blocks.length) :
    getFor dd guard s mint maxt maxRes = some (getForL dd (s.blocks.drop (firstIdx s.ress maxRes)) mint maxt) := by
  simp only [getFor, if_neg hm, if_pos hi]

theorem getForL_of_gt (dd : Bool) (levels : List (List Block)) {mint maxt : Int} (h : mint > maxt) :
    getForL dd levels mint maxt = [] := by
  cases levels with
  | nil => rfl
  | cons bs rest => exact if_pos h

/-- the returning branches agree: for an empty range and past the last level `getForL` finds nothing -/
theorem getFor_eq_some {dd guard : Bool} {s : BSet} {mint maxt maxRes : Int} {r : List Block}
    (hg : getFor dd guard s mint maxt maxRes = some r) :
    r = getForL dd (s.blocks.drop (firstIdx s.ress maxRes)) mint maxt := by
  revert hg
  -- arms: empty range; a level at `firstIdx`; past the last level with `guard` (`some []`), without it (`none`)
  fun_cases getFor dd guard s mint maxt maxRes with
  | case1 hm => exact fun hg => (Option.some.inj hg).symm.trans (getForL_of_gt dd _ hm).symm
  | case2 => exact fun hg => (Option.some.inj hg).symm
  | case3 _ _ hi =>
    rw [List.drop_eq_nil_of_le (Nat.le_of_not_lt hi)]
    exact fun hg => (Option.some.inj hg).symm
  | case4 => exact nofun

theorem getFor_sound {dd guard : Bool} {s : BSet} {mint maxt maxRes : Int} {r : List Block} {x : Block}
    (hg : getFor dd guard s mint maxt maxRes = some r) (hx : x ∈ r) :
    (∃ l ∈ s.blocks.drop (firstIdx s.ress maxRes), x ∈ l) ∧ x.keep = true ∧ mint < x.maxt ∧ x.mint ≤ maxt :=
  getForL_sound dd _ mint maxt x (getFor_eq_some hg ▸ hx)

/-! ### `firstIdx` ("Find first matching resolution") in a descending list of resolutions -/

theorem firstIdx_eq_findIdx (ress : List Int) (m : Int) : firstIdx ress m = ress.findIdx (· ≤ m) := by
  fun_induction firstIdx ress m with
  | case1 => rfl
  | case2 r rs m h ih => rw [List.findIdx_cons, ← ih, decide_eq_false (Int.not_le.mpr h), cond_false]
  | case3 r rs m h => rw [List.findIdx_cons, decide_eq_true (Int.not_lt.mp h), cond_true]

theorem firstIdx_le_length : ∀ (ress : List Int) (m : Int), firstIdx ress m ≤ ress.length :=
  fun ress m => firstIdx_eq_findIdx ress m ▸ List.findIdx_le_length

theorem firstIdx_le_of_le {ress : List Int} {m : Int} {j : Nat} {r : Int} (hr : ress[j]? = some r) (hle : r ≤ m) :
    firstIdx ress m ≤ j := by
  obtain ⟨_, rfl⟩ := List.getElem?_eq_some_iff.mp hr
  exact Nat.le_of_not_lt fun h =>
    of_decide_eq_false (List.not_of_lt_findIdx (p := (· ≤ m)) (firstIdx_eq_findIdx ress m ▸ h)) hle

theorem le_of_firstIdx_le (ress : List Int) (m : Int) (j : Nat) (r : Int) (hp : ress.Pairwise (fun a b => a > b))
    (h : firstIdx ress m ≤ j) (hr : ress[j]? = some r) : r ≤ m := by
  obtain ⟨hj, rfl⟩ := List.getElem?_eq_some_iff.mp hr
  rw [firstIdx_eq_findIdx] at h
  -- the level at `firstIdx` is allowed, and no later level is coarser
  have hf : ress[ress.findIdx (· ≤ m)]'(Nat.lt_of_le_of_lt h hj) ≤ m :=
    of_decide_eq_true (List.findIdx_getElem (p := (· ≤ m)))
  rcases Nat.eq_or_lt_of_le h with e | hlt
  · simp only [← e]
    exact hf
  · exact Int.le_trans (Int.le_of_lt (List.pairwise_iff_getElem.mp hp _ j _ hj hlt)) hf

theorem firstIdx_next (ress : List Int) (i : Nat) (r : Int) (hp : ress.Pairwise (fun a b => a > b))
    (h : ress[i]? = some r) : firstIdx ress r = i := by
  obtain ⟨hi, rfl⟩ := List.getElem?_eq_some_iff.mp h
  rw [firstIdx_eq_findIdx, List.findIdx_eq hi]
  exact ⟨decide_eq_true (Int.le_refl _), fun j hji =>
    decide_eq_false (Int.not_le.mpr (List.pairwise_iff_getElem.mp hp j i (Nat.lt_trans hji hi) hi hji))⟩

/-! ### `add` and `remove` replace one level -/

theorem insert_eq_ins (b : Block) : ∀ bs : List Block, insert b bs = ins (fun a c => lt a c = true) b bs
  | [] => rfl
  | x :: xs => by simp only [insert, ins, insert_eq_ins b xs]

theorem insert_perm (b : Block) (bs : List Block) : (insert b bs).Perm (b :: bs) :=
  insert_eq_ins b bs ▸ ins_perm b bs

theorem mem_insert (b : Block) (bs : List Block) (x : Block) : x ∈ insert b bs ↔ x = b ∨ x ∈ bs :=
  (insert_perm b bs).mem_iff.trans List.mem_cons

theorem lt_mint {a b : Block} : (lt a b = true → a.mint ≤ b.mint) ∧ (¬ lt a b = true → b.mint ≤ a.mint) := by
  unfold lt
  by_cases h : a.mint = b.mint
  · exact ⟨fun _ => Int.le_of_eq h, fun _ => Int.le_of_eq h.symm⟩
  · rw [if_neg h, decide_eq_true_iff]
    exact ⟨Int.le_of_lt, Int.not_lt.mp⟩

theorem insert_sorted (b : Block) (bs : List Block) (h : SortedByMin bs) : SortedByMin (insert b bs) := by
  rw [insert_eq_ins]
  exact ins_pairwise (R := fun a c : Block => a.mint ≤ c.mint) (fun _ _ _ => Int.le_trans) b bs h (fun _ _ => lt_mint.1)
    (fun _ _ => lt_mint.2)

theorem addAt_cons (r : Int) (rs : List Int) (bs : List Block) (bss : List (List Block)) (b : Block) :
    addAt (r :: rs) (bs :: bss) b = if r = b.res then some (insert b bs :: bss) else (addAt rs bss b).map (bs :: ·) := rfl

theorem addAt_eq_set {ress : List Int} {blocks blocks' : List (List Block)} {b : Block}
    (h : addAt ress blocks b = some blocks') :
    ∃ i l, blocks[i]? = some l ∧ ress[i]? = some b.res ∧ blocks' = blocks.set i (insert b l) := by
  fun_induction addAt ress blocks b generalizing blocks' with
  | case1 rs bs bss b => exact ⟨0, bs, rfl, rfl, (Option.some.inj h).symm⟩
  | case2 r rs bs bss b hr ih =>
    obtain ⟨bl, hbl, rfl⟩ := Option.map_eq_some_iff.mp h
    obtain ⟨i, l, h1, h2, rfl⟩ := ih hbl
    exact ⟨i + 1, l, h1, h2, rfl⟩
  | case3 => exact nomatch h

theorem addAt_perm {ress : List Int} {blocks blocks' : List (List Block)} {b : Block}
    (h : addAt ress blocks b = some blocks') : blocks'.flatten.Perm (b :: blocks.flatten) := by
  fun_induction addAt ress blocks b generalizing blocks' with
  | case1 rs bs bss b => exact Option.some.inj h ▸ (insert_perm b bs).append_right _
  | case2 r rs bs bss b hr ih =>
    obtain ⟨bl, hbl, rfl⟩ := Option.map_eq_some_iff.mp h
    exact ((ih hbl).append_left bs).trans List.perm_middle
  | case3 => exact nomatch h

theorem add_eq_some {s s' : BSet} {b : Block} (h : add s b = some s') :
    ∃ bl, addAt s.ress s.blocks b = some bl ∧ s' = { s with blocks := bl } := by
  obtain ⟨bl, hbl, rfl⟩ := Option.map_eq_some_iff.mp h
  exact ⟨bl, hbl, rfl⟩

theorem add_perm {s s' : BSet} {b : Block} (h : add s b = some s') : s'.blocks.flatten.Perm (b :: s.blocks.flatten) := by
  obtain ⟨bl, hbl, rfl⟩ := add_eq_some h
  exact addAt_perm hbl

theorem addAll_perm (bs : List Block) (s : BSet) :
    ∃ added, added.Sublist bs ∧ (addAll s bs).1.blocks.flatten.Perm (added ++ s.blocks.flatten) := by
  fun_induction addAll s bs with
  | case1 s => exact ⟨[], .slnil, .refl _⟩
  | case2 s b bs s' ha ih =>
    obtain ⟨added, h1, h2⟩ := ih
    exact ⟨b :: added, h1.cons_cons b, h2.trans (((add_perm ha).append_left added).trans List.perm_middle)⟩
  | case3 s b bs ha s'' n e ih =>
    rw [e] at ih
    obtain ⟨added, h1, h2⟩ := ih
    exact ⟨added, h1.cons b, h2⟩

theorem addAll_mem (bs : List Block) (s : BSet) : ∀ x ∈ (addAll s bs).1.blocks.flatten, x ∈ bs ∨ x ∈ s.blocks.flatten := by
  obtain ⟨added, h1, h2⟩ := addAll_perm bs s
  exact fun x hx => (List.mem_append.mp (h2.mem_iff.mp hx)).imp_left (h1.subset ·)

theorem addAll_nodup (bs : List Block) (s : BSet) (hs : s.blocks.flatten.Nodup) (hbs : bs.Nodup)
    (hdis : ∀ x ∈ bs, x ∉ s.blocks.flatten) : (addAll s bs).1.blocks.flatten.Nodup := by
  obtain ⟨added, h1, h2⟩ := addAll_perm bs s
  exact h2.nodup_iff.mpr (List.nodup_append.mpr ⟨h1.nodup hbs, hs, fun a ha c hc e => hdis a (h1.subset ha) (e ▸ hc)⟩)

theorem removeFirst_sublist (id : Nat) (l l' : List Block) (h : removeFirst id l = some l') : l'.Sublist l := by
  fun_induction removeFirst id l generalizing l' with
  | case1 => exact nomatch h
  | case2 b bs hb => exact Option.some.inj h ▸ List.sublist_cons_self b bs
  | case3 b bs hb ih =>
    obtain ⟨r, hr, rfl⟩ := Option.map_eq_some_iff.mp h
    exact (ih r hr).cons_cons b

theorem removeLevels_eq_set (id : Nat) (ls : List (List Block)) :
    removeLevels id ls = ls ∨ ∃ i l l', ls[i]? = some l ∧ l'.Sublist l ∧ removeLevels id ls = ls.set i l' := by
  fun_induction removeLevels id ls with
  | case1 => exact .inl rfl
  | case2 l ls r hr => exact .inr ⟨0, l, r, rfl, removeFirst_sublist id l r hr, rfl⟩
  | case3 l ls hr ih =>
    refine ih.imp (congrArg (l :: ·)) fun ⟨i, l0, l', h1, h2, e⟩ => ⟨i + 1, l0, l', h1, h2, congrArg (l :: ·) e⟩

theorem removeLevels_flatten_sublist (id : Nat) (ls : List (List Block)) :
    (removeLevels id ls).flatten.Sublist ls.flatten := by
  fun_induction removeLevels id ls with
  | case1 => exact .slnil
  | case2 l ls r hr => exact (removeFirst_sublist id l r hr).append (.refl _)
  | case3 l ls hr ih => exact (List.Sublist.refl l).append ih

theorem remove_distinct {s : BSet} (h : s.blocks.flatten.Nodup) (id : Nat) : (remove s id).blocks.flatten.Nodup :=
  List.Sublist.nodup (removeLevels_flatten_sublist id s.blocks) h

end Thanos.BlockSet
