import Thanos.Model.Quorum
import Thanos.Lemmas.ListFacts
/-
  C23: the two `Cause` functions of handler.go and the status they lead to.  With thresholds as in
  `Params` (the quorum is at most a bare majority) and no error both a conflict and unavailable
  (`wfKind`), `replicationErrors.Cause` of a failing series is a sentinel, `conflict` iff the
  conflicts alone reach the failure threshold; `writeErrors.Cause` over sentinels is a sentinel,
  `conflict` iff all are; so the status is 200, 409 or 503 (`httpStatus_causes`), the `verdict`.
-/
namespace Thanos.Quorum

/-- Go's insertion sort is stable: under `sort.Reverse` the first of the three stays in front
    whenever no other count is larger. -/
theorem sortDesc3 (a b c : Sentinel) (x y z : Nat) :
    ∃ t rest, sortDesc [(a, x), (b, y), (c, z)] = t :: rest ∧ (t = (a, x) ∨ t = (b, y) ∨ t = (c, z)) ∧
      (y ≤ x → z ≤ x → t = (a, x)) := by
  simp only [sortDesc, List.foldl_cons, List.foldl_nil, insertRev]
  by_cases h1 : x < y <;> simp only [h1, if_true, if_false, insertRev]
  · by_cases h2 : y < z
    · have h3 : x < z := Nat.lt_trans h1 h2
      simp only [h2, h3, if_true]
      exact ⟨_, _, rfl, .inr (.inr rfl), fun h => absurd h (Nat.not_le.2 h1)⟩
    · by_cases h3 : x < z <;> simp only [h2, h3, if_true, if_false] <;>
        exact ⟨_, _, rfl, .inr (.inl rfl), fun h => absurd h (Nat.not_le.2 h1)⟩
  · by_cases h3 : x < z
    · have h2 : y < z := Nat.lt_of_le_of_lt (Nat.le_of_not_lt h1) h3
      simp only [h2, h3, if_true]
      exact ⟨_, _, rfl, .inr (.inr rfl), fun _ h => absurd h (Nat.not_le.2 h3)⟩
    · by_cases h2 : y < z <;> simp only [h2, h3, if_true, if_false] <;> exact ⟨_, _, rfl, .inl rfl, fun _ _ => rfl⟩

/-- `replicationErrors.Cause` on a non-empty set: `t` is the front of the sorted slice -/
theorem replCause_eq (thr : Nat) (es : List ErrKind) (hpos : 0 < es.length) :
    ∃ t : Sentinel × Nat,
      (t = (.conflict, countConflict es) ∨ t = (.notReady, countNotReady es) ∨ t = (.unavailable, countUnavail es)) ∧
      (countNotReady es ≤ countConflict es → countUnavail es ≤ countConflict es → t = (.conflict, countConflict es)) ∧
      replCause thr es =
        if t.2 ≥ thr then .sentinel t.1 else if es.length ≥ thr then .sentinel .unavailable else .nil := by
  obtain ⟨t, rest, h, hm, hf⟩ := sortDesc3 .conflict .notReady .unavailable (countConflict es) (countNotReady es) (countUnavail es)
  refine ⟨t, hm, hf, ?_⟩
  simp only [replCause, List.isEmpty_eq_false_iff.2 (List.ne_nil_of_length_pos hpos), h, Bool.false_eq_true, if_false]

/-- a conflict is neither "not ready" nor "unavailable" (true of every error the classifiers of
    handler.go can see: the three predicates test disjoint sentinels / status codes, except that a
    gRPC Unavailable is both not-ready and unavailable) -/
def wfKind (k : ErrKind) : Bool := !(k.conflict && (k.notReady || k.unavail))

theorem count_bounds (es : List ErrKind) (h : ∀ k, k ∈ es → wfKind k = true) :
    countConflict es + countNotReady es ≤ es.length ∧ countConflict es + countUnavail es ≤ es.length := by
  have hk : ∀ k, k ∈ es → k.conflict = true → k.notReady = false ∧ k.unavail = false := fun k hk hc => by
    simpa [wfKind, hc] using h k hk
  exact ⟨countP_add_le _ _ es fun k hm hc => (hk k hm hc).1, countP_add_le _ _ es fun k hm hc => (hk k hm hc).2⟩

theorem countConflict_append (a b : List ErrKind) : countConflict (a ++ b) = countConflict a + countConflict b :=
  List.countP_append

/-- thresholds of a request: `sT` successes needed out of `nrep` replicas, `fT` failures make that
    impossible; the quorum is at most a bare majority -/
structure Params (sT fT nrep : Nat) : Prop where
  sT_le : sT ≤ nrep
  majority : 2 * sT ≤ nrep + 2
  sum_eq : sT + fT = nrep + 1

theorem Params.fT_pos {sT fT nrep : Nat} (P : Params sT fT nrep) : 1 ≤ fT := by
  have := P.sum_eq; have := P.sT_le; omega

theorem Params.lt_fT {sT fT nrep k len : Nat} (P : Params sT fT nrep) (hs : sT ≤ k) (hb : k + len ≤ nrep) :
    len < fT := by
  have := P.sum_eq; omega

theorem Params.fT_le_iff {sT fT nrep k len : Nat} (P : Params sT fT nrep) (h : k + len = nrep) :
    fT ≤ len ↔ k < sT := by
  have := P.sum_eq; omega

theorem Params.le_of_fT_le {sT fT nrep x y : Nat} (P : Params sT fT nrep) (hx : fT ≤ x) (hb : x + y ≤ nrep) :
    y ≤ x := by
  have := P.sum_eq; have := P.majority; omega

/-- `fT` conflicts among at most `nrep` errors outnumber the other two classes (`Params.majority`),
    so the sorted slice starts with the conflicts. -/
theorem replCause_conflict {sT fT nrep : Nat} (P : Params sT fT nrep) (es : List ErrKind)
    (hwf : ∀ k, k ∈ es → wfKind k = true) (hlen : es.length ≤ nrep) (hc : countConflict es ≥ fT) :
    replCause fT es = .sentinel .conflict := by
  have ⟨b1, b2⟩ := count_bounds es hwf
  obtain ⟨t, _, hf, h⟩ := replCause_eq fT es (Nat.lt_of_lt_of_le P.fT_pos (Nat.le_trans hc List.countP_le_length))
  rw [h, hf (P.le_of_fT_le hc (Nat.le_trans b1 hlen)) (P.le_of_fT_le hc (Nat.le_trans b2 hlen))]
  exact if_pos hc

theorem replCause_sentinel {fT : Nat} (hf : 1 ≤ fT) (es : List ErrKind) (hlen : es.length ≥ fT) :
    ∃ s, replCause fT es = .sentinel s ∧ (s = .conflict → fT ≤ countConflict es) := by
  obtain ⟨t, hm, _, h⟩ := replCause_eq fT es (Nat.lt_of_lt_of_le hf hlen)
  rw [h]
  by_cases ht : t.2 ≥ fT
  · refine ⟨t.1, if_pos ht, fun hs => ?_⟩
    rcases hm with rfl | rfl | rfl
    · exact ht
    · cases hs
    · cases hs
  · exact ⟨.unavailable, by rw [if_neg ht, if_pos hlen], fun hs => nomatch hs⟩

theorem replCause_conflict_iff {sT fT nrep : Nat} (P : Params sT fT nrep) (es : List ErrKind)
    (hwf : ∀ k, k ∈ es → wfKind k = true) (hlen : es.length ≤ nrep) (hf : fT ≤ es.length) :
    replCause fT es = .sentinel .conflict ↔ fT ≤ countConflict es := by
  obtain ⟨s, hs, hsc⟩ := replCause_sentinel P.fT_pos es hf
  exact ⟨fun h => hsc (RCause.sentinel.inj (hs.symm.trans h)), replCause_conflict P es hwf hlen⟩

/-- `writeErrors.Cause`: unavailable and not-ready take precedence over conflict. -/
theorem writeCause_sentinels (cs : List RCause) (hne : cs ≠ []) (hall : ∀ c, c ∈ cs → ∃ s, c = .sentinel s) :
    ∃ s, writeCause cs = .sentinel s ∧ (s = .conflict ↔ ∀ c, c ∈ cs → c = .sentinel .conflict) := by
  simp only [writeCause, List.isEmpty_eq_false_iff.2 hne, Bool.false_eq_true, if_false, List.any_eq_true, beq_iff_eq,
    exists_eq_right]
  by_cases hu : .sentinel .unavailable ∈ cs
  · exact ⟨.unavailable, if_pos hu, nofun, fun h => nomatch h _ hu⟩
  · rw [if_neg hu]
    by_cases hn : .sentinel .notReady ∈ cs
    · exact ⟨.notReady, if_pos hn, nofun, fun h => nomatch h _ hn⟩
    · rw [if_neg hn]
      have hc : ∀ c, c ∈ cs → c = .sentinel .conflict := fun c hc => by
        obtain ⟨s, rfl⟩ := hall c hc
        cases s with
        | conflict => rfl
        | notReady => exact absurd hc hn
        | unavailable => exact absurd hc hu
      obtain ⟨c0, h0⟩ := List.exists_mem_of_ne_nil cs hne
      exact ⟨.conflict, if_pos (hc c0 h0 ▸ h0), fun _ => hc, fun _ => rfl⟩

theorem httpStatus_failed {cs : List RCause} {s : Sentinel} (h : writeCause cs = .sentinel s) :
    httpStatus (.failed cs) = if s = .conflict then 409 else 503 := by
  simp only [httpStatus, h]
  cases s <;> rfl

theorem httpStatus_causes (cs : List RCause) (hall : ∀ c, c ∈ cs → ∃ s, c = .sentinel s) :
    httpStatus (if cs.isEmpty then .ok else .failed cs) =
      if cs = [] then 200 else if ∀ c, c ∈ cs → c = .sentinel .conflict then 409 else 503 := by
  by_cases hne : cs = []
  · subst hne
    rfl
  · obtain ⟨s, hs, hsc⟩ := writeCause_sentinels cs hne hall
    rw [List.isEmpty_eq_false_iff.2 hne, if_neg Bool.false_ne_true, httpStatus_failed hs, if_neg hne]
    exact ite_congr (propext hsc) (fun _ => rfl) fun _ => rfl

/-- the status `fanoutForward` owes a request, from the per-series numbers `k` of successes and
    `c` of conflicts -/
def verdict (sT fT n : Nat) (k c : Nat → Nat) : Nat :=
  if ∀ i, i < n → sT ≤ k i then 200 else if ∀ i, i < n → k i < sT → fT ≤ c i then 409 else 503

theorem verdict_char (sT fT n : Nat) (k c : Nat → Nat) :
    let st := verdict sT fT n k c
    (st = 200 ↔ ∀ i, i < n → sT ≤ k i) ∧
    (st = 409 ↔ (∃ i, i < n ∧ k i < sT) ∧ ∀ i, i < n → k i < sT → fT ≤ c i) ∧
    (st = 200 ∨ st = 409 ∨ st = 503) := by
  have hA : (∃ i, i < n ∧ k i < sT) ↔ ¬ ∀ i, i < n → sT ≤ k i := by
    simp only [Classical.not_forall, Nat.not_le, exists_prop]
  unfold verdict
  split
  · next h1 => exact ⟨iff_of_true rfl h1, iff_of_false (by decide) fun h => hA.1 h.1 h1, .inl rfl⟩
  · next h1 =>
    split
    · next h2 => exact ⟨iff_of_false (by decide) h1, iff_of_true rfl ⟨hA.2 h1, h2⟩, .inr (.inl rfl)⟩
    · next h2 => exact ⟨iff_of_false (by decide) h1, iff_of_false (by decide) fun h => h2 h.2, .inr (.inr rfl)⟩

end Thanos.Quorum
