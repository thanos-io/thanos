import Thanos.Lemmas.PlannerRounds
/-
  The loops around `plan` — plan/apply (`iterate`), the size filter (`sizePlan`), the vertical filter around that
  (`vertPlan`) — each for any fuel and any loop state.  Every fact is one induction along the loop whose step puts what
  `plan` returns (`plan_spec`, `plan_infix`, `plan_one_range` of Lemmas/Planner) into the round lemma of
  Lemmas/PlannerRounds: a loop ends once its fuel exceeds what a round lowers (`measure`, `free`), and what a round keeps
  (`Good`; nothing planned is marked) holds of the result.  Props/C30 takes the fuel the code's bound gives and the
  loop state a call starts in.
-/
namespace Thanos.Planner

def outOfFuel : Outcome → Bool
  | .outOfFuel _ _ => true
  | _ => false

/-- plan/apply ends in a fixpoint or a panic on any fuel above `measure ms` — a round per block and one more per block
    with many tombstones, counted from the group as it stands — whatever the id counter; `2·|ms| + 1` is such a fuel -/
theorem iterate_terminates (ranges : List Int) (excl : Excl) (fuel newId : Nat) (ms : List Meta)
    (h : measure ms < fuel) : outOfFuel (iterate ranges excl fuel newId ms) = false := by
  -- arms: 1 no fuel; 2 `plan` panics; 3 empty plan (fixpoint); a plan is applied and the rest of the loop ends in
  -- 4 a fixpoint, 5 a panic, 6 no fuel
  fun_induction iterate ranges excl fuel newId ms with
  | case1 => cases h
  | case6 fuel newId ms p hne hplan _ _ hrest ih =>
    -- a round that applies a plan lowers the measure, so the rest has fuel enough
    have hm := applyPlan_measure newId (plan_spec hplan).1
      (((plan_spec hplan).2.2.resolve_left hne).imp_right fun ⟨b, hb, ht, _⟩ => ⟨b, hb, ht⟩)
    rw [hrest] at ih
    exact ih (by omega)
  | _ => rfl

def finalOf : Outcome → Option (List Meta)
  | .fixpoint _ f => some f
  | _ => none

def maxRange : List Int → Int
  | [] => 0
  | r :: rs => if r > maxRange rs then r else maxRange rs

theorem mem_maxRange {ranges : List Int} {iv : Int} (h : iv ∈ ranges) : iv ≤ maxRange ranges := by
  fun_induction maxRange ranges with
  | case1 => cases h
  | case2 r rs hgt ih | case3 r rs hgt ih =>
    rcases List.mem_cons.mp h with rfl | h
    · omega
    · have := ih h
      omega

theorem step_good {ranges : List Int} {excl : Excl} {newId : Nat} {ms p : List Meta}
    (hpos : ∀ iv ∈ ranges.tail, 0 < iv) (hg : Good (maxRange ranges) ms)
    (h : plan ranges excl ms = some p) (hne : p ≠ []) : Good (maxRange ranges) (applyPlan newId p ms) := by
  have hov := selectOverlapping_notExcluded_nil excl hg.nonOverlap
  refine apply_good ((plan_infix hov h).trans (List.dropLast_prefix ms).isInfix) hne hg ?_
  obtain ⟨m0, p', rfl⟩ := List.exists_cons_of_ne_nil hne
  obtain ⟨⟨a, ha, hmin⟩, ⟨z, hz, hmax⟩, _, _⟩ := hull_spec newId m0 p'
  rcases (plan_spec h).2.2.resolve_left hne with h2 | ⟨b, hb, _⟩
  · -- the hull runs from the start of one planned block to the end of another, both inside one range `iv`
    obtain ⟨iv, hiv, k, hk⟩ := plan_one_range hpos hg.sorted hov h h2
    have h1 := (hk a ha).1
    have h3 := (hk z hz).2
    have h4 := mem_maxRange (List.mem_of_mem_tail hiv)
    omega
  · cases hb
    exact hg.short m0 ((plan_spec h).1.subset List.mem_cons_self)

theorem iterate_good {ranges : List Int} {excl : Excl} (hpos : ∀ iv ∈ ranges.tail, 0 < iv)
    {fuel newId : Nat} {ms final : List Meta} (hg : Good (maxRange ranges) ms)
    (h : finalOf (iterate ranges excl fuel newId ms) = some final) : Good (maxRange ranges) final := by
  fun_induction iterate ranges excl fuel newId ms with
  | case3 =>
    cases h
    exact hg
  | case4 fuel newId ms p hne hplan _ _ hrest ih =>
    rw [hrest] at ih
    exact ih (step_good hpos hg hplan hne) h
  | _ => cases h

def sizeOutOfFuel : SizeOutcome → Bool
  | .outOfFuel => true
  | _ => false

/-- `largeTotalIndexSizeFilter.plan`: the returned plan contains no block that was excluded before
    the call or marked by it.  The hypothesis (`marked ⊆ excl`) is what every round keeps: a block is marked and
    excluded at once.  The second conjunct (the call only adds marks) is read by nothing below. -/
theorem sizePlan_spec (ranges : List Int) (limit : Int) : ∀ (fuel : Nat) (excl : Excl) (marked : List Nat)
    (ms p : List Meta) (mk : List Nat), (∀ i ∈ marked, excl i = true) →
    sizePlan ranges limit fuel excl marked ms = .ok p mk →
    (∀ b ∈ p, excl b.id = false ∧ b.id ∉ mk) ∧ (∀ i ∈ marked, i ∈ mk) := by
  intro fuel excl marked ms p mk hm h
  -- arms: 1 no fuel; 2 `plan` panics; 3 the plan is below the limit (returned); 4 its biggest block is marked, next round
  fun_induction sizePlan ranges limit fuel excl marked ms with
  | case1 | case2 => cases h
  | case3 _ excl marked ms p' hplan =>
    cases h
    refine ⟨fun b hb => ?_, fun i hi => hi⟩
    have hex := (plan_spec hplan).2.1 b hb
    exact ⟨hex, fun hin => by simp [hm b.id hin] at hex⟩
  | case4 _ excl marked ms _ _ big _ ih =>
    have ih := ih (fun i hi => by
      rcases List.mem_append.mp hi with hi | hi
      · simp [hm i hi]
      · simp [List.mem_singleton.mp hi]) h
    refine ⟨fun b hb => ?_, fun i hi => ih.2 i (List.mem_append_left _ hi)⟩
    have := ih.1 b hb
    simp only [Bool.or_eq_false_iff, decide_eq_false_iff_not] at this
    exact ⟨this.1.2, this.2⟩

theorem sizePlan_sublist {ranges : List Int} {limit : Int} {fuel : Nat} {excl : Excl} {marked : List Nat}
    {ms p : List Meta} {mk : List Nat} (h : sizePlan ranges limit fuel excl marked ms = .ok p mk) : p.Sublist ms := by
  fun_induction sizePlan ranges limit fuel excl marked ms with
  | case1 | case2 => cases h
  | case3 _ _ _ _ _ hplan =>
    cases h
    exact (plan_spec hplan).1
  | case4 _ _ _ _ _ _ _ _ ih => exact ih h

/-- the loop of `largeTotalIndexSizeFilter.plan` ends on any fuel above the number of blocks not excluded yet, whatever
    it has marked so far; `|ms| + 1` is such a fuel -/
theorem sizePlan_terminates {ranges : List Int} {limit : Int} {fuel : Nat} {excl : Excl} {marked : List Nat}
    {ms : List Meta} (h : free excl ms < fuel) : sizeOutOfFuel (sizePlan ranges limit fuel excl marked ms) = false := by
  fun_induction sizePlan ranges limit fuel excl marked ms with
  | case1 => cases h
  | case2 | case3 => rfl
  | case4 _ excl _ ms p hplan b hb ih =>
    -- the round marks a block of the plan, which is in the group and was not excluded before
    have hbp : b ∈ p := (sizeScan_mem hb).resolve_right nofun
    have hbm : b ∈ ms := (plan_spec hplan).1.subset hbp
    have hbe := (plan_spec hplan).2.1 b hbp
    have := free_lt_of_more (excl' := fun i => i = b.id || excl i) (fun i hi => by simp [hi]) hbm hbe (by simp)
    exact ih (by omega)

/-- `verticalCompactionDownsampleFilter.Plan` (repaired), on any fuel: the returned plan contains no block marked
    no-compact — neither one known to the planner, nor one marked during this very call.  With `carry`
    the loop's own mark set is exactly what the call has marked so far (`hm`; both start empty): both grow by the
    same ids. -/
theorem vertPlan_spec {ranges : List Int} {limit : Int} {base : Excl} {fuel : Nat} {extra marked : List Nat}
    {ms p : List Meta} {mk : List Nat} (hm : extra = marked)
    (h : vertPlan true ranges limit base fuel extra marked ms = .ok p mk) :
    ∀ b ∈ p, base b.id = false ∧ b.id ∉ mk := by
  -- arms: 1 no fuel; the size filter 2 runs out of fuel, 3 panics; its plan 4 has no overlap, 5 overlaps without a
  -- downsampled block (both returned); 6 the downsampled blocks are marked, next round
  fun_induction vertPlan true ranges limit base fuel extra marked ms with
  | case1 | case2 | case3 => cases h
  | case4 _ _ _ _ _ _ hsz | case5 _ _ _ _ _ _ hsz =>
    -- a plan the size filter returns for the marks `extra` contains nothing marked so far
    cases h
    intro b hb
    have := (sizePlan_spec ranges limit _ _ [] _ _ _ nofun hsz).1 b hb
    simp only [Bool.or_eq_false_iff, List.contains_eq_mem, decide_eq_false_iff_not] at this
    exact ⟨this.1.2, fun hin => (List.mem_append.mp hin).elim (hm ▸ this.1.1) this.2⟩
  | case6 _ _ _ _ _ _ _ _ _ _ _ ih => exact ih (hm ▸ rfl) h

/-- the loop of `verticalCompactionDownsampleFilter.Plan` ends as well (repaired or not), on any fuel above the number
    of blocks neither in its mark set nor known as marked: every round marks at least one of them -/
theorem vert_loop_terminates {carry : Bool} {ranges : List Int} {limit : Int} {base : Excl}
    {fuel : Nat} {extra marked : List Nat} {ms : List Meta}
    (h : free (fun i => extra.contains i || base i) ms < fuel) :
    sizeOutOfFuel (vertPlan carry ranges limit base fuel extra marked ms) = false := by
  fun_induction vertPlan carry ranges limit base fuel extra marked ms with
  | case1 => cases h
  | case2 _ extra _ ms hsz =>
    -- the size filter inside is given `|ms| + 1` rounds, more than the blocks it can mark
    cases hsz ▸ sizePlan_terminates (Nat.lt_succ_of_le List.countP_le_length)
  | case6 fuel extra _ ms p mk hsz _ _ down hdown ih =>
    -- some downsampled block of the plan gets marked now; it was not excluded before
    obtain ⟨b, hbf⟩ := List.exists_mem_of_ne_nil (p.filter (fun m => m.res != 0))
      fun h0 => hdown (by simp [down, h0])
    have hbp : b ∈ p := (List.mem_filter.mp hbf).1
    have hbm : b ∈ ms := (sizePlan_sublist hsz).subset hbp
    have hbe := ((sizePlan_spec ranges limit _ _ [] ms p mk (by simp) hsz).1 b hbp).1
    refine ih (Nat.lt_of_lt_of_le (free_lt_of_more (b := b) (fun i hi => ?_) hbm hbe ?_) (Nat.le_of_lt_succ h))
    · simp only [Bool.or_eq_true, List.contains_eq_mem, decide_eq_true_eq, List.mem_append] at hi ⊢
      refine hi.imp_left fun hi => Or.inl ?_
      show i ∈ if carry = true then extra ++ mk else extra
      split
      · exact List.mem_append_left _ hi
      · exact hi
    · simp only [Bool.or_eq_true, List.contains_eq_mem, decide_eq_true_eq, List.mem_append]
      exact Or.inl (Or.inr (List.mem_map.mpr ⟨b, hbf, rfl⟩))
  | _ => rfl

end Thanos.Planner
