import Thanos.Model.ResultsCache
import Thanos.Lemmas.ListFacts
import Thanos.Lemmas.OrderedInsert
import Thanos.Lemmas.AssocList
/-
  C42 (results cache): `mergeResponse` on matrices as such.  The per-series merge appends what lies after the
  last existing sample (`mergeStream_asc`), so it is the sorted union when nothing earlier is missing
  (`mergeStream_step`).  A matrix is read through `look` and written through `upsert`, with the laws of
  Lemmas/AssocList; `Canon` matrices are equal when they `look` equal (`canon_ext`).  Of two `Coherent` pieces
  the one with the smaller repaired `minTime` misses nothing the other has before one of its samples
  (`Coherent.mem_of_le`), so merging the responses of `Coherent` pieces in any order ascending in `minTime`, with
  any overlaps, gives every series all its samples (`matrixMerge_sorted_spec`, `mergeResponse_spec`).
-/
namespace Thanos.ResultsCache

def Asc (l : List Sample) : Prop := l.Pairwise fun a b => a.t < b.t

theorem Asc.filter_tail {x : Sample} {l : List Sample} (h : Asc (x :: l)) {m : Int} (hm : m ≤ x.t) :
    l.filter (fun y => m < y.t) = l :=
  List.filter_eq_self.mpr fun a ha =>
    decide_eq_true (Int.lt_of_le_of_lt hm ((List.pairwise_cons.mp h).1 a ha))

theorem dropWhile_eq_filter_of_asc {l : List Sample} (h : Asc l) (m : Int) :
    l.dropWhile (fun x => x.t ≤ m) = l.filter (fun x => m < x.t) :=
  (dropWhile_eq_filter_not h fun a b hab ha => decide_eq_false (by have := of_decide_eq_false ha; omega)).trans
    (List.filter_congr fun x _ => by simp [← Int.not_le])

theorem mergeStream_asc (ex st : List Sample) (h : Asc st) :
    mergeStream ex st = match ex.getLast? with
      | none => ex ++ st
      | some e => ex ++ st.filter (fun x => e.t < x.t) := by
  unfold mergeStream
  cases ex.getLast? with
  | none => rfl
  | some e =>
    cases st with
    | nil => rfl
    | cons x rest =>
      simp only
      by_cases h1 : e.t = x.t
      · rw [if_pos h1, List.filter_cons_of_neg (by simp [h1]), h.filter_tail (Int.le_of_eq h1)]
      · rw [if_neg h1]
        by_cases h2 : e.t > x.t
        · rw [if_pos h2, sliceSamples, dropWhile_eq_filter_of_asc h]
        · rw [if_neg h2, List.filter_cons_of_pos (by simp; omega), h.filter_tail (Int.not_lt.mp h2)]

theorem mergeStream_nil_left (st : List Sample) : mergeStream [] st = st := by
  simp [mergeStream]

theorem mergeStream_nil_right (ex : List Sample) : mergeStream ex [] = ex := by
  unfold mergeStream
  cases ex.getLast? <;> simp

theorem mergeStream_prefix (ex st : List Sample) : ex <+: mergeStream ex st := by
  fun_cases mergeStream ex st <;> exact List.prefix_append _ _

theorem mergeStream_ne_nil (ex : List Sample) {st : List Sample} (h : st ≠ []) : mergeStream ex st ≠ [] := by
  by_cases hex : ex = []
  · rwa [hex, mergeStream_nil_left]
  · exact (mergeStream_prefix ex st).ne_nil hex

/-- one step of the per-series fold, when nothing is dropped wrongly -/
theorem mergeStream_step {R P : List Sample} (hR : Asc R) (hP : Asc P)
    (hc : ∀ x ∈ P, ∀ y ∈ R, x.t ≤ y.t → x ∈ R) :
    Asc (mergeStream R P) ∧ ∀ x, x ∈ mergeStream R P ↔ x ∈ R ∨ x ∈ P := by
  rw [mergeStream_asc R P hP]
  cases hl : R.getLast? with
  | none =>
    have : R = [] := List.getLast?_eq_none_iff.mp hl
    subst this
    simp [hP]
  | some e =>
    have hle : ∀ a ∈ R, a.t ≤ e.t := fun a ha => (rel_getLast? hR hl a ha).elim (· ▸ Int.le_refl _) Int.le_of_lt
    have hem := List.mem_of_getLast? hl
    simp only
    constructor
    · unfold Asc
      rw [List.pairwise_append]
      refine ⟨hR, List.Pairwise.filter _ hP, ?_⟩
      exact fun a ha b hb => Int.lt_of_le_of_lt (hle a ha) (of_decide_eq_true (List.mem_filter.mp hb).2)
    · intro x
      simp only [List.mem_append, List.mem_filter, decide_eq_true_eq]
      refine ⟨Or.imp_right And.left, ?_⟩
      · rintro (h | h)
        · exact Or.inl h
        · by_cases hlt : e.t < x.t
          · exact Or.inr ⟨h, hlt⟩
          · exact Or.inl (hc x h e hem (Int.not_lt.mp hlt))

def look (m : Matrix) (id : Nat) : List Sample :=
  match m.find? (fun s => s.1 = id) with
  | some s => s.2
  | none => []

def ids (m : Matrix) : List Nat := m.map (·.1)

/-- a matrix is a map from series id to samples with `[]` for "absent", and `upsert` is `m[id] = merge(m[id], st)` -/
theorem look_eq (m : Matrix) (id : Nat) : look m id = AssocList.lookD [] m id := by
  unfold look AssocList.lookD
  cases m.find? (fun s => decide (s.1 = id)) <;> rfl

theorem upsert_eq (out : Matrix) (id : Nat) (st : List Sample) :
    upsert out id st = AssocList.alter (mergeStream · st) [] out id := by
  induction out with
  | nil => rfl
  | cons e rest ih => simp only [upsert, AssocList.alter, ih]

theorem look_nil (id : Nat) : look [] id = [] := rfl

theorem look_cons (s : Stream) (m : Matrix) (id : Nat) :
    look (s :: m) id = if s.1 = id then s.2 else look m id := by
  rw [look_eq, look_eq, AssocList.lookD_cons]

theorem ids_cons (s : Stream) (m : Matrix) : ids (s :: m) = s.1 :: ids m := rfl

theorem look_of_not_mem {m : Matrix} {id : Nat} (h : id ∉ ids m) : look m id = [] := by
  rw [look, List.find?_eq_none.mpr fun s hs e => h (List.mem_map.mpr ⟨s, hs, of_decide_eq_true e⟩)]

theorem mem_of_look_ne_nil {m : Matrix} {id : Nat} (h : look m id ≠ []) : (id, look m id) ∈ m :=
  look_eq m id ▸ AssocList.mem_of_lookD_ne (look_eq m id ▸ h)

theorem mem_look {m : Matrix} {id : Nat} {x : Sample} (h : x ∈ look m id) : ∃ s ∈ m, s.1 = id ∧ x ∈ s.2 :=
  ⟨_, mem_of_look_ne_nil (List.ne_nil_of_mem h), rfl, h⟩

theorem asc_look_of {m : Matrix} (ha : ∀ s ∈ m, Asc s.2) (id : Nat) : Asc (look m id) := by
  by_cases h : look m id = []
  · rw [h]; exact List.Pairwise.nil
  · exact ha _ (mem_of_look_ne_nil h)

theorem look_of_mem {m : Matrix} (hnd : (ids m).Nodup) {id : Nat} {st : List Sample} (h : (id, st) ∈ m) :
    look m id = st := (look_eq m id).trans (AssocList.lookD_of_mem hnd h)

theorem look_congr {m m' : Matrix} (hnd : (ids m).Nodup) (hnd' : (ids m').Nodup)
    (h : ∀ s : Stream, s.2 ≠ [] → (s ∈ m ↔ s ∈ m')) (id : Nat) : look m id = look m' id := by
  by_cases h1 : look m id = []
  · by_cases h2 : look m' id = []
    · rw [h1, h2]
    · exact look_of_mem hnd ((h _ h2).mpr (mem_of_look_ne_nil h2))
  · exact (look_of_mem hnd' ((h _ h1).mp (mem_of_look_ne_nil h1))).symm

theorem look_perm {m1 m2 : Matrix} (hp : m1.Perm m2) (hnd : (ids m1).Nodup) (id : Nat) : look m1 id = look m2 id :=
  look_congr hnd ((hp.map _).nodup_iff.mp hnd) (fun _ _ => hp.mem_iff) id

theorem look_filter_ne_nil {m : Matrix} (hnd : (ids m).Nodup) (id : Nat) :
    look (m.filter fun s => s.2 ≠ []) id = look m id :=
  look_congr (hnd.sublist (List.filter_sublist.map _)) hnd
    (fun _ hs => List.mem_filter.trans (and_iff_left (decide_eq_true hs))) id

theorem look_map_ids (g : Nat → List Sample) (l : List Nat) (id : Nat) :
    look (l.map fun i => (i, g i)) id = if id ∈ l then g id else [] := by
  induction l with
  | nil => rfl
  | cons i l ih =>
    rw [List.map_cons, look_cons, ih]
    by_cases h : i = id
    · simp [h]
    · simp [h, Ne.symm h]

theorem look_map_snd (f : List Sample → List Sample) (hf : f [] = []) (m : Matrix) (id : Nat) :
    look (m.map fun s => (s.1, f s.2)) id = f (look m id) := by
  induction m with
  | nil => exact hf.symm
  | cons s m ih =>
    rw [List.map_cons, look_cons, look_cons, ih]
    split <;> rfl

theorem look_upsert (out : Matrix) (id id' : Nat) (st : List Sample) :
    look (upsert out id st) id' = if id = id' then mergeStream (look out id) st else look out id' := by
  rw [upsert_eq, look_eq, look_eq, look_eq, AssocList.lookD_alter]
  split
  · rename_i e; rw [e]
  · rfl

theorem ids_upsert (out : Matrix) (id : Nat) (st : List Sample) :
    ids (upsert out id st) = if id ∈ ids out then ids out else ids out ++ [id] :=
  upsert_eq out id st ▸ AssocList.keys_alter out id

theorem mem_ids_upsert {out : Matrix} {id i : Nat} {st : List Sample} :
    id ∈ ids (upsert out i st) ↔ id ∈ ids out ∨ id = i := by
  rw [ids_upsert]
  split
  · exact ⟨Or.inl, fun h => h.elim (fun h => h) fun e => e ▸ ‹i ∈ ids out›⟩
  · simp

theorem nodup_ids_upsert {out : Matrix} (h : (ids out).Nodup) (id : Nat) (st : List Sample) :
    (ids (upsert out id st)).Nodup := upsert_eq out id st ▸ AssocList.nodup_keys_alter h id

theorem upsert_ne_nil (out : Matrix) (id : Nat) (st : List Sample) (hst : st ≠ []) (h : ∀ s ∈ out, s.2 ≠ []) :
    ∀ s ∈ upsert out id st, s.2 ≠ [] := by
  -- arms: id absent (appended); id at the head (merged); id further down
  fun_induction upsert out id st with
  | case1 => exact List.forall_mem_singleton.mpr (mergeStream_ne_nil [] hst)
  | case2 ex rest =>
    exact List.forall_mem_cons.mpr ⟨mergeStream_ne_nil ex hst, (List.forall_mem_cons.mp h).2⟩
  | case3 i ex rest hi ih =>
    exact List.forall_mem_cons.mpr ⟨(List.forall_mem_cons.mp h).1, ih (List.forall_mem_cons.mp h).2⟩

/-- the inner loop of `matrixMerge` over one response with distinct series -/
theorem look_foldl_upsert (m : Matrix) (hm : (ids m).Nodup) (out : Matrix) (id : Nat) :
    look (m.foldl (fun out s => upsert out s.1 s.2) out) id = mergeStream (look out id) (look m id) := by
  induction m generalizing out with
  | nil => exact (mergeStream_nil_right _).symm
  | cons s m ih =>
    obtain ⟨hs, hm⟩ := List.nodup_cons.mp (ids_cons s m ▸ hm)
    rw [List.foldl_cons, ih hm, look_upsert, look_cons]
    by_cases h : s.1 = id
    · rw [if_pos h, if_pos h, look_of_not_mem (m := m) (h ▸ hs), mergeStream_nil_right, h]
    · rw [if_neg h, if_neg h]

/-- the ids after the inner loop -/
theorem mem_ids_foldl_upsert (m : Matrix) : ∀ (out : Matrix) (id : Nat),
    id ∈ ids (m.foldl (fun out s => upsert out s.1 s.2) out) ↔ id ∈ ids out ∨ id ∈ ids m := by
  induction m with
  | nil => intro out id; simp [ids]
  | cons s m ih =>
    intro out id
    rw [List.foldl_cons, ih, mem_ids_upsert, ids_cons, List.mem_cons, or_assoc]

theorem nodup_foldl_upsert (m out : Matrix) (h : (ids out).Nodup) :
    (ids (m.foldl (fun out s => upsert out s.1 s.2) out)).Nodup :=
  List.foldlRecOn (motive := fun out => (ids out).Nodup) m _ h fun _ hout s _ => nodup_ids_upsert hout s.1 s.2

theorem ne_nil_foldl_upsert (m : Matrix) (hm : ∀ s ∈ m, s.2 ≠ []) (out : Matrix) (h : ∀ s ∈ out, s.2 ≠ []) :
    ∀ s ∈ m.foldl (fun out s => upsert out s.1 s.2) out, s.2 ≠ [] :=
  List.foldlRecOn (motive := fun out : Matrix => ∀ s ∈ out, s.2 ≠ []) m _ h fun out hout s hs =>
    upsert_ne_nil out s.1 s.2 (hm s hs) hout

/-- `insertLt` is the shared ordered insertion: `x` goes before the first `y` with `lt y x = false` -/
theorem insertLt_eq_ins {α : Type} (lt : α → α → Bool) (x : α) (l : List α) :
    insertLt lt x l = OrderedInsert.ins (fun x y => lt y x = false) x l := by
  induction l with
  | nil => rfl
  | cons y l ih => cases h : lt y x <;> simp [insertLt, OrderedInsert.ins, h, ih]

theorem sortLt_eq_foldr {α : Type} (lt : α → α → Bool) (l : List α) : sortLt lt l = l.foldr (insertLt lt) [] := by
  induction l with
  | nil => rfl
  | cons x l ih => rw [sortLt, ih, List.foldr_cons]

theorem perm_sortLt {α : Type} (lt : α → α → Bool) (l : List α) : (sortLt lt l).Perm l :=
  sortLt_eq_foldr lt l ▸ OrderedInsert.sort_perm (insertLt_eq_ins lt) l

theorem pairwise_sortLt {α : Type} (lt : α → α → Bool) (R : α → α → Prop)
    (h1 : ∀ a b, lt a b = true → R a b) (h2 : ∀ a b, lt a b = false → R b a) (htr : ∀ a b c, R a b → R b c → R a c)
    (l : List α) : (sortLt lt l).Pairwise R :=
  sortLt_eq_foldr lt l ▸ OrderedInsert.sort_pairwise (insertLt_eq_ins lt) (R := R) htr l
    (List.pairwise_of_forall fun x y => ⟨h2 y x, fun h => h1 y x (by simpa using h)⟩)

theorem insertLt_map {α β : Type} (f : α → β) (lt : β → β → Bool) (x : α) :
    ∀ l : List α, (insertLt (fun a b => lt (f a) (f b)) x l).map f = insertLt lt (f x) (l.map f)
  | [] => rfl
  | y :: l => by
    unfold insertLt
    by_cases h : lt (f y) (f x) = true
    · simp [h, insertLt_map f lt x l]
    · simp [h]

theorem sortLt_map {α β : Type} (f : α → β) (lt : β → β → Bool) :
    ∀ l : List α, (sortLt (fun a b => lt (f a) (f b)) l).map f = sortLt lt (l.map f)
  | [] => rfl
  | x :: l => by
    simp only [sortLt, List.map_cons]
    rw [insertLt_map, sortLt_map f lt l]

def Canon (m : Matrix) : Prop := (ids m).Pairwise (· < ·) ∧ ∀ s ∈ m, s.2 ≠ []

theorem canon_nodup {m : Matrix} (h : Canon m) : (ids m).Nodup :=
  h.1.imp Nat.ne_of_lt

theorem canon_ext {m1 m2 : Matrix} (h1 : Canon m1) (h2 : Canon m2) (h : ∀ id, look m1 id = look m2 id) :
    m1 = m2 := by
  have key : ∀ {m m' : Matrix}, Canon m → (∀ id, look m id = look m' id) → ∀ s ∈ m, s ∈ m' := by
    intro m m' hm hl s hs
    have e : look m' s.1 = s.2 := (hl s.1).symm.trans (look_of_mem (canon_nodup hm) hs)
    have := mem_of_look_ne_nil (e ▸ hm.2 s hs)
    rwa [e] at this
  exact eq_of_pairwise_of_mem_iff (R := fun a b : Stream => a.1 < b.1) (fun a b h h' => by omega)
    (List.pairwise_map.mp h1.1) (List.pairwise_map.mp h2.1)
    (fun s => ⟨key h1 h s, key h2 (fun id => (h id).symm) s⟩)

/-- the two nested loops of `matrixMerge` are one loop over the streams of all responses in order -/
theorem matrixMerge_eq (rs : List Matrix) :
    matrixMerge rs =
      sortLt (fun a b => decide (a.1 < b.1)) (rs.flatten.foldl (fun out s => upsert out s.1 s.2) []) := by
  rw [List.foldl_flatten]
  rfl

theorem look_foldl_flatten (rs : List Matrix) (h : ∀ r ∈ rs, (ids r).Nodup) (out : Matrix) (id : Nat) :
    look (rs.flatten.foldl (fun out s => upsert out s.1 s.2) out) id =
      (rs.map fun r => look r id).foldl mergeStream (look out id) := by
  induction rs generalizing out with
  | nil => rfl
  | cons r rs ih =>
    obtain ⟨hr, hrs⟩ := List.forall_mem_cons.mp h
    rw [List.flatten_cons, List.foldl_append, ih hrs, look_foldl_upsert r hr]
    rfl

theorem look_matrixMerge (rs : List Matrix) (h : ∀ r ∈ rs, (ids r).Nodup) (id : Nat) :
    look (matrixMerge rs) id = (rs.map fun r => look r id).foldl mergeStream [] := by
  rw [matrixMerge_eq, ← look_perm (perm_sortLt _ _).symm (nodup_foldl_upsert _ [] List.nodup_nil)]
  exact look_foldl_flatten rs h [] id

theorem canon_sortLt {m : Matrix} (hnd : (ids m).Nodup) (hne : ∀ s ∈ m, s.2 ≠ []) :
    Canon (sortLt (fun a b => decide (a.1 < b.1)) m) := by
  have hperm := perm_sortLt (fun a b : Stream => decide (a.1 < b.1)) m
  -- sorted by `≤` and without duplicates
  have hle := pairwise_sortLt (fun a b : Stream => decide (a.1 < b.1)) (fun a b => a.1 ≤ b.1)
    (fun _ _ h => Nat.le_of_lt (of_decide_eq_true h)) (fun _ _ h => Nat.not_lt.mp (of_decide_eq_false h))
    (fun _ _ _ => Nat.le_trans) m
  have hne' := List.pairwise_map.mp ((hperm.map Prod.fst).nodup_iff.mpr hnd)
  exact ⟨List.pairwise_map.mpr ((hle.and hne').imp fun h => Nat.lt_of_le_of_ne h.1 h.2),
    fun s hs => hne s (hperm.subset hs)⟩

theorem canon_matrixMerge (rs : List Matrix) (hne : ∀ r ∈ rs, ∀ s ∈ r, s.2 ≠ []) : Canon (matrixMerge rs) :=
  matrixMerge_eq rs ▸ canon_sortLt (nodup_foldl_upsert _ [] List.nodup_nil)
    (ne_nil_foldl_upsert _ (List.forall_mem_flatten.mpr hne) [] nofun)

/-- the step function of the repaired `minTime()` -/
def mtStep (acc : Int) (s : Stream) : Int :=
  match s.2 with
  | [] => acc
  | x :: _ => if acc = -1 ∨ x.t < acc then x.t else acc

theorem minTime_true (m : Matrix) : minTime true m = m.foldl mtStep (-1) := by
  unfold minTime
  simp only [if_true]
  rfl

/-- ascending streams with timestamps ≥ 0: the repaired `minTime()` answers `-1` for "no sample", so `-1` must not
    be a timestamp (`IsMinTime.le`).  Every `0 ≤` of C42 comes from here (`Coherent.nonneg`, `GoodExtent`, `Aligned`). -/
def WellTimed (m : Matrix) : Prop := ∀ s ∈ m, Asc s.2 ∧ ∀ x ∈ s.2, 0 ≤ x.t

/-- `r` is what the repaired `minTime()` answers for `m`: the least timestamp, `-1` when there is no sample — and only
    then (first half of `le`) -/
structure IsMinTime (m : Matrix) (r : Int) : Prop where
  le : ∀ s ∈ m, ∀ x ∈ s.2, r ≠ -1 ∧ r ≤ x.t
  attained : r = -1 ∨ ∃ s ∈ m, ∃ x ∈ s.2, r = x.t

theorem IsMinTime.step {m : Matrix} {r : Int} (h : IsMinTime m r) {s : Stream} (hs : Asc s.2 ∧ ∀ x ∈ s.2, 0 ≤ x.t) :
    IsMinTime (m ++ [s]) (mtStep r s) := by
  have old : r = -1 ∨ ∃ s' ∈ m ++ [s], ∃ x ∈ s'.2, r = x.t :=
    h.attained.imp_right fun ⟨s', hs', h⟩ => ⟨s', List.mem_append_left _ hs', h⟩
  rw [mtStep]
  obtain ⟨i, l⟩ := s
  cases l with
  | nil => exact ⟨List.forall_mem_append.mpr ⟨h.le, List.forall_mem_singleton.mpr nofun⟩, old⟩
  | cons x0 rest =>
    have h0 := hs.2 x0 List.mem_cons_self
    -- the stream ascends, so its head is its minimum
    have hmin : ∀ x ∈ x0 :: rest, x0.t ≤ x.t :=
      List.forall_mem_cons.mpr ⟨Int.le_refl _, fun x hx => Int.le_of_lt ((List.pairwise_cons.mp hs.1).1 x hx)⟩
    simp only
    by_cases hc : r = -1 ∨ x0.t < r
    · rw [if_pos hc]
      refine ⟨List.forall_mem_append.mpr ⟨fun s' hs' x hx => ?_, List.forall_mem_singleton.mpr fun x hx => ?_⟩,
        Or.inr ⟨_, List.mem_append_right _ (List.mem_singleton_self _), x0, List.mem_cons_self, rfl⟩⟩
      · have := h.le s' hs' x hx
        omega
      · exact ⟨by omega, hmin x hx⟩
    · rw [if_neg hc]
      exact ⟨List.forall_mem_append.mpr ⟨h.le, List.forall_mem_singleton.mpr fun x hx =>
        ⟨fun e => hc (Or.inl e), Int.le_trans (Int.not_lt.mp fun h => hc (Or.inr h)) (hmin x hx)⟩⟩, old⟩

theorem IsMinTime.foldl {m0 : Matrix} {r : Int} (h : IsMinTime m0 r) (m : Matrix) (hw : WellTimed m) :
    IsMinTime (m0 ++ m) (m.foldl mtStep r) := by
  induction m generalizing m0 r with
  | nil => exact (List.append_nil m0).symm ▸ h
  | cons s m ih =>
    obtain ⟨hws, hwm⟩ := List.forall_mem_cons.mp hw
    rw [List.append_cons]
    exact ih (h.step hws) hwm

theorem minTime_spec {m : Matrix} (hw : WellTimed m) : IsMinTime m (minTime true m) :=
  minTime_true m ▸ IsMinTime.foldl (m0 := []) ⟨nofun, Or.inl rfl⟩ m hw

/-- a response together with the time range it answers -/
structure Piece where
  a : Int
  b : Int
  m : Matrix

/-- responses that are restrictions of one and the same data to their ranges -/
structure Coherent (ps : List Piece) : Prop where
  nonneg : ∀ p ∈ ps, 0 ≤ p.a
  nodup : ∀ p ∈ ps, (ids p.m).Nodup
  asc : ∀ p ∈ ps, ∀ s ∈ p.m, s.2 ≠ [] ∧ Asc s.2
  inRange : ∀ p ∈ ps, ∀ s ∈ p.m, ∀ x ∈ s.2, p.a ≤ x.t ∧ x.t ≤ p.b
  agree : ∀ p ∈ ps, ∀ q ∈ ps, ∀ id x, x ∈ look p.m id → q.a ≤ x.t → x.t ≤ q.b → x ∈ look q.m id

theorem Coherent.wellTimed {ps : List Piece} (h : Coherent ps) {p : Piece} (hp : p ∈ ps) : WellTimed p.m := by
  intro s hs
  refine ⟨(h.asc p hp s hs).2, fun x hx => ?_⟩
  have := h.inRange p hp s hs x hx
  have := h.nonneg p hp
  omega

/-- a sample of `p` that is not after some sample of a piece `q` whose data starts no later than
    `p`'s lies in `q`'s range, so `q` has it too -/
theorem Coherent.mem_of_le {ps : List Piece} (h : Coherent ps) {p q : Piece} (hp : p ∈ ps) (hq : q ∈ ps)
    (hqp : minTime true q.m ≤ minTime true p.m) {id : Nat} {x y : Sample} (hx : x ∈ look p.m id)
    (hy : y ∈ look q.m id) (hxy : x.t ≤ y.t) : x ∈ look q.m id := by
  obtain ⟨sy, hsy, _, hysy⟩ := mem_look hy
  obtain ⟨sx, hsx, _, hxsx⟩ := mem_look hx
  have hyb := (h.inRange q hq sy hsy y hysy).2
  have h1 := ((minTime_spec (h.wellTimed hp)).le sx hsx x hxsx).2
  have hmq := minTime_spec (h.wellTimed hq)
  -- `minTime q` is the time of a sample of `q`, so `q.a ≤ minTime q ≤ minTime p ≤ x.t`
  obtain ⟨s', hs', z, hz, hmz⟩ := hmq.attained.resolve_left (hmq.le sy hsy y hysy).1
  have h2 := (h.inRange q hq s' hs' z hz).1
  exact h.agree p hp q hq id x hx (Int.le_trans (hmz ▸ h2) (Int.le_trans hqp h1)) (Int.le_trans hxy hyb)

/-- folding `mergeStream` over ascending streams `f a` such that a later one has no sample at or before a sample of
    an earlier one that the earlier one lacks: nothing is dropped wrongly, overlapping or not.  `R` is what has
    been folded so far. -/
theorem foldl_mergeStream_sorted {α : Type} (f : α → List Sample) (l : List α) (ha : ∀ a ∈ l, Asc (f a))
    (hs : l.Pairwise fun a b => ∀ x ∈ f b, ∀ y ∈ f a, x.t ≤ y.t → x ∈ f a)
    (R : List Sample) (hR : Asc R) (hRC : ∀ a ∈ l, ∀ x ∈ f a, ∀ y ∈ R, x.t ≤ y.t → x ∈ R) :
    Asc ((l.map f).foldl mergeStream R) ∧ ∀ x, x ∈ (l.map f).foldl mergeStream R ↔ x ∈ R ∨ ∃ a ∈ l, x ∈ f a := by
  induction l generalizing R with
  | nil => exact ⟨hR, by simp⟩
  | cons a l ih =>
    obtain ⟨haa, ha⟩ := List.forall_mem_cons.mp ha
    obtain ⟨hal, hs⟩ := List.pairwise_cons.mp hs
    obtain ⟨hRa, hRC⟩ := List.forall_mem_cons.mp hRC
    obtain ⟨hA, hM⟩ := mergeStream_step hR haa hRa
    -- `y` is a sample of `R` (then `hRC`) or of the earlier `f a` (then `hal`)
    obtain ⟨hA', hM'⟩ := ih ha hs _ hA fun b hb x hx y hy hxy => (hM x).mpr <| ((hM y).mp hy).imp
      (hRC b hb x hx y · hxy) (hal b hb x hx y · hxy)
    exact ⟨hA', fun x => by
      simp only [List.map_cons, List.foldl_cons, hM', hM, or_assoc, List.mem_cons, exists_eq_or_imp]⟩

/-- `qs`: any order that ascends in the repaired `minTime()`, ties falling any way (Go's `sort.Sort` is
    stable only up to 12 elements) -/
theorem matrixMerge_sorted_spec (ps : List Piece) (h : Coherent ps) (qs : List Piece) (hperm : qs.Perm ps)
    (hs : qs.Pairwise fun q p => minTime true q.m ≤ minTime true p.m) :
    Canon (matrixMerge (qs.map (·.m))) ∧
    ∀ id, Asc (look (matrixMerge (qs.map (·.m))) id) ∧
      ∀ x, x ∈ look (matrixMerge (qs.map (·.m))) id ↔ ∃ p ∈ ps, x ∈ look p.m id := by
  have hm : ∀ q ∈ qs, q ∈ ps := fun _ hq => hperm.subset hq
  refine ⟨canon_matrixMerge _ (List.forall_mem_map.mpr fun q hq s hs => (h.asc q (hm q hq) s hs).1), fun id => ?_⟩
  rw [look_matrixMerge _ (List.forall_mem_map.mpr fun q hq => h.nodup q (hm q hq)) id, List.map_map]
  obtain ⟨hA, hM⟩ := foldl_mergeStream_sorted (fun q : Piece => look q.m id) qs
    (fun q hq => asc_look_of (fun s hs => (h.asc q (hm q hq) s hs).2) id)
    (hs.imp_of_mem fun hq hp hqp x hx y hy => h.mem_of_le (hm _ hp) (hm _ hq) hqp hx hy)
    [] List.Pairwise.nil fun _ _ _ _ _ hy => nomatch hy
  exact ⟨hA, fun x => ((hM x).trans (or_iff_right List.not_mem_nil)).trans
    (exists_congr fun p => and_congr_left fun _ => hperm.mem_iff)⟩

/-- the emptiness test of `MergeResponse` changes nothing: both sides compute to `[]` -/
theorem mergeResponse_eq (minAll : Bool) (rs : List Matrix) :
    mergeResponse minAll rs = matrixMerge (sortLt (fun a b => minTime minAll a < minTime minAll b) rs) := by
  cases rs <;> rfl

/-- **MergeResponse of coherent responses** (after the `minTime` repair), in any input order and
    with any overlaps. -/
theorem mergeResponse_spec (ps : List Piece) (h : Coherent ps) :
    Canon (mergeResponse true (ps.map (·.m))) ∧
    ∀ id, Asc (look (mergeResponse true (ps.map (·.m))) id) ∧
      ∀ x, x ∈ look (mergeResponse true (ps.map (·.m))) id ↔ ∃ p ∈ ps, x ∈ look p.m id := by
  rw [mergeResponse_eq, ← sortLt_map Piece.m]
  refine matrixMerge_sorted_spec ps h _ (perm_sortLt _ _) (pairwise_sortLt _ _ ?_ ?_ ?_ _)
  · exact fun _ _ h => Int.le_of_lt (of_decide_eq_true h)
  · exact fun _ _ h => Int.not_lt.mp (of_decide_eq_false h)
  · exact fun _ _ _ => Int.le_trans

end Thanos.ResultsCache
