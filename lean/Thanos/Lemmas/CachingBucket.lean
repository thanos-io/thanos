import Thanos.Model.CachingBucket
/-
  cachedGetRange in three statements: what it computes for a request is a `Geom` (`request_geom`);
  after the fetch phase `hits` is `Complete` for the window and only true subranges were stored
  (`fetched_ok`); from complete hits the reader delivers `obj[r:e)` whatever the buffer size
  (`readAll_correct`); together, `getRange_inside`.  Two multiples of the subrange size that differ, differ by a
  whole subrange (`aligned_step`): the arithmetic of the window is that and the order lemmas of `Nat`; where the
  code tests `Int`s against `lastOff`, `Geom.lastOff_nat` takes the test back to `Nat`.  At the end, histories of
  reads through a cache that may lose entries (`runHistory`, `HistOK`), in which `C14_history` is stated.
-/
namespace Thanos.CachingBucket

/-! Facts about core lists (`lookup`, `mapM`), nothing of the model: down to `mapM_ok`. -/

theorem lookup_mem {α : Type} {l : List (Nat × α)} {k : Nat} {v : α} (h : l.lookup k = some v) : (k, v) ∈ l := by
  obtain ⟨l₁, l₂, rfl, _⟩ := List.lookup_eq_some_iff.mp h
  exact List.mem_append_right _ List.mem_cons_self

theorem lookup_isSome_of_mem {α : Type} {l : List (Nat × α)} {k : Nat} {v : α} (h : (k, v) ∈ l) :
    (l.lookup k).isSome = true :=
  List.lookup_isSome_iff.mpr ⟨(k, v), h, beq_self_eq_true k⟩

theorem mapM_ok {α β : Type} (f : α → Except Err β) (g : α → β) : ∀ (l : List α),
    (∀ x ∈ l, f x = .ok (g x)) → l.mapM f = .ok (l.map g)
  | [], _ => rfl
  | x :: xs, h => by
    rw [List.mapM_cons, h x List.mem_cons_self, mapM_ok f g xs fun y hy => h y (List.mem_cons_of_mem x hy)]
    rfl

theorem slice_length (obj : Bytes) (a b : Nat) : (slice obj a b).length = min b obj.length - a := by
  rw [slice, List.length_take, List.length_drop, Nat.sub_min_sub_right]

theorem slice_length_of_le (obj : Bytes) (a : Nat) {b : Nat} (h : b ≤ obj.length) :
    (slice obj a b).length = b - a := by
  rw [slice_length, Nat.min_eq_left h]

theorem slice_nil (obj : Bytes) {a b : Nat} (h : b ≤ a) : slice obj a b = [] := by
  rw [slice, Nat.sub_eq_zero_of_le h, List.take_zero]

theorem slice_cut (obj : Bytes) {a e x n : Nat} (ha : a ≤ x) (he : x + n ≤ e) :
    ((slice obj a e).drop (x - a)).take n = slice obj x (x + n) := by
  rw [slice, slice, List.drop_take, List.drop_drop, List.take_take, Nat.sub_sub, Nat.add_sub_cancel' ha,
    Nat.add_sub_cancel_left, Nat.min_eq_left (Nat.le_sub_of_add_le' he)]

theorem slice_append (obj : Bytes) {r m e : Nat} (h1 : r ≤ m) (h2 : m ≤ e) :
    slice obj r m ++ slice obj m e = slice obj r e := by
  rw [slice, slice, slice, ← Nat.sub_add_sub_cancel h2 h1, Nat.add_comm, List.take_add, List.drop_drop,
    Nat.add_sub_cancel' h1]

theorem bucketGetRange_eq (obj : Bytes) (off len : Nat) :
    bucketGetRange obj off len = slice obj off (min (off + len) obj.length) := rfl

theorem aligned_step {S a b : Nat} (ha : S ∣ a) (hb : S ∣ b) (h : a < b) : a + S ≤ b := by
  obtain ⟨k, rfl⟩ := ha
  obtain ⟨l, rfl⟩ := hb
  exact Nat.mul_succ S k ▸ Nat.mul_le_mul_left S (Nat.lt_of_mul_lt_mul_left h)

theorem rounddown_dvd (x S : Nat) : S ∣ x / S * S := Nat.dvd_mul_left S (x / S)

theorem le_rounddown {S a x : Nat} (ha : S ∣ a) (h : a ≤ x) : a ≤ x / S * S :=
  Nat.div_mul_cancel ha ▸ Nat.mul_le_mul_right S (Nat.div_le_div_right h)

theorem roundup_spec (x : Nat) {S : Nat} (hS : 0 < S) :
    let r := x / S * S + (if x % S > 0 then S else 0)
    S ∣ r ∧ x ≤ r ∧ r < x + S := by
  have hdm := Nat.div_add_mod' x S
  split
  · exact ⟨Nat.dvd_add (rounddown_dvd x S) (Nat.dvd_refl S), Nat.le_of_lt (Nat.lt_div_mul_add hS),
      Nat.add_lt_add_right (Nat.lt_of_lt_of_eq (Nat.lt_add_of_pos_right ‹_›) hdm) S⟩
  · -- no remainder: `x` is its own rounding
    rw [Nat.eq_zero_of_not_pos ‹¬ x % S > 0›] at hdm
    rw [hdm]
    exact ⟨hdm ▸ rounddown_dvd x S, Nat.le_refl x, Nat.lt_add_of_pos_right hS⟩

/-- the geometry of one request, as cachedGetRange computes it -/
structure Geom (S size startR endR : Nat) (lastOff : Int) (lastLen : Nat) : Prop where
  hS : 0 < S
  start_dvd : S ∣ startR
  end_dvd : S ∣ endR
  endR_ge : S ≤ endR
  lastOff_eq : lastOff = (endR : Int) - S
  lastEnd : (endR - S) + lastLen = min endR size
  size_gt : endR - S < size

theorem Geom.lastOff_nat {S size startR endR : Nat} {lastOff : Int} {lastLen : Nat}
    (G : Geom S size startR endR lastOff lastLen) : lastOff = ((endR - S : Nat) : Int) := by
  rw [G.lastOff_eq, Int.ofNat_sub G.endR_ge]

/-- the piece `fetchRange` cuts at `off` (`lastLen` at the last offset, `S` elsewhere) ends where the key of `off` ends -/
theorem Geom.sub_end {S size startR endR : Nat} {lastOff : Int} {lastLen : Nat}
    (G : Geom S size startR endR lastOff lastLen) {off : Nat} (hd : S ∣ off) (hlt : off < endR) :
    off + (if (off : Int) = lastOff then lastLen else S) = min (off + S) size := by
  have hle := Nat.le_sub_of_add_le (aligned_step hd G.end_dvd hlt)
  rw [G.lastOff_nat]
  split
  next h => rw [Int.ofNat_inj.mp h, G.lastEnd, Nat.sub_add_cancel G.endR_ge]
  next h =>
    have h := aligned_step hd (Nat.dvd_sub G.end_dvd (Nat.dvd_refl S)) (Nat.lt_of_le_of_ne hle (mt Int.ofNat_inj.mpr h))
    rw [Nat.min_eq_left (Nat.le_of_lt (Nat.lt_of_le_of_lt h G.size_gt))]

/-- the buffer of a merged range `[a, b)` of the request has room for exactly what the bucket returns -/
theorem Geom.bufSize {S size startR endR : Nat} {lastOff : Int} {lastLen : Nat}
    (G : Geom S size startR endR lastOff lastLen) {a b : Nat} (hd : S ∣ b) (hab : a + S ≤ b) (hb : b ≤ endR) :
    (if lastOff ≥ (b : Int) then (b : Int) - a else (b : Int) - a - S + lastLen) = ((min b size - a : Nat) : Int) := by
  rw [G.lastOff_nat]
  split
  next h =>
    rw [Nat.min_eq_left (Nat.le_of_lt (Nat.lt_of_le_of_lt (Int.ofNat_le.mp h) G.size_gt)),
      Int.ofNat_sub (Nat.le_of_add_right_le hab)]
  next h =>
    -- `b` is not before the last offset, so it is the window's end
    cases Nat.eq_or_lt_of_le hb with
    | inr hb => exact absurd (Int.ofNat_le.mpr (Nat.le_sub_of_add_le (aligned_step hd G.end_dvd hb))) h
    | inl hb =>
      subst hb
      rw [← G.lastEnd, Int.ofNat_sub (Nat.le_trans (Nat.le_sub_of_add_le hab) (Nat.le_add_right _ _)),
        Int.natCast_add, Int.ofNat_sub G.endR_ge]
      omega

/-- the aligned window, the last subrange's offset and length that cachedGetRange computes for a request
    starting inside the object -/
theorem request_geom {S size off len : Nat} (hS : 0 < S) (hoff : off < size) (hlen : 0 < len) {endR : Nat}
    (hend : endR = min (off + len) size / S * S + (if min (off + len) size % S > 0 then S else 0)) :
    Geom S size (off / S * S) endR
      (if endR > size then ((size / S * S : Nat) : Int) else (endR : Int) - S)
      (if endR > size then size - size / S * S else S) ∧
    min (off + len) size ≤ endR := by
  obtain ⟨hEd, hEle, hElt⟩ := roundup_spec (min (off + len) size) hS
  rw [← hend] at hEd hEle hElt
  have hin : off < min (off + len) size := Nat.lt_min.mpr ⟨Nat.lt_add_of_pos_right hlen, hoff⟩
  have hSE : S ≤ endR := Nat.le_of_dvd (Nat.zero_lt_of_lt (Nat.lt_of_lt_of_le hin hEle)) hEd
  have hlt : endR - S < size :=
    Nat.sub_lt_right_of_lt_add hSE (Nat.lt_of_lt_of_le hElt (Nat.add_le_add_right (Nat.min_le_right _ _) S))
  -- if the window ends beyond the object, its last subrange is the object's last
  have hrd : endR > size → size / S * S = endR - S := fun hgt =>
    Nat.le_antisymm
      (Nat.le_sub_of_add_le (aligned_step (rounddown_dvd size S) hEd (Nat.lt_of_le_of_lt (Nat.div_mul_le_self size S) hgt)))
      (le_rounddown (Nat.dvd_sub hEd (Nat.dvd_refl S)) (Nat.le_of_lt hlt))
  refine ⟨{ hS := hS, start_dvd := rounddown_dvd off S, end_dvd := hEd, endR_ge := hSE,
            lastOff_eq := ?_, lastEnd := ?_, size_gt := hlt }, hEle⟩
  · split
    · rw [hrd ‹_›, Int.ofNat_sub hSE]
    · rfl
  · split
    · rw [hrd ‹_›, Nat.add_sub_cancel' (Nat.le_of_lt hlt), Nat.min_eq_right (Nat.le_of_lt ‹_›)]
    · rw [Nat.sub_add_cancel hSE, Nat.min_eq_left (Nat.not_lt.mp ‹_›)]

theorem mem_offsetsFrom {S : Nat} (hS : 0 < S) (f lo hi o : Nat) (hlo : S ∣ lo) (hf : hi - lo ≤ f) :
    o ∈ offsetsFrom S f lo hi ↔ lo ≤ o ∧ o < hi ∧ S ∣ o := by
  fun_induction offsetsFrom S f lo hi with
  | case1 lo hi => simp only [List.not_mem_nil, false_iff]; omega
  | case2 f lo hi h ih =>
    rw [List.mem_cons, ih (Nat.dvd_add hlo (Nat.dvd_refl S)) (by omega)]
    constructor
    · rintro (rfl | ⟨h1, h2, h3⟩)
      · exact ⟨Nat.le_refl _, h, hlo⟩
      · exact ⟨Nat.le_of_add_right_le h1, h2, h3⟩
    · rintro ⟨h1, h2, h3⟩
      rcases Nat.eq_or_lt_of_le h1 with rfl | hlt
      · exact .inl rfl
      · exact .inr ⟨aligned_step hlo h3 hlt, h2, h3⟩
  | case3 f lo hi h => exact ⟨nofun, fun ⟨h1, h2, _⟩ => absurd (Nat.lt_of_le_of_lt h1 h2) h⟩

theorem mem_offsets {S : Nat} (hS : 0 < S) {lo hi o : Nat} (hlo : S ∣ lo) :
    o ∈ offsets S lo hi ↔ lo ≤ o ∧ o < hi ∧ S ∣ o :=
  mem_offsetsFrom hS _ lo hi o hlo (Nat.le_refl _)

/-- missing or merged ranges in the order the code keeps them: aligned, non-empty, each starting at or after the end
    of the one before (`lo`: that end, the window's start for the first), all ending by `hi` -/
def Chain (S hi : Nat) : Nat → List Rng → Prop
  | _, [] => True
  | lo, m :: ms => lo ≤ m.start ∧ m.start < m.stop ∧ m.stop ≤ hi ∧ S ∣ m.start ∧ S ∣ m.stop ∧ Chain S hi m.stop ms

def covered (ms : List Rng) (x : Nat) : Prop := ∃ m ∈ ms, m.start ≤ x ∧ x < m.stop

theorem covered_cons {m : Rng} {ms : List Rng} {x : Nat} :
    covered (m :: ms) x ↔ (m.start ≤ x ∧ x < m.stop) ∨ covered ms x := by
  simp only [covered, List.mem_cons, or_and_right, exists_or, exists_eq_left]

theorem mergeGo_chain {S hi limit : Nat} (cur : Rng) (rs : List Rng) {lo : Nat} (h : Chain S hi lo (cur :: rs)) :
    Chain S hi lo (mergeGo limit cur rs) ∧ ∀ x, covered (cur :: rs) x → covered (mergeGo limit cur rs) x := by
  fun_induction mergeGo limit cur rs generalizing lo with
  | case1 cur => exact ⟨h, fun _ hx => hx⟩
  | case2 cur r rs _ ih =>
    -- merged into one range
    obtain ⟨h1, h2, _, h4, _, hr1, hr2, hr3, _, hr5, hrest⟩ := h
    obtain ⟨c1, c2⟩ := ih ⟨h1, Nat.lt_trans h2 (Nat.lt_of_le_of_lt hr1 hr2), hr3, h4, hr5, hrest⟩
    refine ⟨c1, fun x hx => c2 x ?_⟩
    rw [covered_cons, covered_cons] at hx
    rw [covered_cons]
    rcases hx with ⟨a, b⟩ | ⟨a, b⟩ | c
    · exact .inl ⟨a, Nat.lt_trans b (Nat.lt_of_le_of_lt hr1 hr2)⟩
    · exact .inl ⟨Nat.le_trans (Nat.le_trans (Nat.le_of_lt h2) hr1) a, b⟩
    · exact .inr c
  | case3 cur r rs _ ih =>
    obtain ⟨h1, h2, h3, h4, h5, hr⟩ := h
    obtain ⟨c1, c2⟩ := ih hr
    refine ⟨⟨h1, h2, h3, h4, h5, c1⟩, fun x hx => ?_⟩
    rw [covered_cons] at hx ⊢
    exact hx.imp_right (c2 x)

theorem mergeRanges_chain {S hi limit lo : Nat} (ms : List Rng) (h : Chain S hi lo ms) :
    Chain S hi lo (mergeRanges limit ms) ∧ ∀ x, covered ms x → covered (mergeRanges limit ms) x := by
  cases ms with
  | nil => exact ⟨trivial, fun x hx => hx⟩
  | cons m ms => exact mergeGo_chain m ms h

theorem mergeUntil_chain {S hi lo maxSub : Nat} (fuel limit : Nat) (ms : List Rng) (h : Chain S hi lo ms) :
    Chain S hi lo (mergeUntil maxSub fuel limit ms) ∧
      ∀ x, covered ms x → covered (mergeUntil maxSub fuel limit ms) x := by
  fun_induction mergeUntil maxSub fuel limit ms with
  | case1 => exact ⟨h, fun _ hx => hx⟩
  | case2 f limit ms _ ih =>
    obtain ⟨c1, c2⟩ := mergeRanges_chain (limit := limit) ms h
    obtain ⟨d1, d2⟩ := ih c1
    exact ⟨d1, fun x hx => d2 x (c2 x hx)⟩
  | case3 => exact ⟨h, fun _ hx => hx⟩

/-- the chain's lower bound `lo'` stays behind while offsets that are not kept are skipped -/
theorem missing_chain {S : Nat} (hS : 0 < S) (keep : Nat → Bool) (f lo hi : Nat) (hlo : S ∣ lo) (hhi : S ∣ hi)
    {lo' : Nat} (hle : lo' ≤ lo) :
    Chain S hi lo' (((offsetsFrom S f lo hi).filter keep).map fun o => (⟨o, o + S⟩ : Rng)) := by
  fun_induction offsetsFrom S f lo hi generalizing lo' with
  | case1 => trivial
  | case2 f lo hi h ih =>
    have ih := @ih (Nat.dvd_add hlo (Nat.dvd_refl S)) hhi
    cases hk : keep lo with
    | true =>
      rw [List.filter_cons_of_pos hk]
      exact ⟨hle, Nat.lt_add_of_pos_right hS, aligned_step hlo hhi h, hlo, Nat.dvd_add hlo (Nat.dvd_refl S), ih (Nat.le_refl _)⟩
    | false =>
      rw [List.filter_cons_of_neg (Bool.eq_false_iff.mp hk)]
      exact ih (Nat.le_trans hle (Nat.le_add_right _ _))
  | case3 => trivial

theorem fetchRange_ok (obj : Bytes) {S startR endR : Nat} {lastOff : Int} {lastLen : Nat}
    (G : Geom S obj.length startR endR lastOff lastLen) (m : Rng)
    (h1 : m.start < m.stop) (h2 : m.stop ≤ endR) (d1 : S ∣ m.start) (d2 : S ∣ m.stop) :
    fetchRange obj S lastOff lastLen m =
      .ok ((offsets S m.start m.stop).map fun o => (o, slice obj o (min (o + S) obj.length))) := by
  have hr : bucketGetRange obj m.start (m.stop - m.start) = slice obj m.start (min m.stop obj.length) := by
    rw [bucketGetRange_eq, Nat.add_sub_cancel' (Nat.le_of_lt h1)]
  have hlen := slice_length_of_le obj m.start (Nat.min_le_right m.stop obj.length)
  unfold fetchRange
  simp only [hr]
  rw [G.bufSize d2 (aligned_step d1 d2 h1) h2, if_neg (Int.not_lt.mpr (Int.natCast_nonneg _)), hlen,
    if_neg (Int.lt_irrefl _), Int.toNat_natCast, ← hlen, List.take_length]
  apply mapM_ok
  intro off hoff
  obtain ⟨ho1, ho2, ho3⟩ := (mem_offsets G.hS d1).mp hoff
  have hend := G.sub_end ho3 (Nat.lt_of_lt_of_le ho2 h2)
  have hstop := aligned_step ho3 d2 ho2
  simp only [← apply_ite (off - m.start + ·), Nat.add_sub_cancel_left]
  generalize (if (off : Int) = lastOff then lastLen else S) = w at hend
  have hcut : off + w ≤ min m.stop obj.length :=
    hend ▸ Nat.le_min.mpr ⟨Nat.le_trans (Nat.min_le_left _ _) hstop, Nat.min_le_right _ _⟩
  have hfit : off - m.start + w ≤ (slice obj m.start (min m.stop obj.length)).length := by
    rw [hlen, ← Nat.sub_add_comm ho1]
    exact Nat.sub_le_sub_right hcut _
  rw [if_neg (Nat.not_lt.mpr hfit), slice_cut obj ho1 hcut, hend]

/-- an honest cache returns, for a subrange key, nothing or the object's bytes of that range -/
def Honest (obj : Bytes) (cache : Nat → Nat → Option Bytes) : Prop :=
  ∀ a b bs, cache a b = some bs → bs = slice obj a b

/-- what is stored into the cache: under the key `(start, end)` exactly `obj[start:end]` -/
def StoresHonest (obj : Bytes) (stores : List ((Nat × Nat) × Bytes)) : Prop :=
  ∀ e ∈ stores, e.1.1 < e.1.2 ∧ e.2 = slice obj e.1.1 e.1.2

/-- `hits` holds the true subrange of every aligned offset of the window `[lo, hi)`: what the reader needs -/
def Complete (obj : Bytes) (S lo hi : Nat) (hits : List (Nat × Bytes)) : Prop :=
  ∀ o, lo ≤ o → o < hi → S ∣ o → hits.lookup o = some (slice obj o (min (o + S) obj.length))

/-- every hit, cached or fetched, is the true subrange of its offset; with a hit at every offset this is `Complete` -/
def GoodHits (obj : Bytes) (S : Nat) (hits : List (Nat × Bytes)) : Prop :=
  ∀ o b, (o, b) ∈ hits → b = slice obj o (min (o + S) obj.length)

theorem GoodHits.complete {obj : Bytes} {S lo hi : Nat} {hits : List (Nat × Bytes)} (hg : GoodHits obj S hits)
    (hs : ∀ o, lo ≤ o → o < hi → S ∣ o → (hits.lookup o).isSome = true) : Complete obj S lo hi hits := by
  intro o h1 h2 h3
  obtain ⟨b, hb⟩ := Option.isSome_iff_exists.mp (hs o h1 h2 h3)
  rw [hb, hg o b (lookup_mem hb)]

theorem fetchAll_ok (obj : Bytes) {S startR endR : Nat} {lastOff : Int} {lastLen : Nat}
    (G : Geom S obj.length startR endR lastOff lastLen) (ms : List Rng) :
    ∀ (lo : Nat) (acc : Fetched), Chain S endR lo ms →
      GoodHits obj S acc.hits → StoresHonest obj acc.stores →
      ∃ f, fetchAll obj S lastOff lastLen ms acc = .ok f ∧ GoodHits obj S f.hits ∧ StoresHonest obj f.stores ∧
        acc.hits.Sublist f.hits ∧
        (∀ o, covered ms o → S ∣ o → (f.hits.lookup o).isSome = true) := by
  induction ms with
  | nil => exact fun _ acc _ hg hst => ⟨acc, rfl, hg, hst, .refl _, fun _ ⟨_, hm, _⟩ => nomatch hm⟩
  | cons m ms ih =>
    rintro _ acc ⟨_, v1, v2, v3, v4, hrest⟩ hg hst
    rw [fetchAll, fetchRange_ok obj G m v1 v2 v3 v4]
    simp only
    generalize hfresh : List.filter _ _ = fresh
    have hnew : ∀ x ∈ fresh, x.2 = slice obj x.1 (min (x.1 + S) obj.length) ∧ x.1 < min (x.1 + S) obj.length := by
      intro x hx
      rw [← hfresh] at hx
      obtain ⟨o, ho, rfl⟩ := List.mem_map.mp (List.mem_filter.mp hx).1
      obtain ⟨_, ho2, ho3⟩ := (mem_offsets G.hS v3).mp ho
      exact ⟨rfl, Nat.lt_min.mpr ⟨Nat.lt_add_of_pos_right G.hS, Nat.lt_of_le_of_lt
        (Nat.le_sub_of_add_le (aligned_step ho3 G.end_dvd (Nat.lt_of_lt_of_le ho2 v2))) G.size_gt⟩⟩
    obtain ⟨f, hf1, hf2, hf5, hf3, hf4⟩ := ih m.stop
      ⟨acc.hits ++ fresh, _, acc.stores ++ fresh.map fun x => ((x.1, min (x.1 + S) obj.length), x.2)⟩ hrest
      (fun o b hob => (List.mem_append.mp hob).elim (hg o b) fun h => (hnew _ h).1)
      (fun e he => (List.mem_append.mp he).elim (hst e) fun h => by
        obtain ⟨x, hx, rfl⟩ := List.mem_map.mp h
        exact ⟨(hnew x hx).2, (hnew x hx).1⟩)
    refine ⟨f, hf1, hf2, hf5, (List.sublist_append_left _ _).trans hf3, ?_⟩
    intro o hc hd
    rcases covered_cons.mp hc with ⟨ho1, ho2⟩ | hc
    · apply hf3.lookup_isSome
      -- `o` was in `hits` already, or its subrange is new
      cases hacc : acc.hits.lookup o with
      | some v => exact (List.sublist_append_left _ _).lookup_isSome (by rw [hacc]; rfl)
      | none =>
        refine lookup_isSome_of_mem (v := slice obj o (min (o + S) obj.length)) (List.mem_append_right _ ?_)
        rw [← hfresh]
        exact List.mem_filter.mpr ⟨List.mem_map.mpr ⟨o, (mem_offsets G.hS v3).mpr ⟨ho1, ho2, hd⟩, rfl⟩, by simp only [hacc]; rfl⟩
    · exact hf4 o hc hd

/-- the whole fetch phase of cachedGetRange over an honest cache: cache hits, then the missing subranges if any -/
theorem fetched_ok (obj : Bytes) {S startR endR : Nat} {lastOff : Int} {lastLen : Nat}
    (G : Geom S obj.length startR endR lastOff lastLen) {cache : Nat → Nat → Option Bytes}
    (hon : Honest obj cache) (maxSub fuel : Nat) {hits0 : List (Nat × Bytes)}
    (hh : hits0 = (offsets S startR endR).filterMap fun o => (cache o (min (o + S) obj.length)).map fun b => (o, b)) :
    ∃ f, (if hits0.length < (offsets S startR endR).length then
        fetchAll obj S lastOff lastLen
          (mergeUntil maxSub fuel S (mergeRanges 0
            (((offsets S startR endR).filter fun o => (hits0.lookup o).isNone).map fun o => (⟨o, o + S⟩ : Rng))))
          ⟨hits0, [], []⟩
      else .ok ⟨hits0, [], []⟩) = .ok f ∧
      Complete obj S startR endR f.hits ∧ StoresHonest obj f.stores := by
  have hS := G.hS
  -- what an honest cache returns under the key of an offset is that offset's subrange
  have hg : GoodHits obj S hits0 := by
    intro o b hob
    obtain ⟨o', _, ho'⟩ := List.mem_filterMap.mp (hh ▸ hob)
    obtain ⟨b', hc, heq⟩ := Option.map_eq_some_iff.mp ho'
    cases heq
    exact hon _ _ _ hc
  split
  · obtain ⟨c1, c2⟩ := mergeRanges_chain (limit := 0) _
      (missing_chain hS (fun o => (hits0.lookup o).isNone) (endR - startR) startR endR G.start_dvd G.end_dvd
        (Nat.le_refl _))
    obtain ⟨d1, d2⟩ := mergeUntil_chain (maxSub := maxSub) fuel S _ c1
    obtain ⟨f, hf1, hf2, hf5, hf3, hf4⟩ := fetchAll_ok obj G _ _ ⟨hits0, [], []⟩ d1 hg nofun
    refine ⟨f, hf1, hf2.complete fun o h1 h2 h3 => ?_, hf5⟩
    cases hl : hits0.lookup o with
    | some v => exact hf3.lookup_isSome (by rw [hl]; rfl)
    | none =>
      -- a missing subrange lies in one of the merged ranges
      exact hf4 o (d2 o (c2 o ⟨⟨o, o + S⟩,
        List.mem_map.mpr ⟨o, List.mem_filter.mpr ⟨(mem_offsets hS G.start_dvd).mpr ⟨h1, h2, h3⟩, by simp only [hl]; rfl⟩, rfl⟩,
        Nat.le_refl o, Nat.lt_add_of_pos_right hS⟩)) h3
  · -- as many hits as keys: every key was found
    subst hh
    have hall := List.filterMap_length_eq_length.mp
      (Nat.le_antisymm (List.length_filterMap_le _ _) (Nat.not_lt.mp ‹_›))
    refine ⟨_, rfl, hg.complete fun o h1 h2 h3 => ?_, nofun⟩
    have ho := (mem_offsets hS G.start_dvd).mpr ⟨h1, h2, h3⟩
    obtain ⟨x, hx⟩ := Option.isSome_iff_exists.mp (hall o ho)
    obtain ⟨b, _, rfl⟩ := Option.map_eq_some_iff.mp hx
    exact lookup_isSome_of_mem (List.mem_filterMap.mpr ⟨o, ho, hx⟩)

theorem readStep_eof {S : Nat} {hits : List (Nat × Bytes)} {p r : Nat} {rem : Int} (h : rem ≤ 0) :
    readStep S hits p r rem = .ok none := by
  rw [readStep, if_pos h]

theorem readStep_copy {S : Nat} {hits : List (Nat × Bytes)} {p r : Nat} {rem : Int} {sub : Bytes}
    (hrem : 0 < rem) (hlook : hits.lookup (r / S * S) = some sub) (hin : r - r / S * S < sub.length) :
    readStep S hits p r rem =
      let n := min (min (sub.length - (r - r / S * S)) p) rem.toNat
      .ok (some ((sub.drop (r - r / S * S)).take n, r + n, rem - n)) := by
  rw [readStep, if_neg (Int.not_le.mpr hrem)]
  simp only [hlook]
  rw [if_neg (Nat.not_le.mpr hin)]

theorem readAll_eof {S : Nat} {hits : List (Nat × Bytes)} {p f r : Nat} {rem : Int} (h : rem ≤ 0) :
    readAll S hits p (f + 1) r rem = .ok [] := by
  rw [readAll, readStep_eof h]

theorem readAll_copy {S : Nat} {hits : List (Nat × Bytes)} {p f r ro : Nat} {rem rem' : Int} {bs rest : Bytes}
    (hs : readStep S hits p r rem = .ok (some (bs, ro, rem'))) (hr : readAll S hits p f ro rem' = .ok rest) :
    readAll S hits p (f + 1) r rem = .ok (bs ++ rest) := by
  rw [readAll, hs]
  simp only [hr]

/-- what one `Read` at `r` copies, with `E` the end of the subrange, `p` the buffer and `e` the end of the request -/
theorem copy_bounds {r E e p : Nat} (hE : r < E) (he : r < e) (hp : 0 < p) :
    let n := min (min (E - r) p) (e - r)
    0 < n ∧ r + n ≤ E ∧ r + n ≤ e :=
  ⟨Nat.lt_min.mpr ⟨Nat.lt_min.mpr ⟨Nat.sub_pos_of_lt hE, hp⟩, Nat.sub_pos_of_lt he⟩,
    Nat.add_le_of_le_sub' (Nat.le_of_lt hE) (Nat.le_trans (Nat.min_le_left _ _) (Nat.min_le_left _ _)),
    Nat.add_le_of_le_sub' (Nat.le_of_lt he) (Nat.min_le_right _ _)⟩

theorem readStep_slice (obj : Bytes) {S p : Nat} (hS : 0 < S) (hp : 0 < p) {hits : List (Nat × Bytes)} {r e : Nat}
    (hlook : hits.lookup (r / S * S) = some (slice obj (r / S * S) (min (r / S * S + S) obj.length)))
    (hre : r < e) (he : e ≤ obj.length) :
    ∃ m, r < m ∧ m ≤ e ∧ readStep S hits p r ((e : Int) - r) = .ok (some (slice obj r m, m, (e : Int) - m)) := by
  have hle := Nat.div_mul_le_self r S
  have hend : r < min (r / S * S + S) obj.length :=
    Nat.lt_min.mpr ⟨Nat.lt_div_mul_add (a := r) hS, Nat.lt_of_lt_of_le hre he⟩
  have hlen := slice_length_of_le obj (r / S * S) (Nat.min_le_right (r / S * S + S) obj.length)
  obtain ⟨h1, h2, h3⟩ := copy_bounds hend hre hp
  refine ⟨_, Nat.lt_add_of_pos_right h1, h3, ?_⟩
  rw [readStep_copy (Int.sub_pos_of_lt (Int.ofNat_lt.mpr hre)) hlook (hlen ▸ Nat.sub_lt_sub_right hle hend), hlen,
    Int.toNat_sub, Nat.sub_sub, Nat.add_sub_cancel' hle]
  simp only
  rw [slice_cut obj hle h2, Int.natCast_add, Int.sub_sub]

theorem readAll_correct (obj : Bytes) {S p : Nat} (hS : 0 < S) (hp : 0 < p) (hits : List (Nat × Bytes))
    {lo hi e : Nat} (hlo : S ∣ lo) (hc : Complete obj S lo hi hits) (h3 : e ≤ hi) (h4 : e ≤ obj.length) (fuel : Nat) :
    ∀ r, lo ≤ r → r ≤ e → e - r + 1 ≤ fuel → readAll S hits p fuel r ((e : Int) - r) = .ok (slice obj r e) := by
  induction fuel with
  | zero => exact fun _ _ _ hf => absurd hf (Nat.not_succ_le_zero _)
  | succ fuel ih =>
    intro r h1 h2 hf
    rcases Nat.eq_or_lt_of_le h2 with rfl | hlt
    · rw [readAll_eof (Int.le_of_eq (Int.sub_self _)), slice_nil obj (Nat.le_refl r)]
    · have hlook := hc (r / S * S) (le_rounddown hlo h1)
        (Nat.lt_of_le_of_lt (Nat.div_mul_le_self r S) (Nat.lt_of_lt_of_le hlt h3)) (rounddown_dvd r S)
      obtain ⟨m, hrm, hme, hstep⟩ := readStep_slice obj hS hp hlook hlt h4
      rw [readAll_copy hstep (ih m (Nat.le_trans h1 (Nat.le_of_lt hrm)) hme
          (Nat.lt_of_lt_of_le (Nat.sub_lt_sub_left hlt hrm) (Nat.le_of_succ_le_succ hf))),
        slice_append obj (Nat.le_of_lt hrm) hme]

/-- a request that starts inside the object is served transparently with or without the guard, and what it
    stores into the cache are true subranges under their exact keys -/
theorem getRange_inside (guard : Bool) (obj : Bytes) (S maxSub : Nat) (cache : Nat → Nat → Option Bytes)
    (p off len : Nat) (hS : S ≥ 1) (hp : p ≥ 1) (hlen : len ≥ 1) (hon : Honest obj cache)
    (hoff : ¬ off ≥ obj.length) :
    (getRange guard obj S maxSub cache p off len).out = .ok (bucketGetRange obj off len) ∧
    StoresHonest obj (getRange guard obj S maxSub cache p off len).stores := by
  have hS' : 0 < S := hS
  have hin : off < min (off + len) obj.length := Nat.lt_min.mpr ⟨Nat.lt_add_of_pos_right hlen, Nat.lt_of_not_le hoff⟩
  unfold getRange
  simp only [hoff, and_false, if_false]
  generalize hend : (min (off + len) obj.length / S * S + if min (off + len) obj.length % S > 0 then S else 0) = endR
  obtain ⟨G, hEle⟩ := request_geom hS' (Nat.lt_of_not_le hoff) hlen hend.symm
  -- the window is not empty, so `make([]string, 0, numSubranges)` does not panic
  rw [if_neg (Nat.lt_asymm (Nat.lt_of_le_of_lt (Nat.div_mul_le_self off S) (Nat.lt_of_lt_of_le hin hEle)))]
  generalize (if endR > obj.length then ((obj.length / S * S : Nat) : Int) else (endR : Int) - S) = lastOff at G
  generalize (if endR > obj.length then obj.length - obj.length / S * S else S) = lastLen at G
  obtain ⟨f, hf, hcomp, hsto⟩ := fetched_ok obj G hon maxSub (endR + 2) rfl
  rw [hf]
  refine ⟨?_, hsto⟩
  simp only
  -- the reader: window `[off / S * S, endR)`, request end `min (off + len) obj.length`, read from `off`
  rw [Int.toNat_sub, readAll_correct obj hS' hp f.hits G.start_dvd hcomp hEle (Nat.min_le_right _ _) _ off
    (Nat.div_mul_le_self off S) (Nat.le_of_lt hin) (Nat.le_refl _), bucketGetRange_eq]

structure Read where
  off : Nat
  len : Nat
  p : Nat

/-- all that the caching bucket ever stored -/
abbrev Entries := List ((Nat × Nat) × Bytes)

/-- what the cache answers in one Fetch: any part of what was stored (lost, evicted, or not returned this time) -/
def SubView (entries : Entries) (view : Nat → Nat → Option Bytes) : Prop :=
  ∀ a b bs, view a b = some bs → ((a, b), bs) ∈ entries

/-- every read sees its own view, and the answers depend on the views alone: `entries` (all that was stored so far)
    is accumulated but not read; `HistOK` runs the same accumulation to say that each view shows part of it -/
def runHistory (obj : Bytes) (S maxSub : Nat) :
    List (Read × (Nat → Nat → Option Bytes)) → Entries → List (Except Err Bytes)
  | [], _ => []
  | (r, view) :: rest, entries =>
    let res := getRange true obj S maxSub view r.p r.off r.len
    res.out :: runHistory obj S maxSub rest (entries ++ res.stores)

def HistOK (obj : Bytes) (S maxSub : Nat) :
    List (Read × (Nat → Nat → Option Bytes)) → Entries → Prop
  | [], _ => True
  | (r, view) :: rest, entries =>
    r.len ≥ 1 ∧ r.p ≥ 1 ∧ SubView entries view ∧
      HistOK obj S maxSub rest (entries ++ (getRange true obj S maxSub view r.p r.off r.len).stores)

end Thanos.CachingBucket
