import Thanos.Model.Hashring
import Thanos.Lemmas.Hashring
import Thanos.Lemmas.HashringBuild
import Thanos.Lemmas.HashringWalk
import Thanos.Lemmas.ListFacts
/-
  The ketama ring does not depend on the order of the endpoint list (C18), up to the renaming
  of endpoint indices that the reordering induces:
  * the replica loop commutes with an injective renaming of endpoint indices (`loop_ren`);
  * it depends on the zone list only up to permutation (`loop_zones_perm`);
  * without hash ties the sorted ring of the permuted list is the renamed sorted ring (`mkRing_permute`).
  Removing one endpoint is a selection of positions like a reordering, so the ring without the sections of
  an endpoint is the renamed ring of the list without it (`mkRing_eraseIdx`, C20).
-/
namespace Thanos.Hashring

def ren (f : Nat → Nat) (s : Sec) : Sec := { s with ep := f s.ep }

def Res.map (f : Nat → Nat) : Res → Res
  | .ok reps => .ok (reps.map f)
  | .stuck => .stuck
  | .fuelOut => .fuelOut
  | .oob => .oob

/-- `f` is injective on the endpoints of the sections of `l`; as a condition on the list of endpoints it is
    `ShuffleShard.InjOnL` (`InjOn.toL`) -/
def InjOn (f : Nat → Nat) (l : List Sec) : Prop := ∀ s ∈ l, ∀ t ∈ l, f s.ep = f t.ep → s.ep = t.ep

@[simp] theorem ren_az (f : Nat → Nat) (s : Sec) : (ren f s).az = s.az := rfl
@[simp] theorem ren_hash (f : Nat → Nat) (s : Sec) : (ren f s).hash = s.hash := rfl
@[simp] theorem ren_ep (f : Nat → Nat) (s : Sec) : (ren f s).ep = f s.ep := rfl

theorem cnt_ren (f : Nat → Nat) (z : Nat) (chosen : List Sec) : cnt z (chosen.map (ren f)) = cnt z chosen := by
  simp [cnt, List.countP_map, Function.comp_def]

theorem least_ren (f : Nat → Nat) (chosen : List Sec) : ∀ zones, least (chosen.map (ren f)) zones = least chosen zones
  | [] => rfl
  | z :: zs => by simp [least, cnt_ren, least_ren f chosen zs]

theorem skipAZ_ren (f : Nat → Nat) (zones : List Nat) (chosen : List Sec) (rep : Sec) :
    skipAZ zones (chosen.map (ren f)) (ren f rep) = skipAZ zones chosen rep := by
  simp [skipAZ, cnt_ren, least_ren]

theorem taken_ren {f : Nat → Nat} {ring chosen : List Sec} {rep : Sec} (hinj : InjOn f ring)
    (hc : ∀ c ∈ chosen, c ∈ ring) (hrep : rep ∈ ring) :
    taken (chosen.map (ren f)) (f rep.ep) = taken chosen rep.ep := by
  simp only [taken, List.any_map, Function.comp_def, ren_ep]
  apply Bool.eq_iff_iff.mpr
  simp only [List.any_eq_true, beq_iff_eq]
  constructor
  · rintro ⟨c, hcm, he⟩; exact ⟨c, hcm, hinj c (hc c hcm) rep hrep he⟩
  · rintro ⟨c, hcm, he⟩; exact ⟨c, hcm, by rw [he]⟩

theorem cursor_ren (f : Nat → Nat) (ring rest : List Sec) :
    cursor (ring.map (ren f)) (rest.map (ren f)) =
      (cursor ring rest).map (fun p => (ren f p.1, p.2.map (ren f))) := by
  cases rest with
  | cons a r => rfl
  | nil => cases ring <;> rfl

theorem loop_ren (lc : Bool) (f : Nat → Nat) (ring : List Sec) (n : Nat) (zones : List Nat) (rf : Nat)
    (hinj : InjOn f ring) :
    ∀ (fuel : Nat) (rest : List Sec) (skipped : Nat) (chosen : List Sec),
      (∀ s ∈ rest, s ∈ ring) → (∀ c ∈ chosen, c ∈ ring) →
      loop lc (ring.map (ren f)) n zones rf fuel (rest.map (ren f)) skipped (chosen.map (ren f)) =
        (loop lc ring n zones rf fuel rest skipped chosen).map f := by
  -- the renamed run takes the branch the original takes: same length, same cursor, same tests
  have hcur : ∀ {rest rep rest'}, cursor ring rest = some (rep, rest') →
      cursor (ring.map (ren f)) (rest.map (ren f)) = some (ren f rep, rest'.map (ren f)) :=
    fun hc => by rw [cursor_ren, hc]; rfl
  intro fuel rest skipped chosen hsub hch
  induction fuel, rest, skipped, chosen using loop_induct (lc := lc) (ring := ring) (n := n) (zones := zones) (rf := rf) with
  | zero => rfl
  | done h => rw [loop_done (by rwa [List.length_map]), List.map_map, Res.map, List.map_map]; rfl
  | lap h hl hs => exact loop_lap (by rwa [List.length_map]) hl hs
  | oob h hl hc => exact loop_oob (by rwa [List.length_map]) hl (by rw [cursor_ren, hc]; rfl)
  | skip h hl hc hs ih =>
    rw [loop_skip (by rwa [List.length_map]) hl (hcur hc)
      (by rwa [ren_ep, taken_ren hinj hch (cursor_mem hsub hc).1, skipAZ_ren])]
    exact ih (cursor_mem hsub hc).2 hch
  | add h hl hc ht hz ih =>
    have hrep := (cursor_mem hsub hc).1
    rw [loop_add (by rwa [List.length_map]) hl (hcur hc)
      (by rwa [ren_ep, taken_ren hinj hch hrep]) (by rwa [skipAZ_ren])]
    have := ih (cursor_mem hsub hc).2 fun c hc => (List.mem_append.mp hc).elim (hch c) fun h => List.mem_singleton.mp h ▸ hrep
    rwa [List.map_append] at this

theorem least_perm (chosen : List Sec) {zones zones' : List Nat} (h : zones.Perm zones') :
    least chosen zones = least chosen zones' := by
  induction h with
  | nil => rfl
  | cons a _ ih => simp [least, ih]
  | swap a b l => exact Nat.min_left_comm ..
  | trans _ _ ih1 ih2 => rw [ih1, ih2]

theorem loop_zones_perm (lc : Bool) (ring : List Sec) (n : Nat) {zones zones' : List Nat} (h : zones.Perm zones')
    (rf : Nat) : ∀ (fuel : Nat) (rest : List Sec) (skipped : Nat) (chosen : List Sec),
      loop lc ring n zones rf fuel rest skipped chosen = loop lc ring n zones' rf fuel rest skipped chosen := by
  intro fuel
  induction fuel with
  | zero => intro _ _ _; rfl
  | succ fuel ih =>
    intro rest skipped chosen
    unfold loop
    have hs : ∀ rep, skipAZ zones chosen rep = skipAZ zones' chosen rep := by
      intro rep; simp [skipAZ, h.length_eq, least_perm chosen h]
    simp only [hs, ih]

def Build.map (f : Nat → Nat) : Build → Build
  | .ring secs => .ring (secs.map fun p => (ren f p.1, p.2.map f))
  | .tooFew => .tooFew
  | .stuck => .stuck
  | .hang => .hang
  | .panic => .panic

theorem replicasFor_ren {lc : Bool} {f : Nat → Nat} {ring : List Sec} {zones : List Nat} {rf : Nat} {start : List Sec}
    (hinj : InjOn f ring) (hsub : ∀ s ∈ start, s ∈ ring) :
    replicasFor lc (ring.map (ren f)) zones rf (start.map (ren f)) = (replicasFor lc ring zones rf start).map f := by
  rw [replicasFor, replicasFor, List.length_map]
  exact loop_ren lc f ring ring.length zones rf hinj _ start 0 [] hsub nofun

theorem searchSuffix_ren (f : Nat → Nat) (v : Nat) (ring : List Sec) :
    searchSuffix v (ring.map (ren f)) = (searchSuffix v ring).map (ren f) := by
  rw [searchSuffix, searchSuffix, List.dropWhile_map,
    show ((fun s : Sec => decide (s.hash < v)) ∘ ren f) = fun s => decide (s.hash < v) from rfl]
  cases ring.dropWhile fun s => decide (s.hash < v) <;> rfl

theorem replicasOfSeries_ren (lc : Bool) {f : Nat → Nat} {ring : List Sec} (hinj : InjOn f ring) (zones : List Nat)
    (rf v : Nat) :
    replicasOfSeries lc (ring.map (ren f)) zones rf v = (replicasOfSeries lc ring zones rf v).map f := by
  rw [replicasOfSeries, replicasOfSeries, searchSuffix_ren]
  exact replicasFor_ren hinj searchSuffix_subset

theorem table_ren {lc : Bool} {f : Nat → Nat} {ring : List Sec} {zones : List Nat} {rf : Nat} (hinj : InjOn f ring) :
    ∀ (suffix : List Sec), (∀ s ∈ suffix, s ∈ ring) →
      table lc (ring.map (ren f)) zones rf (suffix.map (ren f)) = (table lc ring zones rf suffix).map f
  | [], _ => rfl
  | s :: rest, hsub => by
    rw [List.map_cons, table, ← List.map_cons, replicasFor_ren hinj hsub,
      table_ren hinj rest fun x hx => hsub x (List.mem_cons_of_mem s hx), table]
    cases replicasFor lc ring zones rf (s :: rest) with
    | ok r => cases table lc ring zones rf rest <;> rfl
    | _ => rfl

theorem table_zones_perm (lc : Bool) (ring : List Sec) {zones zones' : List Nat} (h : zones.Perm zones') (rf : Nat) :
    ∀ (suffix : List Sec), table lc ring zones rf suffix = table lc ring zones' rf suffix
  | [] => rfl
  | s :: rest => by
    simp only [table, replicasFor, loop_zones_perm lc ring ring.length h rf, table_zones_perm lc ring h rf rest]

def Get.map (f : Nat → Nat) : Get → Get
  | .node e => .node (f e)
  | .insufficient => .insufficient
  | .panic => .panic

theorem search_ren (f : Nat → Nat) (v : Nat) (secs : List (Sec × List Nat)) :
    search v (secs.map fun p => (ren f p.1, p.2.map f)) = (search v secs).map fun p => (ren f p.1, p.2.map f) := by
  rw [search_eq_find?, search_eq_find?, List.find?_map]
  rfl

theorem getN_ren (f : Nat → Nat) (numEps : Nat) (secs : List (Sec × List Nat)) (v n : Nat) :
    getN numEps (secs.map fun p => (ren f p.1, p.2.map f)) v n = (getN numEps secs v n).map f := by
  by_cases h : numEps ≤ n
  · rw [getN, getN, if_pos h, if_pos h]; rfl
  · cases hs : (search v secs).or secs.head? with
    | some s =>
      rw [getN_of_row (Nat.lt_of_not_le h) hs, getN_of_row (Nat.lt_of_not_le h) (s := (ren f s.1, s.2.map f))
        (by rw [search_ren, List.head?_map, ← Option.map_or, hs]; rfl), List.getElem?_map]
      cases s.2[n]? <;> rfl
    | none =>
      obtain rfl := List.head?_eq_none_iff.mp (Option.or_eq_none_iff.mp hs).2
      rw [getN, if_neg h, getN, if_neg h]; rfl

/-- no two sections of the configuration have the same hash, so that sorting by hash determines the ring -/
def NoTies (eps : List Ep) : Prop := ((sectionsFrom 0 eps).map (·.hash)).Nodup

theorem eq_of_perm_of_sorted {l₁ l₂ : List Sec} (hp : l₁.Perm l₂) (h1 : l₁.Pairwise (fun a b => hashLe a b = true))
    (h2 : l₂.Pairwise (fun a b => hashLe a b = true)) (hinj : ∀ s ∈ l₂, ∀ t ∈ l₂, s.hash = t.hash → s = t) :
    l₁ = l₂ := by
  refine List.Perm.eq_of_pairwise (le := fun a b => hashLe a b = true) (fun a b ha hb hab hba => ?_) h1 h2 hp
  simp only [hashLe, decide_eq_true_eq] at hab hba
  exact hinj a (hp.mem_iff.mp ha) b hb (Nat.le_antisymm hab hba)

theorem pairwise_mkRing (eps : List Ep) : (mkRing eps).Pairwise (fun a b => hashLe a b = true) := by
  unfold mkRing
  exact List.pairwise_mergeSort (le := hashLe)
    (fun a b c h1 h2 => by simp only [hashLe, decide_eq_true_eq] at *; omega)
    (fun a b => by simp only [hashLe, Bool.or_eq_true, decide_eq_true_eq]; omega) (sectionsFrom 0 eps)

theorem mkRing_sorted (eps : List Ep) : SortedRing (mkRing eps) :=
  (pairwise_mkRing eps).imp of_decide_eq_true

theorem hash_inj_mkRing {eps : List Ep} (h : NoTies eps) :
    ∀ s ∈ mkRing eps, ∀ t ∈ mkRing eps, s.hash = t.hash → s = t :=
  fun _ hs _ ht => inj_of_nodup_map h ((mkRing_perm eps).mem_iff.mp hs) ((mkRing_perm eps).mem_iff.mp ht)

/-- `perm` lists, for every position of the new endpoint list, the position in the old one -/
def IsPermOf (perm : List Nat) (n : Nat) : Prop := perm.Perm (List.range n)

theorem IsPermOf.lt {perm : List Nat} {n : Nat} (h : IsPermOf perm n) : ∀ i ∈ perm, i < n :=
  fun _ hi => List.mem_range.mp (h.mem_iff.mp hi)

theorem permute_range {α : Type} : ∀ (l : List α), permute l (List.range l.length) = l
  | [] => rfl
  | a :: l => by
    rw [permute, List.length_cons, List.range_succ_eq_map, List.filterMap_cons, List.filterMap_map]
    exact congrArg _ (permute_range l)

theorem permute_perm {α : Type} {xs : List α} {perm : List Nat} (h : IsPermOf perm xs.length) :
    (permute xs perm).Perm xs :=
  (h.filterMap _).trans (.of_eq (permute_range xs))

theorem length_permute {α : Type} (xs : List α) (perm : List Nat) (h : IsPermOf perm xs.length) :
    (permute xs perm).length = xs.length :=
  (permute_perm h).length_eq

/-- the renaming induced by the reordering: new position ↦ old position -/
def permFun (perm : List Nat) (j : Nat) : Nat := (perm[j]?).getD 0

-- `injOn_getD` and `sectionsFrom_permute` are stated for the lookup `fun j => (p[j]?).getD 0` in any list of
-- positions `p`: it is `permFun perm` for a reordering and `up n pos` for a removal (`p = others n pos`)
theorem injOn_getD (eps : List Ep) {p : List Nat} (hnd : p.Nodup) :
    InjOn (fun j => (p[j]?).getD 0) (mkRing (permute eps p)) := by
  intro s hs t ht he
  -- the selection has at most as many endpoints as `p` has positions
  have hs' : s.ep < p.length := Nat.lt_of_lt_of_le (mkRing_ep hs) (List.length_filterMap_le _ p)
  have ht' : t.ep < p.length := Nat.lt_of_lt_of_le (mkRing_ep ht) (List.length_filterMap_le _ p)
  simp only [List.getElem?_eq_getElem hs', List.getElem?_eq_getElem ht', Option.getD_some] at he
  exact (List.getElem_inj hnd).mp he

theorem injOn_permFun (eps : List Ep) (perm : List Nat) (h : IsPermOf perm eps.length) :
    InjOn (permFun perm) (mkRing (permute eps perm)) :=
  injOn_getD eps (h.nodup_iff.mpr List.nodup_range)

/-- the sections of the endpoint at position `i`, in the order of its hashes -/
def blockAt (eps : List Ep) (i : Nat) : List Sec :=
  match eps[i]? with
  | some e => e.hashes.map fun h => { hash := h, ep := i, az := e.az }
  | none => []

theorem blockAt_succ (e : Ep) (es : List Ep) (i : Nat) :
    blockAt (e :: es) (i + 1) = (blockAt es i).map (ren (· + 1)) := by
  rw [blockAt, blockAt, List.getElem?_cons_succ]
  cases es[i]? with
  | none => rfl
  | some e' => rw [List.map_map]; rfl

theorem sectionsFrom_zero_eq : ∀ (eps : List Ep), sectionsFrom 0 eps = (List.range eps.length).flatMap (blockAt eps)
  | [] => rfl
  | e :: es => by
    rw [sectionsFrom, sectionsFrom_succ, sectionsFrom_zero_eq es, List.length_cons, List.range_succ_eq_map,
      List.flatMap_cons, List.flatMap_map, List.map_flatMap]
    exact congrArg _ (flatMap_congr fun i _ => (blockAt_succ e es i).symm)

theorem sectionsFrom_permute (eps : List Ep) : ∀ (p : List Nat), (∀ i ∈ p, i < eps.length) →
    (sectionsFrom 0 (permute eps p)).map (ren fun j => (p[j]?).getD 0) = p.flatMap (blockAt eps)
  | [], _ => rfl
  | a :: q, hall => by
    have ha : a < eps.length := hall a List.mem_cons_self
    have he : eps[a]? = some eps[a] := List.getElem?_eq_getElem ha
    rw [permute, List.filterMap_cons_some he, sectionsFrom, sectionsFrom_succ, List.map_append, List.map_map,
      List.map_map, List.flatMap_cons, ← sectionsFrom_permute eps q fun i hi => hall i (List.mem_cons_of_mem _ hi),
      blockAt, he]
    rfl

theorem mkRing_permute (eps : List Ep) (perm : List Nat) (h : IsPermOf perm eps.length) (hnt : NoTies eps) :
    (mkRing (permute eps perm)).map (ren (permFun perm)) = mkRing eps := by
  have hsec : ((sectionsFrom 0 (permute eps perm)).map (ren (permFun perm))).Perm (sectionsFrom 0 eps) := by
    rw [sectionsFrom_zero_eq eps]
    exact (List.Perm.of_eq (sectionsFrom_permute eps perm h.lt)).trans (List.Perm.flatMap_right _ h)
  exact eq_of_perm_of_sorted ((((mkRing_perm _).map _).trans hsec).trans (mkRing_perm eps).symm)
    (List.pairwise_map.mpr (pairwise_mkRing _)) (pairwise_mkRing eps) (hash_inj_mkRing hnt)

/-- the positions below `n` other than `pos`, ascending: `eraseIdx pos` as a selection of positions -/
def others (n pos : Nat) : List Nat := (List.range n).filter (· != pos)

theorem others_zero (n : Nat) : others (n + 1) 0 = (List.range n).map Nat.succ := by
  rw [others, List.range_succ_eq_map, List.filter_cons_of_neg (by simp), List.filter_map]
  exact congrArg _ (List.filter_eq_self.mpr fun _ _ => rfl)

theorem others_succ (n pos : Nat) : others (n + 1) (pos + 1) = 0 :: (others n pos).map Nat.succ := by
  simp [others, List.range_succ_eq_map, List.filter_map, Function.comp_def]

theorem eraseIdx_eq_permute {α : Type} : ∀ (l : List α) (pos : Nat), l.eraseIdx pos = permute l (others l.length pos)
  | [], _ => rfl
  | a :: l, 0 => by
    rw [permute, List.length_cons, others_zero, List.filterMap_map]
    exact (permute_range l).symm
  | a :: l, pos + 1 => by
    rw [permute, List.length_cons, others_succ, List.filterMap_cons, List.filterMap_map, List.eraseIdx_cons_succ,
      eraseIdx_eq_permute l pos]
    rfl

theorem others_lt {n pos i : Nat} (h : i ∈ others n pos) : i < n ∧ i ≠ pos := by
  simp only [others, List.mem_filter, List.mem_range, bne_iff_ne, ne_eq] at h
  exact h

/-- position in `eps.eraseIdx pos` ↦ position in `eps` (`n = eps.length`) -/
def up (n pos : Nat) (j : Nat) : Nat := ((others n pos)[j]?).getD 0

theorem blockAt_ep {eps : List Ep} {i : Nat} {s : Sec} (h : s ∈ blockAt eps i) : s.ep = i := by
  unfold blockAt at h
  cases he : eps[i]? with
  | none => simp [he] at h
  | some e => simp only [he, List.mem_map] at h; obtain ⟨_, _, rfl⟩ := h; rfl

theorem filter_flatMap_blockAt (eps : List Ep) (pos : Nat) : ∀ (l : List Nat),
    (l.flatMap (blockAt eps)).filter (fun s => s.ep != pos) = (l.filter (· != pos)).flatMap (blockAt eps)
  | [] => rfl
  | i :: l => by
    rw [List.flatMap_cons, List.filter_append, filter_flatMap_blockAt eps pos l, List.filter_cons]
    by_cases h : i = pos
    · rw [if_neg (by simp [h]), List.filter_eq_nil_iff.mpr fun s hs => by simp [blockAt_ep hs, h], List.nil_append]
    · rw [if_pos (by simp [h]), List.flatMap_cons, List.filter_eq_self.mpr fun s hs => by simp [blockAt_ep hs, h]]

theorem sectionsFrom_eraseIdx (eps : List Ep) (pos : Nat) :
    (sectionsFrom 0 (eps.eraseIdx pos)).map (ren (up eps.length pos)) = without pos (sectionsFrom 0 eps) := by
  rw [eraseIdx_eq_permute, sectionsFrom_zero_eq eps, without, filter_flatMap_blockAt]
  exact sectionsFrom_permute eps _ fun _ hi => (others_lt hi).1

theorem mkRing_eraseIdx (eps : List Ep) (pos : Nat) (hnt : NoTies eps) :
    (mkRing (eps.eraseIdx pos)).map (ren (up eps.length pos)) = without pos (mkRing eps) := by
  have hp : ((mkRing (eps.eraseIdx pos)).map (ren (up eps.length pos))).Perm (without pos (mkRing eps)) := by
    have h1 := (mkRing_perm (eps.eraseIdx pos)).map (ren (up eps.length pos))
    rw [sectionsFrom_eraseIdx] at h1
    exact h1.trans ((mkRing_perm eps).filter _).symm
  exact eq_of_perm_of_sorted hp (List.pairwise_map.mpr (pairwise_mkRing _)) ((pairwise_mkRing eps).filter _)
    fun a ha b hb => hash_inj_mkRing hnt a (List.mem_filter.mp ha).1 b (List.mem_filter.mp hb).1

theorem injOn_up (eps : List Ep) (pos : Nat) : InjOn (up eps.length pos) (mkRing (eps.eraseIdx pos)) :=
  eraseIdx_eq_permute eps pos ▸ injOn_getD eps (List.nodup_range.filter _)

-- The five facts below have no user in the development: they are stated for their own sake.

/-- `eq_of_perm_of_sorted` for duplicate-free lists given by their elements -/
theorem sorted_eq_of_mem_iff {l₁ l₂ : List Sec} (h1 : l₁.Pairwise (fun a b => hashLe a b = true))
    (h2 : l₂.Pairwise (fun a b => hashLe a b = true)) (n1 : l₁.Nodup) (n2 : l₂.Nodup)
    (hmem : ∀ s, s ∈ l₁ ↔ s ∈ l₂) (hinj : ∀ s ∈ l₁, ∀ t ∈ l₁, s.hash = t.hash → s = t) : l₁ = l₂ :=
  eq_of_perm_of_sorted ((List.perm_ext_iff_of_nodup n1 n2).mpr hmem) h1 h2
    fun s hs t ht => hinj s ((hmem s).mpr hs) t ((hmem t).mpr ht)

theorem nodup_mkRing {eps : List Ep} (h : NoTies eps) : (mkRing eps).Nodup :=
  (mkRing_perm eps).nodup_iff.mpr (List.Pairwise.of_map _ (fun _ _ n e => n (congrArg _ e)) h)

theorem permute_getElem? {α : Type} (xs : List α) (perm : List Nat) (hall : ∀ i ∈ perm, i < xs.length) (j : Nat) :
    (permute xs perm)[j]? = (perm[j]?).bind (xs[·]?) := by
  induction perm generalizing j with
  | nil => rfl
  | cons a p ih =>
    have ha : a < xs.length := hall a List.mem_cons_self
    rw [permute, List.filterMap_cons_some (List.getElem?_eq_getElem ha)]
    cases j with
    | zero => exact (List.getElem?_eq_getElem ha).symm
    | succ j => exact ih (fun i hi => hall i (List.mem_cons_of_mem _ hi)) j

theorem length_permute_of_lt {α : Type} {xs : List α} : ∀ {p : List Nat}, (∀ i ∈ p, i < xs.length) →
    (permute xs p).length = p.length
  | [], _ => rfl
  | a :: p, hall => by
    have ha : a < xs.length := hall a List.mem_cons_self
    rw [permute, List.filterMap_cons_some (List.getElem?_eq_getElem ha), List.length_cons, List.length_cons]
    exact congrArg _ (length_permute_of_lt fun i hi => hall i (List.mem_cons_of_mem _ hi))

theorem noTies_sublist_hash {l l' : List Sec} (h : (l.map (·.hash)).Nodup) (hs : l'.Sublist l) : (l'.map (·.hash)).Nodup :=
  h.sublist (hs.map _)

end Thanos.Hashring
