import Thanos.Model.Hashring
import Thanos.Lemmas.Hashring
/-
  The replica loop with the zone rule off (at most one configured zone) is the specification
  `pick`: scan the sections from the cursor once around the ring and keep the first `rf` with
  pairwise different endpoints (`loop_single_zone_any`; for a series hash, `replicasOfSeries_single`).  For C20: how
  `pick` and the search start of `GetN` behave when the sections of one endpoint are removed from the ring
  (`without`: `pick_without_prefix`, `pick_without_eq`, and on a `SortedRing` `pick_searchSuffix_without`).
-/
namespace Thanos.Hashring

theorem pick_of_le {rf : Nat} {chosen : List Sec} (h : rf ≤ chosen.length) : ∀ l, pick rf l chosen = chosen
  | [] => rfl
  | _ :: _ => by rw [pick, if_pos h]

theorem pick_cons_taken {rf : Nat} {s : Sec} {c : List Sec} (ht : taken c s.ep = true) (l : List Sec) :
    pick rf (s :: l) c = pick rf l c := by
  by_cases h : rf ≤ c.length
  · rw [pick_of_le h, pick_of_le h]
  · rw [pick, if_neg h, if_pos ht]

theorem pick_cons_free {rf : Nat} {s : Sec} {c : List Sec} (h : c.length < rf) (ht : taken c s.ep = false)
    (l : List Sec) : pick rf (s :: l) c = pick rf l (c ++ [s]) := by
  rw [pick, if_neg (Nat.not_le.mpr h), ht, if_neg Bool.false_ne_true]

theorem prefix_pick (rf : Nat) (l chosen : List Sec) : chosen <+: pick rf l chosen := by
  -- the arms of `pick`: no section left; `rf` reached; endpoint taken (section passed over); endpoint free (chosen)
  fun_induction pick rf l chosen with
  | case1 => exact List.prefix_refl _
  | case2 => exact List.prefix_refl _
  | case3 _ _ _ _ _ ih => exact ih
  | case4 s _ chosen _ _ ih => exact (List.prefix_append chosen [s]).trans ih

theorem pick_append (rf : Nat) (l m chosen : List Sec) :
    pick rf (l ++ m) chosen = pick rf m (pick rf l chosen) := by
  fun_induction pick rf l chosen with
  | case1 => rfl
  | case2 _ _ _ h => rw [List.cons_append, pick_of_le h, pick_of_le h]
  | case3 _ _ _ _ ht ih => rw [List.cons_append, pick_cons_taken ht, ih]
  | case4 _ _ _ h ht ih =>
    rw [List.cons_append, pick_cons_free (Nat.lt_of_not_le h) (Bool.eq_false_iff.mpr ht), ih]

theorem taken_of_prefix {c c' : List Sec} (h : c <+: c') {e : Nat} (ht : taken c e = true) : taken c' e = true := by
  obtain ⟨t, rfl⟩ := h
  simp only [taken, List.any_append, Bool.or_eq_true] at ht ⊢
  exact Or.inl ht

theorem taken_concat_self (c : List Sec) (s : Sec) : taken (c ++ [s]) s.ep = true := by
  simp [taken]

theorem pick_covers (rf : Nat) (l chosen : List Sec) : ∀ s ∈ l,
    rf ≤ (pick rf l chosen).length ∨ taken (pick rf l chosen) s.ep = true := by
  fun_induction pick rf l chosen with
  | case1 => nofun
  | case2 _ _ _ h => exact fun _ _ => Or.inl h
  | case3 a l chosen _ ht ih =>
    intro s hs
    rcases List.mem_cons.mp hs with rfl | hs
    · exact Or.inr (taken_of_prefix (prefix_pick rf l chosen) ht)
    · exact ih s hs
  | case4 a l chosen _ _ ih =>
    intro s hs
    rcases List.mem_cons.mp hs with rfl | hs
    · exact Or.inr (taken_of_prefix (prefix_pick rf l _) (taken_concat_self chosen s))
    · exact ih s hs

theorem pick_of_covered (rf : Nat) : ∀ (m c : List Sec),
    (∀ s ∈ m, rf ≤ c.length ∨ taken c s.ep = true) → pick rf m c = c
  | [], _, _ => rfl
  | a :: m, c, h => by
    rcases h a List.mem_cons_self with h1 | h1
    · exact pick_of_le h1 _
    · rw [pick_cons_taken h1]
      exact pick_of_covered rf m c fun s hs => h s (List.mem_cons_of_mem _ hs)

theorem pick_twice (rf : Nat) (l m chosen : List Sec) (hm : ∀ s ∈ m, taken chosen s.ep = true ∨ s ∈ l) :
    pick rf (l ++ m) chosen = pick rf l chosen := by
  rw [pick_append]
  refine pick_of_covered rf m _ fun s hs => ?_
  rcases hm s hs with h | h
  · exact Or.inr (taken_of_prefix (prefix_pick rf l chosen) h)
  · exact pick_covers rf l chosen s h

theorem skipAZ_single {zones : List Nat} (hz : zones.length ≤ 1) (chosen : List Sec) (rep : Sec) :
    skipAZ zones chosen rep = false := by
  simp [skipAZ, Nat.not_lt.mpr hz]

/-- one cursor step of the scan `rest ++ ring`: the section under the cursor is dealt with (`hstep`)
    and then covered, so meeting it again at the end of the lap changes nothing -/
theorem pick_cursor {rf : Nat} {ring rest rest' : List Sec} {rep : Sec} {c c' : List Sec}
    (hc : cursor ring rest = some (rep, rest')) (hstep : ∀ l, pick rf (rep :: l) c = pick rf l c')
    (ht : taken c' rep.ep = true) : pick rf (rest ++ ring) c = pick rf (rest' ++ ring) c' := by
  rcases cursor_eq_some.mp hc with rfl | ⟨rfl, rfl⟩
  · rw [List.cons_append, hstep]
  · rw [List.nil_append, hstep, pick_twice]
    exact fun s hs => (List.mem_cons.mp hs).imp (fun e => by rw [e]; exact ht) id

/-- the scan is of `rest ++ ring`, wherever the cursor `rest` comes from -/
theorem loop_single_zone_any {ring : List Sec} {n : Nat} {zones : List Nat} {rf : Nat} (hz : zones.length ≤ 1)
    {fuel : Nat} {rest : List Sec} {skipped : Nat} {chosen : List Sec} {reps : List Nat}
    (e : loop false ring n zones rf fuel rest skipped chosen = .ok reps) :
    reps = (pick rf (rest ++ ring) chosen).map (·.ep) := by
  induction fuel, rest, skipped, chosen using loop_induct with
  | zero | lap | oob => cases e
  | done h => rw [pick_of_le h]; exact (Res.ok.inj e).symm
  | skip _ _ hc hs ih =>
    have ht := hs.resolve_right (by rw [skipAZ_single hz]; exact Bool.false_ne_true)
    rw [pick_cursor hc (pick_cons_taken ht) ht]
    exact ih e
  | add h _ hc ht _ ih =>
    rw [pick_cursor hc (pick_cons_free h ht) (taken_concat_self _ _)]
    exact ih e

/-- `loop_single_zone_any` with a hypothesis on the cursor that it does not need -/
theorem loop_single_zone (ring : List Sec) (n : Nat) (zones : List Nat) (rf : Nat) (hz : zones.length ≤ 1) :
    ∀ (fuel : Nat) (rest : List Sec) (skipped : Nat) (chosen : List Sec) (reps : List Nat),
      (∀ s ∈ rest, s ∈ ring) →
      loop false ring n zones rf fuel rest skipped chosen = .ok reps →
      reps = (pick rf (rest ++ ring) chosen).map (·.ep) :=
  fun _ _ _ _ _ _ => loop_single_zone_any hz

def without (x : Nat) (l : List Sec) : List Sec := l.filter (fun s => s.ep != x)

theorem without_nil (x : Nat) : without x [] = [] := rfl

theorem without_cons_of_eq {x : Nat} {s : Sec} (h : s.ep = x) (l : List Sec) : without x (s :: l) = without x l := by
  simp [without, h]

theorem without_cons_of_ne {x : Nat} {s : Sec} (h : s.ep ≠ x) (l : List Sec) :
    without x (s :: l) = s :: without x l := by
  simp [without, h]

theorem without_append (x : Nat) (a b : List Sec) : without x (a ++ b) = without x a ++ without x b :=
  List.filter_append ..

theorem length_without_le (x : Nat) (c : List Sec) : (without x c).length ≤ c.length :=
  List.length_filter_le _ _

theorem taken_without (x : Nat) (c : List Sec) {e : Nat} (he : e ≠ x) : taken (without x c) e = taken c e := by
  rw [taken, without, List.any_filter]
  refine congrArg c.any (funext fun a => ?_)
  by_cases h : a.ep = e
  · simp [h, he]
  · simp [h]

theorem pick_without_prefix (rf x : Nat) (l c : List Sec) :
    without x (pick rf l c) <+: pick rf (without x l) (without x c) := by
  fun_induction pick rf l c with
  | case1 => exact List.prefix_refl _
  | case2 => exact prefix_pick rf _ _
  | case3 s l c _ ht ih =>
    by_cases hx : s.ep = x
    · rwa [without_cons_of_eq hx]
    · rwa [without_cons_of_ne hx, pick_cons_taken (by rwa [taken_without x c hx])]
  | case4 s l c h ht ih =>
    rw [without_append] at ih
    by_cases hx : s.ep = x
    · rw [without_cons_of_eq hx]
      rwa [without_cons_of_eq hx, without_nil, List.append_nil] at ih
    · rw [without_cons_of_ne hx] at ih ⊢
      rwa [pick_cons_free (Nat.lt_of_le_of_lt (length_without_le x c) (Nat.lt_of_not_le h))
        (by rw [taken_without x c hx]; exact Bool.eq_false_iff.mpr ht)]

theorem pick_without_eq (rf x : Nat) (l c : List Sec) :
    taken (pick rf l c) x = false → pick rf l c = pick rf (without x l) c := by
  fun_induction pick rf l c with
  | case1 => exact fun _ => rfl
  | case2 _ _ _ h => exact fun _ => (pick_of_le h _).symm
  | case3 s l c _ ht ih =>
    intro h
    by_cases hx : s.ep = x
    · rw [without_cons_of_eq hx]; exact ih h
    · rw [without_cons_of_ne hx, pick_cons_taken ht]; exact ih h
  | case4 s l c h ht ih =>
    intro hn
    by_cases hx : s.ep = x
    · -- `s` (an `x` section) is picked: contradiction
      rw [taken_of_prefix (prefix_pick rf l (c ++ [s])) (hx ▸ taken_concat_self c s)] at hn
      cases hn
    · rw [without_cons_of_ne hx, pick_cons_free (Nat.lt_of_not_le h) (Bool.eq_false_iff.mpr ht)]
      exact ih hn

theorem searchSuffix_subset {v : Nat} {ring : List Sec} : ∀ s ∈ searchSuffix v ring, s ∈ ring := by
  intro s hs
  rw [searchSuffix] at hs
  split at hs
  · exact hs
  · rename_i heq
    exact (List.dropWhile_sublist _).subset (heq ▸ hs)

/-- sorted by section hash, as a proposition on `Nat`; `mkRing eps` is (`mkRing_sorted`, from `pairwise_mkRing`, which says
    the same with the Boolean `hashLe`) -/
def SortedRing (ring : List Sec) : Prop := ring.Pairwise (fun a b => a.hash ≤ b.hash)

theorem sortedRing_without (x : Nat) {ring : List Sec} (h : SortedRing ring) : SortedRing (without x ring) :=
  List.Pairwise.filter _ h

theorem dropWhile_without (x v : Nat) {ring : List Sec} (hs : SortedRing ring) :
    without x (ring.dropWhile (fun s => decide (s.hash < v))) =
      (without x ring).dropWhile (fun s => decide (s.hash < v)) := by
  -- on a sorted ring the search start is a filter, and filters commute
  have flt : ∀ {r : List Sec}, SortedRing r →
      r.dropWhile (fun s => decide (s.hash < v)) = r.filter (fun s => !decide (s.hash < v)) := fun h =>
    dropWhile_eq_filter_not h fun a b hab ha => decide_eq_false (by have := of_decide_eq_false ha; omega)
  rw [flt hs, flt (sortedRing_without x hs), without, without, List.filter_filter, List.filter_filter]
  exact List.filter_congr fun _ _ => Bool.and_comm _ _

theorem replicasOfSeries_single (lc : Bool) (ring : List Sec) (zones : List Nat) (rf v : Nat)
    (hz : zones.length ≤ 1) (reps : List Nat) (h : replicasOfSeries lc ring zones rf v = .ok reps) :
    reps = (pick rf (searchSuffix v ring ++ ring) []).map (·.ep) := by
  have h' : loop false ring ring.length zones rf (fuelBound ring.length rf) (searchSuffix v ring) 0 [] = .ok reps := by
    cases lc with
    | false => exact h
    | true => exact loop_ok_unrepaired h
  exact loop_single_zone_any hz h'

theorem pick_searchSuffix_without (rf x v : Nat) (ring' : List Sec) (hs : SortedRing ring') :
    pick rf (searchSuffix v (without x ring') ++ without x ring') [] =
      pick rf (without x (searchSuffix v ring' ++ ring')) [] := by
  have hd := dropWhile_without x v hs
  rw [without_append, searchSuffix, searchSuffix, ← hd]
  cases ring'.dropWhile (fun s => decide (s.hash < v)) with
  | nil => rfl
  | cons a l =>
    dsimp only
    cases without x (a :: l) with
    | nil =>
      -- every section from the search position on belongs to `x`: the smaller ring wraps
      exact pick_twice rf _ _ [] (fun s hs => Or.inr hs)
    | cons b m => rfl

-- no user in the development; core's `List.IsPrefix.length_le` for lists of sections
theorem length_le_of_prefix {c c' : List Sec} (h : c <+: c') : c.length ≤ c'.length := h.length_le

end Thanos.Hashring
