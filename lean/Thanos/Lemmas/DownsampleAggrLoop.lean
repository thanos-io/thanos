import Thanos.Lemmas.DownsampleAggr
import Thanos.Lemmas.DownsampleRaw
/-
  Shared by C36, C37 and C38.  `WFChunks` says what a well-formed list of aggregate chunks is: Props/C36.lean proves
  it of the output of DownsampleRaw, and it is the hypothesis of C38.  genericAggregate is read through `bOut` for
  any part (`genericAggregate_bOut`); on `WFChunks` its buffer is the part's samples and meets `BatchOK`
  (`genericAggregate_wf`); so one output chunk of downsampleFloatAggrBatch conserves the totals of its part
  (`part_conserves`), and the loop of downsampleAggrLoop adds these up (`AggrConserves.append`, `aggrLoop_conserves`,
  used by Props/C38.lean).  When the loop ends and when it spins: `aggrLoop_progress`, `aggrLoop_zero_hang`.
-/
namespace Thanos.Downsample

/-- `vals l` and `tss l` unfold to `l.map (·.2)` and `l.map (·.1)`, the spelling of `Totals`, `WFChunks` and `C38_holds`;
    the proofs pass between the two by `rfl` -/
def vals (l : List Pt) : List Int := l.map (·.2)
def tss (l : List Pt) : List Int := l.map (·.1)

theorem batchOK_of_sorted (buf : List Pt) (hne : buf ≠ []) (hs : (buf.map (·.1)).Pairwise (· < ·))
    (h0 : ∀ t ∈ buf.map (·.1), 0 ≤ t) : ∃ t0 lastT, BatchOK buf t0 lastT := by
  obtain ⟨p, rest, rfl⟩ := List.exists_cons_of_ne_nil hne
  refine ⟨p.1, _, ⟨p.2, rfl⟩, ⟨_, List.getLast?_cons⟩, fun q hq => ⟨?_, ?_⟩⟩
  · have := h0 q.1 (List.mem_map_of_mem hq)
    have := minInt64_eq
    omega
  · exact le_getLast_of_pairwise ((List.pairwise_map.mp hs).imp Int.le_of_lt) List.getLast?_cons q hq

theorem BatchOK.mem {d : List Pt} {t0 lastT : Int} (h : BatchOK d t0 lastT) : t0 ∈ tss d ∧ lastT ∈ tss d := by
  obtain ⟨v0, hh⟩ := h.head
  obtain ⟨lv, hl⟩ := h.last
  exact ⟨List.mem_map_of_mem (List.mem_of_mem_head? hh), List.mem_map_of_mem (List.mem_of_getLast? hl)⟩

theorem expandXor_id (l : List Pt) (lastT : Int) (hs : Sorted l) (hb : ∀ p ∈ l, lastT ≤ p.1) : expandXor l lastT = l := by
  -- arms: end of data; sample kept (`t ≥ lastT`); sample skipped
  fun_induction expandXor l lastT with
  | case1 => rfl
  | case2 t v rest lastT _ ih =>
    have hs' := List.pairwise_cons.mp hs
    rw [ih hs'.2 fun p hp => Int.le_of_lt (hs'.1 p hp)]
  | case3 t v rest lastT h => exact absurd (hb _ List.mem_cons_self) h

/-- `ne`, `sumT`, `minT`, `maxT` are what `ChunkLayout` has of them; `minFin`, `maxFin`: `Totals.min`/`.max` conserve
    the extrema of finite values only (an aggregator starts from ±MaxFloat64) -/
structure WFChunk (c : Chunk) : Prop where
  ne : c.count ≠ []
  sumT : c.sum.map (·.1) = c.count.map (·.1)
  minT : c.min.map (·.1) = c.count.map (·.1)
  maxT : c.max.map (·.1) = c.count.map (·.1)
  minFin : ∀ p ∈ c.min, p.2 ≤ maxFloat
  maxFin : ∀ p ∈ c.max, -maxFloat ≤ p.2

/-- aggregate chunks as DownsampleRaw produces them: per chunk the four aggregates share their
    timestamps; over the series the timestamps strictly increase, are ≥ 0 and below MaxInt64 -/
structure WFChunks (chks : List Chunk) : Prop where
  each : ∀ c ∈ chks, WFChunk c
  sorted : ((chks.flatMap (·.count)).map (·.1)).Pairwise (· < ·)
  range : ∀ t ∈ (chks.flatMap (·.count)).map (·.1), 0 ≤ t ∧ t < maxInt64

theorem WFChunks.append {a b : List Chunk} (h : WFChunks (a ++ b)) : WFChunks a ∧ WFChunks b ∧
    ∀ t1 ∈ (a.flatMap (·.count)).map (·.1), ∀ t2 ∈ (b.flatMap (·.count)).map (·.1), t1 < t2 := by
  have hs := h.sorted
  simp only [List.flatMap_append, List.map_append] at hs
  have hp := List.pairwise_append.mp hs
  refine ⟨⟨fun c hc => h.each c (List.mem_append_left _ hc), hp.1, fun t ht => h.range t ?_⟩,
    ⟨fun c hc => h.each c (List.mem_append_right _ hc), hp.2.1, fun t ht => h.range t ?_⟩, hp.2.2⟩
  · simp only [List.flatMap_append, List.map_append]; exact List.mem_append_left _ ht
  · simp only [List.flatMap_append, List.map_append]; exact List.mem_append_right _ ht

/-- whatever the part, the samples returned are those of `bOut` on the expanded buffer and the range returned
    encloses their timestamps (on an empty buffer: nothing, and `0, 0`) -/
theorem genericAggregate_bOut (sel : Chunk → List Pt) (f : Agg → Int) (part : List Chunk) (r : Int) :
    (genericAggregate sel f part r).2.2 =
      (bOut r (part.flatMap fun c => expandXor (sel c) 0)).map (fun e => (e.1, f e.2)) ∧
    ∀ t ∈ (bOut r (part.flatMap fun c => expandXor (sel c) 0)).map (·.1),
      (genericAggregate sel f part r).1 ≤ t ∧ t ≤ (genericAggregate sel f part r).2.1 := by
  cases h : downsampleBatch (part.flatMap fun c => expandXor (sel c) 0) r with
  | none =>
    simp only [genericAggregate, bOut, h]
    exact ⟨rfl, fun _ h => nomatch h⟩
  | some o =>
    simp only [genericAggregate, bOut, h, true_and]
    exact fun t ht => ⟨(foldMint_le _ _).2 t ht, (foldMaxt_ge _ _).2 t ht⟩

/-- in a well-formed part nothing is skipped by expandXorChunkIterator -/
theorem expand_part (sel : Chunk → List Pt) (part : List Chunk)
    (hsel : ∀ c ∈ part, (sel c).map (·.1) = c.count.map (·.1)) (hwf : WFChunks part) :
    (part.flatMap fun c => expandXor (sel c) 0) = part.flatMap sel := by
  refine flatMap_congr fun c hc => ?_
  -- the timestamps of `c` are a piece of the part's, which strictly increase from 0 on
  have hsub : ((sel c).map (·.1)).Sublist ((part.flatMap (·.count)).map (·.1)) := by
    rw [hsel c hc, List.flatMap_def]
    exact (List.sublist_flatten_of_mem (List.mem_map_of_mem hc)).map _
  exact expandXor_id _ 0 (List.pairwise_map.mp (hwf.sorted.sublist hsub))
    fun p hp => (hwf.range p.1 (hsub.subset (List.mem_map_of_mem hp))).1

/-- `sel`: an aggregate that shares the count aggregate's timestamps; the result is read off `bOut`, at the
    timestamps emitted for the count aggregate -/
theorem genericAggregate_wf (sel : Chunk → List Pt) (f : Agg → Int) (part : List Chunk) (r : Int)
    (hne : part ≠ []) (hwf : WFChunks part) (hsel : ∀ c ∈ part, (sel c).map (·.1) = c.count.map (·.1)) :
    ∃ t0 lastT, BatchOK (part.flatMap sel) t0 lastT ∧
      (∀ t ∈ (bOut r (part.flatMap sel)).map (·.1),
        (genericAggregate sel f part r).1 ≤ t ∧ t ≤ (genericAggregate sel f part r).2.1) ∧
      vals (genericAggregate sel f part r).2.2 = (bOut r (part.flatMap sel)).map (fun e => f e.2) ∧
      tss (genericAggregate sel f part r).2.2 = (bOut r (part.flatMap (·.count))).map (·.1) := by
  have hts := flatMap_ts_eq sel part hsel
  have hbufne : part.flatMap sel ≠ [] := by
    obtain ⟨c, cs, rfl⟩ := List.exists_cons_of_ne_nil hne
    intro h
    rw [h, List.map_nil, List.flatMap_cons, List.map_append] at hts
    exact (hwf.each c List.mem_cons_self).ne (List.map_eq_nil_iff.mp (List.append_eq_nil_iff.mp hts.symm).1)
  obtain ⟨t0, lastT, ok⟩ :=
    batchOK_of_sorted _ hbufne (hts ▸ hwf.sorted) (fun t ht => (hwf.range t (hts ▸ ht)).1)
  obtain ⟨hg, hrng⟩ := genericAggregate_bOut sel f part r
  rw [expand_part sel part hsel hwf] at hg hrng
  refine ⟨t0, lastT, ok, hrng, ?_, ?_⟩
  · rw [hg]
    exact List.map_map
  · rw [hg]
    exact List.map_map.trans (bOut_ts_congr r _ _ hts)

theorem lower_le_left (a b : Int) : lower a b ≤ a := by unfold lower; split <;> omega
theorem lower_le_right (a b : Int) : lower a b ≤ b := by unfold lower; split <;> omega
theorem upper_ge_left (a b : Int) : a ≤ upper a b := by unfold upper; split <;> omega
theorem upper_ge_right (a b : Int) : b ≤ upper a b := by unfold upper; split <;> omega

theorem floatAggrBatch_fields (part : List Chunk) (r : Int) :
    (floatAggrBatch part r).count = (genericAggregate (·.count) (·.sum) part r).2.2 ∧
    (floatAggrBatch part r).sum = (genericAggregate (·.sum) (·.sum) part r).2.2 ∧
    (floatAggrBatch part r).min = (genericAggregate (·.min) (·.min) part r).2.2 ∧
    (floatAggrBatch part r).max = (genericAggregate (·.max) (·.max) part r).2.2 ∧
    (floatAggrBatch part r).mint ≤ (genericAggregate (·.count) (·.sum) part r).1 ∧
    (genericAggregate (·.count) (·.sum) part r).2.1 ≤ (floatAggrBatch part r).maxt := by
  unfold floatAggrBatch
  rcases h1 : genericAggregate (·.count) (·.sum) part r with ⟨m1, x1, cnt⟩
  rcases h2 : genericAggregate (·.sum) (·.sum) part r with ⟨m2, x2, sm⟩
  rcases h3 : genericAggregate (·.min) (·.min) part r with ⟨m3, x3, mn⟩
  rcases h4 : genericAggregate (·.max) (·.max) part r with ⟨m4, x4, mx⟩
  simp only
  have hm : lower m4 (lower m3 (lower m2 (lower m1 maxInt64))) ≤ m1 :=
    Int.le_trans (lower_le_right _ _) (Int.le_trans (lower_le_right _ _) (Int.le_trans (lower_le_right _ _) (lower_le_left _ _)))
  have hx : x1 ≤ upper x4 (upper x3 (upper x2 (upper x1 minInt64))) :=
    Int.le_trans (upper_ge_left _ _) (Int.le_trans (upper_ge_right _ _) (Int.le_trans (upper_ge_right _ _) (upper_ge_right _ _)))
  -- with a counter aggregate the range is widened once more, over the counter's timestamps
  split
  · refine ⟨rfl, rfl, rfl, rfl, ?_, ?_⟩
    · exact Int.le_trans (foldMint_le _ _).1 hm
    · exact Int.le_trans hx (foldMaxt_ge _ _).1
  · exact ⟨rfl, rfl, rfl, rfl, hm, hx⟩

/-- `C38_holds` (Props/C38.lean) in the form that adds up over the loop: the extrema as folds from every start,
    the span by two timestamps of the input -/
structure AggrConserves (inp out : List Chunk) : Prop where
  count : (vals (out.flatMap (·.count))).sum = (vals (inp.flatMap (·.count))).sum
  sum : (vals (out.flatMap (·.sum))).sum = (vals (inp.flatMap (·.sum))).sum
  min : ∀ M, (vals (out.flatMap (·.min))).foldl min M = (vals (inp.flatMap (·.min))).foldl min M
  max : ∀ M, (vals (out.flatMap (·.max))).foldl max M = (vals (inp.flatMap (·.max))).foldl max M
  tsEq : ∀ c ∈ out, tss c.sum = tss c.count ∧ tss c.min = tss c.count ∧ tss c.max = tss c.count ∧ c.count ≠ []
  tsSorted : (tss (out.flatMap (·.count))).Pairwise (· < ·)
  tsSpan : ∀ t ∈ tss (out.flatMap (·.count)), ∃ lo ∈ tss (inp.flatMap (·.count)), ∃ hi ∈ tss (inp.flatMap (·.count)), lo ≤ t ∧ t ≤ hi

/-- one output chunk of downsampleFloatAggrBatch; the two inequalities are the range test of the loop -/
theorem part_conserves (r : Int) (hr : 0 < r) (part : List Chunk) (hne : part ≠ []) (hwf : WFChunks part) :
    AggrConserves part [floatAggrBatch part r] ∧
    (floatAggrBatch part r).mint ≠ maxInt64 ∧ (floatAggrBatch part r).maxt ≠ minInt64 := by
  obtain ⟨f1, f2, f3, f4, f5, f6⟩ := floatAggrBatch_fields part r
  obtain ⟨t0, lastT, okC, rC, vC, tC⟩ :=
    genericAggregate_wf (·.count) (·.sum) part r hne hwf (fun _ _ => rfl)
  obtain ⟨_, _, okS, _, vS, tS⟩ :=
    genericAggregate_wf (·.sum) (·.sum) part r hne hwf (fun c hc => (hwf.each c hc).sumT)
  obtain ⟨_, _, okN, _, vN, tN⟩ :=
    genericAggregate_wf (·.min) (·.min) part r hne hwf (fun c hc => (hwf.each c hc).minT)
  obtain ⟨_, _, okX, _, vX, tX⟩ :=
    genericAggregate_wf (·.max) (·.max) part r hne hwf (fun c hc => (hwf.each c hc).maxT)
  rw [← f1] at vC tC
  rw [← f2] at vS tS
  rw [← f3] at vN tN
  rw [← f4] at vX tX
  obtain ⟨hts1, hts2, hts3⟩ := bOut_ts r hr _ t0 lastT okC
  obtain ⟨u, hu⟩ := List.exists_mem_of_ne_nil _ hts1
  have hm := okC.mem
  have hlo := (hts3 u hu).1
  have hhi := (hts3 u hu).2
  refine ⟨⟨?_, ?_, fun M => ?_, fun M => ?_, fun c hc => ?_, ?_, fun t ht => ?_⟩, ?_, ?_⟩
  · rw [List.flatMap_singleton, vC]
    exact (bOut_totals r hr okC).sum
  · rw [List.flatMap_singleton, vS]
    exact (bOut_totals r hr okS).sum
  · rw [List.flatMap_singleton, vN]
    exact (bOut_totals r hr okN).min (List.forall_mem_flatMap.mpr fun c hc => (hwf.each c hc).minFin) M
  · rw [List.flatMap_singleton, vX]
    exact (bOut_totals r hr okX).max (List.forall_mem_flatMap.mpr fun c hc => (hwf.each c hc).maxFin) M
  · rw [List.mem_singleton.mp hc]
    exact ⟨tS.trans tC.symm, tN.trans tC.symm, tX.trans tC.symm, fun h => hts1 (by rw [← tC, h]; rfl)⟩
  · rw [List.flatMap_singleton, tC]
    exact hts2
  · rw [List.flatMap_singleton, tC] at ht
    exact ⟨t0, hm.1, lastT, hm.2, hts3 t ht⟩
  · -- mint ≤ an emitted timestamp ≤ last input timestamp < MaxInt64
    exact Int.ne_of_lt (Int.lt_of_le_of_lt
      (Int.le_trans f5 (Int.le_trans (rC u hu).1 hhi)) (hwf.range lastT hm.2).2)
  · -- MinInt64 < 0 ≤ first input timestamp ≤ an emitted timestamp ≤ maxt
    have h0 : minInt64 < 0 := by decide
    exact Int.ne_of_gt (Int.lt_of_lt_of_le h0 (Int.le_trans (hwf.range t0 hm.1).1
      (Int.le_trans hlo (Int.le_trans (rC u hu).2 f6))))

theorem AggrConserves.nil : AggrConserves [] [] :=
  ⟨rfl, rfl, fun _ => rfl, fun _ => rfl, fun _ h => by simp at h, List.Pairwise.nil, fun _ h => by simp [tss] at h⟩

theorem AggrConserves.append {a b : List Chunk} {c : Chunk} {out : List Chunk}
    (h1 : AggrConserves a [c]) (h2 : AggrConserves b out)
    (hlt : ∀ t1 ∈ tss (a.flatMap (·.count)), ∀ t2 ∈ tss (b.flatMap (·.count)), t1 < t2) :
    AggrConserves (a ++ b) (c :: out) := by
  have hv : ∀ x y : List Pt, vals (x ++ y) = vals x ++ vals y := fun _ _ => List.map_append
  have ht : ∀ x y : List Pt, tss (x ++ y) = tss x ++ tss y := fun _ _ => List.map_append
  obtain ⟨c1, s1, m1, x1, q1, o1, p1⟩ := h1
  simp only [List.flatMap_singleton] at c1 s1 m1 x1 o1 p1
  refine ⟨?_, ?_, fun M => ?_, fun M => ?_,
    List.forall_mem_cons.mpr ⟨q1 c (List.mem_singleton_self c), h2.tsEq⟩, ?_, ?_⟩
  · rw [List.flatMap_cons, List.flatMap_append, hv, hv, List.sum_append, List.sum_append, c1, h2.count]
  · rw [List.flatMap_cons, List.flatMap_append, hv, hv, List.sum_append, List.sum_append, s1, h2.sum]
  · rw [List.flatMap_cons, List.flatMap_append, hv, hv, List.foldl_append, List.foldl_append, m1, h2.min]
  · rw [List.flatMap_cons, List.flatMap_append, hv, hv, List.foldl_append, List.foldl_append, x1, h2.max]
  · rw [List.flatMap_cons, ht]
    refine List.pairwise_append.mpr ⟨o1, h2.tsSorted, fun t1 ht1 t2 ht2 => ?_⟩
    obtain ⟨_, _, hi, hhi, _, hle⟩ := p1 t1 ht1
    obtain ⟨lo, hlo, _, _, hge, _⟩ := h2.tsSpan t2 ht2
    exact Int.lt_of_le_of_lt hle (Int.lt_of_lt_of_le (hlt hi hhi lo hlo) hge)
  · rw [List.flatMap_cons, ht, List.flatMap_append, ht]
    refine List.forall_mem_append.mpr ⟨fun t h => ?_, fun t h => ?_⟩
    · obtain ⟨lo, hlo, hi, hhi, hb⟩ := p1 t h
      exact ⟨lo, List.mem_append_left _ hlo, hi, List.mem_append_left _ hhi, hb⟩
    · obtain ⟨lo, hlo, hi, hhi, hb⟩ := h2.tsSpan t h
      exact ⟨lo, List.mem_append_right _ hlo, hi, List.mem_append_right _ hhi, hb⟩

/-- downsampleFloatAggrBatch on no chunks: every genericAggregate returns `0, 0`, so the range
    test of the caller (`MinTime == MaxInt64 || MaxTime == MinInt64`) does not fire -/
theorem floatAggrBatch_nil (r : Int) : (floatAggrBatch [] r).mint = 0 ∧ (floatAggrBatch [] r).maxt = 0 := by
  constructor <;> rfl

theorem aggrLoop_nil (r : Int) (bs fuel : Nat) : aggrLoop r bs fuel [] = .ok [] := by cases fuel <;> rfl

/-- with `batchSize = 0` no iteration consumes a chunk and none fails: the loop spins -/
theorem aggrLoop_zero_hang (r : Int) (fuel : Nat) (chks : List Chunk) (h : chks ≠ []) :
    aggrLoop r 0 fuel chks = .hang := by
  obtain ⟨c, cs, rfl⟩ := List.exists_cons_of_ne_nil h
  induction fuel with
  | zero => rfl
  | succ fuel ih =>
    simp only [aggrLoop, Nat.zero_min, List.take_zero, List.drop_zero, (floatAggrBatch_nil r).1,
      (floatAggrBatch_nil r).2]
    rw [ih]
    simp [maxInt64, minInt64]

/-- with `batchSize ≥ 1` every iteration consumes a chunk: `len(chks)` iterations suffice -/
theorem aggrLoop_progress (r : Int) (bs : Nat) (hbs : 1 ≤ bs) : ∀ (fuel : Nat) (chks : List Chunk),
    chks.length ≤ fuel → aggrLoop r bs fuel chks ≠ .hang := by
  intro fuel chks h
  -- arms: no chunks; no fuel; invalid range; the rest of the loop succeeds; its failure is passed on
  fun_induction aggrLoop r bs fuel chks with
  | case1 => exact nofun
  | case2 => exact nomatch h
  | case3 => exact nofun
  | case4 => exact nofun
  | case5 fuel chks hne j chk hno herr ih =>
    -- the only case whose answer is that of the rest of the loop
    have := List.length_pos_iff.mpr hne
    exact ih (by rw [List.length_drop]; omega)

theorem downsampleAggrLoop_pos {clamp : Bool} {chks : List Chunk} {r : Int} {nc : Nat} (h : 0 < nc) :
    downsampleAggrLoop clamp chks r nc = aggrLoop r (aggrBatchSize clamp chks.length nc) chks.length chks :=
  if_neg (Nat.ne_of_gt h)

theorem aggrBatchSize_true (len nc : Nat) : aggrBatchSize true len nc = max 1 (len / nc) := rfl
theorem aggrBatchSize_false (len nc : Nat) : aggrBatchSize false len nc = len / nc := rfl

/-- for every batch size ≥ 1, i.e. every numChunks when batchSize is clamped to ≥ 1 -/
theorem aggrLoop_conserves (r : Int) (hr : 0 < r) (bs : Nat) (hbs : 1 ≤ bs) (fuel : Nat) (chks : List Chunk)
    (h : chks.length ≤ fuel) (hwf : WFChunks chks) :
    ∃ out, aggrLoop r bs fuel chks = .ok out ∧ AggrConserves chks out := by
  induction fuel generalizing chks with
  | zero =>
    obtain rfl := List.length_eq_zero_iff.mp (Nat.le_zero.mp h)
    exact ⟨[], rfl, AggrConserves.nil⟩
  | succ fuel ih =>
    cases chks with
    | nil => exact ⟨[], rfl, AggrConserves.nil⟩
    | cons c cs =>
      have hj : 1 ≤ min bs (c :: cs).length := by simp only [List.length_cons]; omega
      simp only [aggrLoop]
      generalize min bs (c :: cs).length = j at *
      have hpne : (c :: cs).take j ≠ [] := by
        simp only [ne_eq, List.take_eq_nil_iff, reduceCtorEq, or_false]
        omega
      rw [← List.take_append_drop j (c :: cs)] at hwf
      obtain ⟨w1, w2, hlt⟩ := hwf.append
      obtain ⟨pc, pm, px⟩ := part_conserves r hr _ hpne w1
      have hlen : ((c :: cs).drop j).length ≤ fuel := by
        simp only [List.length_drop, List.length_cons] at h ⊢; omega
      obtain ⟨out, ho, hcons⟩ := ih _ hlen w2
      rw [if_neg (not_or.mpr ⟨pm, px⟩), ho]
      refine ⟨_, rfl, ?_⟩
      have := AggrConserves.append pc hcons hlt
      rwa [List.take_append_drop] at this

end Thanos.Downsample
