import Thanos.Model.IndexHeader
/-
  C11's two order predicates read as core's `Pairwise`; `init`'s sampling as a `filterMap` over table
  positions, from which `Sampling` follows: all that the lookup (Lemmas/IndexLookup) and the LabelValues scan
  (`labelValues_of_sampling`) use of it.
-/
namespace Thanos.IndexHeader

/-- core `Pairwise`, nothing of the model: for a transitive relation, neighbours suffice -/
theorem pairwise_cons_cons {α : Type} {R : α → α → Prop} (trans : ∀ {a b c}, R a b → R b c → R a c) {a b : α}
    {l : List α} : (a :: b :: l).Pairwise R ↔ R a b ∧ (b :: l).Pairwise R := by
  rw [List.pairwise_cons]
  refine ⟨fun ⟨h, hp⟩ => ⟨h b List.mem_cons_self, hp⟩, fun ⟨h, hp⟩ => ⟨fun x hx => ?_, hp⟩⟩
  rcases List.mem_cons.mp hx with rfl | hx
  · exact h
  · exact trans h (List.rel_of_pairwise_cons hp hx)

def StrictlyIncreasing : List (Nat × Nat) → Prop
  | [] => True
  | [_] => True
  | a :: b :: rest => a.1 < b.1 ∧ StrictlyIncreasing (b :: rest)

def Sorted : List Nat → Prop
  | [] => True
  | [_] => True
  | a :: b :: rest => a ≤ b ∧ Sorted (b :: rest)

theorem strictlyIncreasing_iff : ∀ {l : List (Nat × Nat)}, StrictlyIncreasing l ↔ l.Pairwise (·.1 < ·.1)
  | [] => ⟨fun _ => .nil, fun _ => trivial⟩
  | [_] => ⟨fun _ => List.pairwise_singleton _ _, fun _ => trivial⟩
  | a :: b :: l => by
    rw [StrictlyIncreasing, strictlyIncreasing_iff]
    refine Iff.symm (pairwise_cons_cons ?_)
    exact Nat.lt_trans

theorem sorted_iff : ∀ {l : List Nat}, Sorted l ↔ l.Pairwise (· ≤ ·)
  | [] => ⟨fun _ => .nil, fun _ => trivial⟩
  | [_] => ⟨fun _ => List.pairwise_singleton _ _, fun _ => trivial⟩
  | a :: b :: l => by
    rw [Sorted, sorted_iff]
    refine Iff.symm (pairwise_cons_cons ?_)
    exact Nat.le_trans

/-- the table positions `init` keeps -/
def keptAt (n len k : Nat) : Bool := k % n = 0 || k + 1 = len

theorem sampleFrom_eq (n len : Nat) (tbl : List (Nat × Nat)) (i : Nat) (h : i + tbl.length = len) :
    sampleFrom n i tbl =
      (tbl.zipIdx i).filterMap fun ek => if keptAt n len ek.2 then some (ek.1.1, ek.2) else none := by
  induction tbl generalizing i with
  | nil => rfl
  | cons e tbl ih =>
    cases tbl with
    | nil => simp [sampleFrom, keptAt, ← h]
    | cons e2 rest =>
      have ih := ih (i + 1) (by rw [← h]; simp only [List.length_cons]; omega)
      -- position `i` is not the last one
      have hk : keptAt n len i = decide (i % n = 0) := by simp [keptAt, ← h]
      simp only [sampleFrom]
      rw [List.zipIdx_cons, List.filterMap_cons, hk, ← ih]
      by_cases hm : i % n = 0
      · simp only [hm, decide_true, if_true]
      · simp only [hm, decide_false, if_false, Bool.false_eq_true]

theorem sample_eq (n : Nat) (tbl : List (Nat × Nat)) : sample n tbl =
    tbl.zipIdx.filterMap fun ek => if keptAt n tbl.length ek.2 then some (ek.1.1, ek.2) else none :=
  sampleFrom_eq n tbl.length tbl 0 (Nat.zero_add _)

/-- what the lookup needs of the entries kept in memory -/
structure Sampling (tbl : List (Nat × Nat)) (S : List Sampled) : Prop where
  entry : ∀ xk ∈ S, ∃ p, tbl[xk.2]? = some (xk.1, p)
  pos : S.Pairwise (fun a b => a.2 < b.2)
  first : ∀ e, tbl.head? = some e → S.head? = some (e.1, 0)
  last : ∀ e, tbl.getLast? = some e → S.getLast? = some (e.1, tbl.length - 1)

/-- whatever the sampling rate: position 0 is a multiple of every rate -/
theorem sample_sampling (n : Nat) (tbl : List (Nat × Nat)) : Sampling tbl (sample n tbl) := by
  rw [sample_eq]
  refine ⟨fun xk h => ?_, ?_, fun e he => ?_, fun e he => ?_⟩
  · obtain ⟨⟨e, k⟩, hm, hf⟩ := List.mem_filterMap.mp h
    obtain ⟨_, ⟨⟩⟩ := Option.ite_none_right_eq_some.mp hf
    exact ⟨e.2, List.mem_zipIdx_iff_getElem?.mp hm⟩
  · refine List.Pairwise.filterMap _ (R := fun a b => a.2 < b.2) (fun a a' h b hb b' hb' => ?_)
      (List.pairwise_map.mp (by rw [List.zipIdx_map_snd]; exact List.pairwise_lt_range'))
    obtain ⟨_, ⟨⟩⟩ := Option.ite_none_right_eq_some.mp hb
    obtain ⟨_, ⟨⟩⟩ := Option.ite_none_right_eq_some.mp hb'
    exact h
  · cases tbl with
    | nil => cases he
    | cons e' rest =>
      cases he
      simp [keptAt]
  · obtain ⟨ys, rfl⟩ := List.getLast?_eq_some_iff.mp he
    simp [List.zipIdx_append, List.filterMap_append, keptAt]

theorem labelValues_go (tbl : List (Nat × Nat)) (e : Nat × Nat) (hs : tbl.Pairwise (·.1 < ·.1))
    (h : tbl.getLast? = some e) : labelValues.go e.1 tbl = .ok (tbl.map (·.1)) := by
  induction tbl with
  | nil => cases h
  | cons a tbl ih =>
    cases tbl with
    | nil => cases h; simp [labelValues.go]
    | cons e2 rest =>
      rw [List.getLast?_cons_cons] at h
      have hlt := List.rel_of_pairwise_cons hs (List.mem_of_getLast? h)
      rw [labelValues.go, if_neg (Nat.ne_of_lt hlt), ih hs.of_cons h]
      rfl

/-- of `Sampling`, the LabelValues scan reads `first` and `last` only -/
theorem labelValues_of_sampling {tbl : List (Nat × Nat)} {S : List Sampled} (hS : Sampling tbl S)
    (hne : tbl ≠ []) (hs : tbl.Pairwise (·.1 < ·.1)) : labelValues S tbl = .ok (tbl.map (·.1)) := by
  obtain ⟨e0, rest, rfl⟩ := List.exists_cons_of_ne_nil hne
  have he := List.getLast?_eq_some_getLast hne
  have hfirst := hS.first e0 rfl
  have hlast := hS.last _ he
  unfold labelValues
  cases S with
  | nil => cases hfirst
  | cons f more =>
    cases hfirst
    simp only [hlast]
    exact labelValues_go _ _ hs he

end Thanos.IndexHeader
