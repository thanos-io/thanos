import Thanos.Model.StoreSpec
/-
  `strutil.mergeTwoStringSlices` (`StoreSpec.mergeTwo`): the merge of two sorted lists that emits equal heads once
  loses and invents no element.  The proxy's label calls (C07) merge their stores' answers with it, and the
  `addAll && addAll` branch of `postingGroup.mergeKeys` (C10, `Postings.unionKeys`) is the same walk.
-/
namespace Thanos.StoreSpec

theorem mergeTwo_cons_cons (x : Nat) (xs : List Nat) (y : Nat) (ys : List Nat) :
    mergeTwo (x :: xs) (y :: ys) =
      if x < y then x :: mergeTwo xs (y :: ys)
      else if y < x then y :: mergeTwo (x :: xs) ys
      else x :: mergeTwo xs ys := rfl

theorem mem_mergeTwo (xs : List Nat) : ∀ (ys : List Nat) (a : Nat), a ∈ mergeTwo xs ys ↔ a ∈ xs ∨ a ∈ ys := by
  induction xs with
  | nil => exact fun ys a => ⟨Or.inr, fun h => h.elim (nomatch ·) id⟩
  | cons x xs ihx =>
    intro ys a
    unfold mergeTwo
    fun_induction mergeTwo.aux x xs (mergeTwo xs) ys with
    | case1 => exact ⟨Or.inl, fun h => h.elim id (nomatch ·)⟩
    | case2 y ys h1 => simp only [List.mem_cons, ihx, or_assoc]
    | case3 y ys _ h2 ihy => simp only [List.mem_cons, ihy, or_left_comm]
    | case4 y ys h1 h2 =>
      -- equal heads are emitted once
      obtain rfl : x = y := Nat.le_antisymm (Nat.le_of_not_lt h2) (Nat.le_of_not_lt h1)
      simp only [List.mem_cons, ihx, or_assoc, or_left_comm, or_self_left]

end Thanos.StoreSpec
