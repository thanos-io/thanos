import Thanos.Model.LazyReader
/-
  The invariant behind C16 (`Inv`) and the rule of the lock discipline (`inv_update`: one thread moves; the
  shared part stays, or is rewritten under the write lock).  `StepOK b a s s'` says what holds between a state
  and a later one, for both switches: the environment is left alone, the record of failed loads changes only
  while no error is stored, and (for the code as it is) the invariant is kept.  `step_ok` is the one case
  analysis of `step`; the relation is transitive, so every run has it (`run_ok`, the one induction over
  schedules), and the C16 theorems read their part off it.
-/
namespace Thanos.LazyReader

/-- what is true of the generations in every reachable state -/
structure SharedOK (s : State) : Prop where
  open_ : ∀ g, s.reader = some g → s.closed.contains g = false
  freshR : ∀ g, s.reader = some g → g < s.nextGen
  freshC : ∀ g, g ∈ s.closed → g < s.nextGen
  /-- after a failed load there is no reader (no half-initialised reader is ever installed) -/
  errNil : s.readerErr = true → s.reader = none

structure Inv (s : State) : Prop where
  bad : s.bad = false
  /-- reader/writer exclusion: a thread holding the write lock is the only lock holder -/
  excl : ∀ (i j : Nat) (ti tj : Thread), s.threads[i]? = some ti → s.threads[j]? = some tj → i ≠ j →
    holdsW ti.pc = true → holdsW tj.pc = false ∧ holdsR tj.pc = false
  shared : SharedOK s
  /-- a thread past `load()` (holding the read lock) sees a loaded reader, the one it uses; and, answers being
      copies (`alias = false`: hence the premise of `StepOK.inv`), no thread is ever at `consuming` -/
  known : ∀ (i : Nat) (t : Thread), s.threads[i]? = some t →
    (t.pc = .fast → s.reader.isSome = true) ∧ (∀ g, t.pc = .inUse g → s.reader = some g) ∧
    (∀ g, t.pc ≠ .consuming g)

/-- any state with the invariant: a thread past `load()` — on the fast path or inside `r.reader.X()` — sees a loaded
    reader, and no load error is stored (`errNil`: an error would mean no reader).  `C16_load_errors` is this, with
    the fields `bad` and `errNil`, at the states a run from `initF` reaches -/
theorem Inv.past_load {s : State} (hI : Inv s) {i : Nat} {t : Thread} (hi : s.threads[i]? = some t)
    (hpc : t.pc = .fast ∨ ∃ g, t.pc = .inUse g) : s.reader.isSome = true ∧ s.readerErr = false := by
  have hk := hI.known i t hi
  have hsome : s.reader.isSome = true := by
    rcases hpc with h | ⟨g, h⟩
    · exact hk.1 h
    · rw [hk.2.1 g h]; rfl
  refine ⟨hsome, ?_⟩
  cases he : s.readerErr with
  | false => rfl
  | true => rw [hI.shared.errNil he] at hsome; cases hsome

theorem inv_init (kinds : List Kind) : Inv (init kinds) where
  bad := rfl
  excl := by
    intro i j ti tj hi _ _ hw
    simp only [init, List.getElem?_map, Option.map_eq_some_iff] at hi
    obtain ⟨k, _, rfl⟩ := hi
    simp [holdsW] at hw
  shared := ⟨by simp [init], by simp [init], by simp [init], by simp [init]⟩
  known := by
    intro i t hi
    simp only [init, List.getElem?_map, Option.map_eq_some_iff] at hi
    obtain ⟨k, _, rfl⟩ := hi
    simp

theorem inv_initF (kinds : List Kind) (failAt : List Nat) : Inv (initF kinds failAt) := by
  have h := inv_init kinds
  -- `initF` differs from `init` in `failAt` alone, which no field mentions: each field re-types by unfolding, the
  -- structures `Inv` and `SharedOK` do not
  exact ⟨h.bad, h.excl, ⟨h.shared.open_, h.shared.freshR, h.shared.freshC, h.shared.errNil⟩, h.known⟩

theorem canW_spec {ts : List Thread} (h : canW ts = true) {j : Nat} {t : Thread} (hj : ts[j]? = some t) :
    holdsW t.pc = false ∧ holdsR t.pc = false := by
  have hm : t ∈ ts := List.mem_of_getElem? hj
  have := List.all_eq_true.mp h t hm
  simpa using this

theorem canR_spec {ts : List Thread} (h : canR ts = true) {j : Nat} {t : Thread} (hj : ts[j]? = some t) :
    holdsW t.pc = false := by
  have hm : t ∈ ts := List.mem_of_getElem? hj
  have := List.all_eq_true.mp h t hm
  simpa using this

/-- `Inv.known` for one thread at `pc` -/
def Knows (s : State) : PC → Prop
  | .fast => s.reader.isSome = true
  | .inUse g => s.reader = some g
  | .consuming _ => False
  | _ => True

theorem inv_update {s s' : State} {i : Nat} {t : Thread} (hI : Inv s) (ht : s.threads[i]? = some t)
    (pc' : PC)
    (hth : s'.threads = s.threads.set i { t with pc := pc' })
    (hbad : s'.bad = false)
    (hW : holdsW pc' = true → holdsW t.pc = true ∨ canW s.threads = true)
    (hR : holdsR pc' = true → holdsR t.pc = true ∨ canR s.threads = true)
    (hShared : (s'.reader = s.reader ∧ s'.closed = s.closed ∧ s'.nextGen = s.nextGen ∧
        s'.readerErr = s.readerErr) ∨
      (holdsW t.pc = true ∧ SharedOK s'))
    (hSelf : Knows s' pc') : Inv s' := by
  have hlen : i < s.threads.length := (List.getElem?_eq_some_iff.mp ht).1
  have hget : ∀ j tj, s'.threads[j]? = some tj →
      (j = i ∧ tj = { t with pc := pc' }) ∨ (j ≠ i ∧ s.threads[j]? = some tj) := by
    intro j tj hj
    rw [hth] at hj
    by_cases hji : i = j
    · subst hji
      rw [List.getElem?_set_self hlen] at hj
      exact .inl ⟨rfl, (Option.some.inj hj).symm⟩
    · rw [List.getElem?_set_ne hji] at hj
      exact .inr ⟨Ne.symm hji, hj⟩
  refine { bad := hbad, excl := ?_, shared := ?_, known := ?_ }
  · intro a b ta tb ha hb hab hwa
    rcases hget a ta ha with ⟨rfl, rfl⟩ | ⟨hai, ha'⟩ <;> rcases hget b tb hb with ⟨hbi, rfl⟩ | ⟨hbi, hb'⟩
    · exact absurd hbi.symm hab
    · -- the mover holds W afterwards
      rcases hW hwa with h | h
      · exact hI.excl _ _ _ _ ht hb' hab h
      · exact canW_spec h hb'
    · -- the mover is the other thread: it must hold nothing
      subst hbi
      have hold := hI.excl _ _ _ _ ha' ht hai hwa
      refine ⟨Bool.eq_false_iff.mpr fun hw => ?_, Bool.eq_false_iff.mpr fun hr => ?_⟩
      · rcases hW hw with h | h
        · rw [hold.1] at h; cases h
        · have := (canW_spec h ha').1; rw [hwa] at this; cases this
      · rcases hR hr with h | h
        · rw [hold.2] at h; cases h
        · have := canR_spec h ha'; rw [hwa] at this; cases this
    · exact hI.excl _ _ _ _ ha' hb' hab hwa
  · rcases hShared with ⟨h1, h2, h3, h4⟩ | ⟨_, h⟩
    · exact ⟨by rw [h1, h2]; exact hI.shared.open_, by rw [h1, h3]; exact hI.shared.freshR,
        by rw [h2, h3]; exact hI.shared.freshC, by rw [h1, h4]; exact hI.shared.errNil⟩
    · exact h
  · intro a ta ha
    rcases hget a ta ha with ⟨_, rfl⟩ | ⟨hai, ha'⟩
    · exact ⟨fun h => by subst h; exact hSelf, fun g h => by subst h; exact hSelf, fun g h => by subst h; exact hSelf⟩
    · have hk := hI.known a ta ha'
      rcases hShared with ⟨h1, _, _, _⟩ | ⟨hw, _⟩
      · rw [h1]; exact hk
      · -- the mover held the write lock: nobody else was holding the read lock
        have hold := hI.excl _ _ _ _ ht ha' (fun h => hai h.symm) hw
        refine ⟨?_, ?_, hk.2.2⟩
        · intro hf; rw [hf] at hold; simp [holdsR] at hold
        · intro g hu; rw [hu] at hold; simp [holdsR] at hold

/-- `b`: the re-check in `load`; `¬ a`: answers are copies -/
structure StepOK (b a : Bool) (s s' : State) : Prop where
  failAt : s'.failAt = s.failAt
  errs : (s'.readerErr = s.readerErr ∧ s'.loads = s.loads ∧ s'.loadFails = s.loadFails) ∨ s.readerErr = false
  inv : b = true → a = false → Inv s → Inv s'

theorem StepOK.stay {b a : Bool} {s : State} : StepOK b a s s := ⟨rfl, .inl ⟨rfl, rfl, rfl⟩, fun _ _ h => h⟩

theorem StepOK.move {b a : Bool} {s : State} {i : Nat} {t : Thread} (ht : s.threads[i]? = some t) (pc' : PC)
    {log : List (Nat × Event)}
    (hW : holdsW pc' = true → holdsW t.pc = true ∨ canW s.threads = true)
    (hR : holdsR pc' = true → holdsR t.pc = true ∨ canR s.threads = true)
    (hSelf : b = true → a = false → Knows s pc') :
    StepOK b a s { s with threads := s.threads.set i { t with pc := pc' }, log := log } :=
  ⟨rfl, .inl ⟨rfl, rfl, rfl⟩, fun hb ha hI =>
    inv_update hI ht pc' rfl hI.bad hW hR (.inl ⟨rfl, rfl, rfl, rfl⟩) (hSelf hb ha)⟩

/-- a dereference of a nil or closed reader: excluded by the invariant -/
theorem StepOK.crash {b a : Bool} {s : State} {ts : List Thread} (h : Inv s → False) :
    StepOK b a s { s with threads := ts, bad := true } :=
  ⟨rfl, .inl ⟨rfl, rfl, rfl⟩, fun _ _ hI => (h hI).elim⟩

theorem step_ok (b a : Bool) (s : State) (i : Nat) : StepOK b a s (step b a s i) := by
  -- the arms of `step`, numbered in the order they are written there, taken together by what makes them safe
  fun_cases step b a s i
  -- no such thread; a blocked thread; a thread of one kind at a pc of another kind
  case case1 | case3 | case8 | case15 | case18 | case31 | case37 | case39 => exact .stay
  -- RLock goes through (reader idle → rl1, wantR2 → recheck, wantR2E → recheckE; probe idle → pR):
  -- the test was that nobody holds the write lock
  case case2 | case14 | case17 | case36 => exact .move ‹_› _ nofun (fun _ => .inr ‹_›) (fun _ _ => trivial)
  -- Lock goes through (reader wantW → w; unloader idle → uW): the test was that nobody holds a lock
  case case7 | case30 => exact .move ‹_› _ (fun _ => .inr ‹_›) nofun (fun _ _ => trivial)
  -- on to a pc that holds no lock and relies on nothing: a lock is given back or the call ends
  -- (reader rl1 → idle, wantW; wDone → wantR2; wDoneE → wantR2E; recheckE, recheck, inUse g, consuming g → idle;
  -- unloader uDone → idle; probe pR → idle)
  case case5 | case6 | case13 | case16 | case19 | case20 | case27 | case29 | case35 | case38 =>
    exact .move ‹_› _ nofun nofun (fun _ _ => trivial)
  -- the write lock is kept and nothing is written (reader w → wDone: a reader is there, w → wDoneE: an error is
  -- stored; unloader uW → uDone: nothing loaded, not idle)
  case case9 hpc _ _ _ | case10 hpc _ _ _ | case32 hpc _ _ | case34 hpc _ _ _ _ =>
    exact .move ‹_› _ (fun _ => .inl (hpc ▸ rfl)) nofun (fun _ _ => trivial)
  -- the read lock is kept; what the next pc relies on has just been tested (rl1, recheck → fast; fast → inUse g)
  case case4 hpc _ hc => exact .move ‹_› .fast nofun (fun _ => .inl (hpc ▸ rfl)) (fun _ _ => hc)
  case case21 hpc _ hs =>
    exact .move ‹_› .fast nofun (fun _ => .inl (hpc ▸ rfl))
      (fun hb _ => by simpa [hb, Knows, Option.isSome_iff_ne_none] using hs)
  case case24 hpc _ g hg _ => exact .move ‹_› (.inUse g) nofun (fun _ => .inl (hpc ▸ rfl)) (fun _ _ => hg)
  -- inUse g → consuming g: only when answers alias the header, which `StepOK.inv` excludes
  case case26 g _ _ _ ha => exact .move ‹_› (.consuming g) nofun nofun (fun _ ha' => nomatch ha.symm.trans ha')
  -- a dereference of a nil or closed reader (at fast, inUse g, consuming g): what the thread relies on rules it out
  case case22 ht _ hpc _ hn => exact .crash fun hI => nomatch hn ▸ (hI.known i _ ht).1 hpc
  case case23 g hg hc => exact .crash fun hI => nomatch (hI.shared.open_ g hg).symm.trans hc
  case case25 ht _ g hpc _ hc =>
    refine .crash fun hI => ?_
    have hg := (hI.known i _ ht).2.1 g hpc
    rw [hI.shared.open_ g hg, hg, bne_self_eq_false] at hc
    cases hc
  case case28 ht _ g hpc _ _ => exact .crash fun hI => (hI.known i _ ht).2.2 g hpc
  -- the three writes under the write lock (reader at w: failed load, load; unloader at uW: unload)
  case case11 ht _ hpc _ hnone hnoerr _ =>
    -- NewBinaryReader fails: r.readerErr = err, no reader is installed
    refine ⟨rfl, .inr (eq_false_of_ne_true hnoerr), fun _ _ hI => inv_update hI ht .wDoneE rfl hI.bad
      (fun _ => .inl (hpc ▸ rfl)) nofun (.inr ⟨hpc ▸ rfl, ?_⟩) trivial⟩
    exact ⟨fun g h => (nomatch hnone.symm.trans h), fun g h => (nomatch hnone.symm.trans h),
      hI.shared.freshC, fun _ => hnone⟩
  case case12 ht _ hpc _ hnone hnoerr _ =>
    -- NewBinaryReader: a fresh generation
    refine ⟨rfl, .inr (eq_false_of_ne_true hnoerr), fun _ _ hI => inv_update hI ht .wDone rfl hI.bad
      (fun _ => .inl (hpc ▸ rfl)) nofun (.inr ⟨hpc ▸ rfl, ?_⟩) trivial⟩
    refine { open_ := ?_, freshR := ?_, freshC := fun g hg => Nat.lt_succ_of_lt (hI.shared.freshC g hg),
             errNil := fun h => absurd h hnoerr }
    · rintro g ⟨⟩
      -- closed generations are older than the new one
      exact Bool.eq_false_iff.mpr fun hc => Nat.lt_irrefl _ (hI.shared.freshC _ (List.contains_iff_mem.mp hc))
    · rintro g ⟨⟩
      exact Nat.lt_succ_self _
  case case33 ht _ _ hpc g hg _ =>
    -- Close and forget the reader
    refine ⟨rfl, .inl ⟨rfl, rfl, rfl⟩, fun _ _ hI => inv_update hI ht .uDone rfl hI.bad
      (fun _ => .inl (hpc ▸ rfl)) nofun (.inr ⟨hpc ▸ rfl, ?_⟩) trivial⟩
    exact ⟨nofun, nofun, fun g' hg' => (List.mem_cons.mp hg').elim (fun e => e ▸ hI.shared.freshR g hg)
      (hI.shared.freshC _), fun _ => rfl⟩

theorem StepOK.trans {b a : Bool} {s s' s'' : State} (h : StepOK b a s s') (h' : StepOK b a s' s'') :
    StepOK b a s s'' where
  failAt := h'.failAt.trans h.failAt
  errs := by
    rcases h.errs with ⟨e, l, f⟩ | hf
    · -- nothing moved in the first part: the second part decides
      rw [← e, ← l, ← f]
      exact h'.errs
    · exact .inr hf
  inv := fun hb ha hI => h'.inv hb ha (h.inv hb ha hI)

theorem run_ok (b a : Bool) : ∀ (sched : List Nat) (s : State), StepOK b a s (run b a s sched)
  | [], _ => .stay
  | i :: is, s => (step_ok b a s i).trans (run_ok b a is _)

/-- the code as it is: `recheckNil = true`, answers are copies -/
theorem inv_run {s : State} (hI : Inv s) (schedule : List Nat) : Inv (run true false s schedule) :=
  (run_ok true false schedule s).inv rfl rfl hI

theorem err_sticky_run (b a : Bool) (sched : List Nat) (s : State) (h : s.readerErr = true) :
    (run b a s sched).readerErr = true ∧ (run b a s sched).loads = s.loads ∧
    (run b a s sched).loadFails = s.loadFails := by
  rcases (run_ok b a sched s).errs with ⟨h1, h2⟩ | hf
  · exact ⟨h1.trans h, h2⟩
  · rw [h] at hf; cases hf

/-- not used by C16: the script of load failures belongs to the environment, no step writes it -/
theorem failAt_step (b a : Bool) (s : State) (i : Nat) : (step b a s i).failAt = s.failAt :=
  (step_ok b a s i).failAt

end Thanos.LazyReader
