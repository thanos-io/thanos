import Thanos.Lemmas.ListFacts
/-
  A Go map with a zero value, kept as a list of entries in insertion order: `lookD z` reads (`z` when the key is
  absent), `alter f z m k` is `m[k] = f(m[k])`.  The grouping of memcached keys by server appends to `m[k]`
  (`Memcached.addKey`), the merge of query responses merges into it (`ResultsCache.upsert`).
-/
namespace Thanos.AssocList
variable {κ ν : Type} [DecidableEq κ] {z : ν} {f : ν → ν}

def lookD (z : ν) (m : List (κ × ν)) (k : κ) : ν :=
  match m.find? (fun e => e.1 = k) with
  | some e => e.2
  | none => z

def alter (f : ν → ν) (z : ν) : List (κ × ν) → κ → List (κ × ν)
  | [], k => [(k, f z)]
  | (i, v) :: rest, k => if i = k then (i, f v) :: rest else (i, v) :: alter f z rest k

theorem lookD_cons (e : κ × ν) (m : List (κ × ν)) (k : κ) :
    lookD z (e :: m) k = if e.1 = k then e.2 else lookD z m k := by
  unfold lookD
  rw [List.find?_cons]
  by_cases h : e.1 = k
  · rw [decide_eq_true h, if_pos h]
  · rw [decide_eq_false h, if_neg h]

theorem lookD_alter (m : List (κ × ν)) (k k' : κ) :
    lookD z (alter f z m k) k' = if k = k' then f (lookD z m k') else lookD z m k' := by
  -- arms: empty map; the key is at the head; it is further down
  fun_induction alter f z m k with
  | case1 k => rw [lookD_cons]; rfl
  | case2 i v rest =>
    rw [lookD_cons, lookD_cons]
    split <;> rfl
  | case3 i v rest k hi ih =>
    rw [lookD_cons, lookD_cons, ih]
    by_cases h' : i = k'
    · rw [if_pos h', if_neg fun e => hi (h'.trans e.symm), if_pos h']
    · rw [if_neg h', if_neg h']

theorem keys_alter (m : List (κ × ν)) (k : κ) :
    (alter f z m k).map (·.1) = if k ∈ m.map (·.1) then m.map (·.1) else m.map (·.1) ++ [k] := by
  fun_induction alter f z m k with
  | case1 => rfl
  | case2 i v rest => exact (if_pos List.mem_cons_self).symm
  | case3 i v rest k hi ih =>
    simp only [List.map_cons, ih, List.mem_cons, Ne.symm hi, false_or]
    split <;> rfl

theorem nodup_keys_alter {m : List (κ × ν)} (h : (m.map (·.1)).Nodup) (k : κ) :
    ((alter f z m k).map (·.1)).Nodup := by
  rw [keys_alter]
  split
  · exact h
  · rename_i hm
    exact nodup_concat h hm

theorem lookD_of_mem {m : List (κ × ν)} (hnd : (m.map (·.1)).Nodup) {k : κ} {v : ν} (h : (k, v) ∈ m) :
    lookD z m k = v := by
  induction m with
  | nil => cases h
  | cons e m ih =>
    obtain ⟨hs, hnd⟩ := List.nodup_cons.mp hnd
    rw [lookD_cons]
    rcases List.mem_cons.mp h with rfl | h
    · exact if_pos rfl
    · rw [if_neg fun (e' : e.1 = k) => hs (List.mem_map.mpr ⟨_, h, e'.symm⟩), ih hnd h]

theorem mem_of_lookD_ne {m : List (κ × ν)} {k : κ} (h : lookD z m k ≠ z) : (k, lookD z m k) ∈ m := by
  unfold lookD at h ⊢
  cases hf : m.find? (fun e => e.1 = k) with
  | none => rw [hf] at h; exact absurd rfl h
  | some e =>
    have hk : e.1 = k := of_decide_eq_true (List.find?_some (p := fun e : κ × ν => decide (e.1 = k)) hf)
    exact hk ▸ List.mem_of_find?_eq_some hf

end Thanos.AssocList
