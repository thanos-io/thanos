import Thanos.Model.Hashring
import Thanos.Lemmas.ListFacts
/-
  The replica loop of `calculateSectionReplicas` (`Thanos.Hashring.loop`).  `loop_induct` is induction over a run:
  `zero` for spent fuel and one case per branch of an iteration, each with its equation (`loop_done` … `loop_add`);
  used as `induction fuel, rest, skipped, chosen using loop_induct`: the answer of the run is rewritten in every case; a
  statement about a second run rewrites that one with the equations.  Every run keeps the chosen replicas distinct
  and zone-balanced (`Reach`); with the lap check it ends within `fuelBound`, without it a `Stuck` state is never left
  and `.stuck` is never answered; an answer `.ok` is the same with and without, and the answer for a smaller `rf` is a
  prefix of it (`loop_prefix`).  Last, what `dedup` and `zonesOf` contain.
-/
namespace Thanos.Hashring

theorem cursor_eq_some {ring rest : List Sec} {rep : Sec} {rest' : List Sec} :
    cursor ring rest = some (rep, rest') ↔ rest = rep :: rest' ∨ (rest = [] ∧ ring = rep :: rest') := by
  cases rest with
  | cons a r => simp [cursor]
  | nil => cases ring <;> simp [cursor]

theorem cursor_eq_none {ring rest : List Sec} : cursor ring rest = none ↔ rest = [] ∧ ring = [] := by
  cases rest with
  | cons a r => simp [cursor]
  | nil => cases ring <;> simp [cursor]

theorem cursor_mem {ring rest : List Sec} {rep : Sec} {rest' : List Sec}
    (hsub : ∀ s ∈ rest, s ∈ ring) (h : cursor ring rest = some (rep, rest')) :
    rep ∈ ring ∧ ∀ s ∈ rest', s ∈ ring := by
  rcases cursor_eq_some.mp h with rfl | ⟨rfl, rfl⟩
  · exact ⟨hsub _ List.mem_cons_self, fun s hs => hsub s (List.mem_cons_of_mem _ hs)⟩
  · exact ⟨List.mem_cons_self, fun s hs => List.mem_cons_of_mem _ hs⟩

/-- the cursor is a suffix of the ring: `∃ pre, ring = pre ++ rest` is core's `rest <:+ ring` with the equation turned -/
theorem mem_of_suffix {ring rest : List Sec} (hp : ∃ pre, ring = pre ++ rest) : ∀ s ∈ rest, s ∈ ring :=
  fun _ hs => hp.elim fun pre h => h ▸ List.mem_append_right pre hs

theorem cursor_suffix {ring rest : List Sec} {rep : Sec} {rest' : List Sec}
    (hp : ∃ pre, ring = pre ++ rest) (h : cursor ring rest = some (rep, rest')) : ∃ pre, ring = pre ++ rest' := by
  rcases cursor_eq_some.mp h with rfl | ⟨rfl, rfl⟩
  · obtain ⟨pre, hp⟩ := hp
    exact ⟨pre ++ [rep], by simp [hp]⟩
  · exact ⟨[rep], rfl⟩

section iteration
variable {lc : Bool} {ring : List Sec} {n : Nat} {zones : List Nat} {rf fuel : Nat}
  {rest : List Sec} {sk : Nat} {ch : List Sec} {rep : Sec} {rest' : List Sec}

theorem loop_done (h : rf ≤ ch.length) :
    loop lc ring n zones rf (fuel + 1) rest sk ch = .ok (ch.map (·.ep)) := by
  rw [loop, if_pos h]

private theorem lap_iff : (lc && sk == n) = true ↔ lc = true ∧ sk = n := by
  rw [Bool.and_eq_true, beq_iff_eq]

theorem loop_lap (h : ch.length < rf) (hl : lc = true) (hs : sk = n) :
    loop lc ring n zones rf (fuel + 1) rest sk ch = .stuck := by
  rw [loop, if_neg (Nat.not_le.mpr h), if_pos (lap_iff.mpr ⟨hl, hs⟩)]

private theorem no_lap (hl : lc = true → sk ≠ n) : ¬ (lc && sk == n) = true :=
  fun e => hl (lap_iff.mp e).1 (lap_iff.mp e).2

theorem loop_oob (h : ch.length < rf) (hl : lc = true → sk ≠ n) (hc : cursor ring rest = none) :
    loop lc ring n zones rf (fuel + 1) rest sk ch = .oob := by
  rw [loop, if_neg (Nat.not_le.mpr h), if_neg (no_lap hl), hc]

theorem loop_skip (h : ch.length < rf) (hl : lc = true → sk ≠ n) (hc : cursor ring rest = some (rep, rest'))
    (hs : taken ch rep.ep = true ∨ skipAZ zones ch rep = true) :
    loop lc ring n zones rf (fuel + 1) rest sk ch = loop lc ring n zones rf fuel rest' (sk + 1) ch := by
  rw [loop, if_neg (Nat.not_le.mpr h), if_neg (no_lap hl), hc]
  rcases hs with hs | hs
  · simp only [hs, if_true]
  · simp only [hs, if_true, ite_self]

theorem loop_add (h : ch.length < rf) (hl : lc = true → sk ≠ n) (hc : cursor ring rest = some (rep, rest'))
    (ht : taken ch rep.ep = false) (hz : skipAZ zones ch rep = false) :
    loop lc ring n zones rf (fuel + 1) rest sk ch = loop lc ring n zones rf fuel rest' 0 (ch ++ [rep]) := by
  rw [loop, if_neg (Nat.not_le.mpr h), if_neg (no_lap hl), hc]
  simp only [ht, hz, Bool.false_eq_true, if_false]

end iteration

theorem loop_induct {lc : Bool} {ring : List Sec} {n : Nat} {zones : List Nat} {rf : Nat}
    {motive : Nat → List Sec → Nat → List Sec → Res → Prop}
    (zero : ∀ {rest sk ch}, motive 0 rest sk ch .fuelOut)
    (done : ∀ {fuel rest sk ch}, rf ≤ ch.length → motive (fuel + 1) rest sk ch (.ok (ch.map (·.ep))))
    (lap : ∀ {fuel rest sk ch}, ch.length < rf → lc = true → sk = n → motive (fuel + 1) rest sk ch .stuck)
    (oob : ∀ {fuel rest sk ch}, ch.length < rf → (lc = true → sk ≠ n) → cursor ring rest = none →
      motive (fuel + 1) rest sk ch .oob)
    (skip : ∀ {fuel rest sk ch rep rest'}, ch.length < rf → (lc = true → sk ≠ n) →
      cursor ring rest = some (rep, rest') → taken ch rep.ep = true ∨ skipAZ zones ch rep = true →
      motive fuel rest' (sk + 1) ch (loop lc ring n zones rf fuel rest' (sk + 1) ch) →
      motive (fuel + 1) rest sk ch (loop lc ring n zones rf fuel rest' (sk + 1) ch))
    (add : ∀ {fuel rest sk ch rep rest'}, ch.length < rf → (lc = true → sk ≠ n) →
      cursor ring rest = some (rep, rest') → taken ch rep.ep = false → skipAZ zones ch rep = false →
      motive fuel rest' 0 (ch ++ [rep]) (loop lc ring n zones rf fuel rest' 0 (ch ++ [rep])) →
      motive (fuel + 1) rest sk ch (loop lc ring n zones rf fuel rest' 0 (ch ++ [rep]))) :
    ∀ fuel rest sk ch, motive fuel rest sk ch (loop lc ring n zones rf fuel rest sk ch) := by
  -- the case split is the one Lean derives from the definition; two of the tests are put in another form,
  -- and the two ways to skip a section are one case
  have lt : ∀ {ch : List Sec}, ¬ rf ≤ ch.length → ch.length < rf := Nat.lt_of_not_le
  have nl : ∀ {sk : Nat}, ¬ (lc && sk == n) = true → lc = true → sk ≠ n := fun h a b => h (lap_iff.mpr ⟨a, b⟩)
  exact loop.induct_unfolding lc ring n zones rf motive (fun _ _ _ => zero) (fun _ _ _ _ => done)
    (fun _ _ _ _ h hl => lap (lt h) (lap_iff.mp hl).1 (lap_iff.mp hl).2)
    (fun _ _ _ _ h hl => oob (lt h) (nl hl))
    (fun _ _ _ _ h hl _ _ hc ht => skip (lt h) (nl hl) hc (Or.inl ht))
    (fun _ _ _ _ h hl _ _ hc _ hz => skip (lt h) (nl hl) hc (Or.inr hz))
    (fun _ _ _ _ h hl _ _ hc ht hz => add (lt h) (nl hl) hc (Bool.eq_false_iff.mpr ht) (Bool.eq_false_iff.mpr hz))

/-- With the lap check every iteration adds a replica or increases the consecutive skips, which `n` bounds: the
    measure is `(rf - |chosen|)·(n+1) + n - skipped`. -/
theorem loop_repaired_terminates {ring : List Sec} {n : Nat} {zones : List Nat} {rf fuel : Nat} {rest : List Sec}
    {skipped : Nat} {chosen : List Sec} (hs : skipped ≤ n) (hf : (rf - chosen.length) * (n + 1) + n < fuel + skipped) :
    loop true ring n zones rf fuel rest skipped chosen ≠ .fuelOut := by
  induction fuel, rest, skipped, chosen using loop_induct with
  | @zero _ _ ch =>
    generalize (rf - ch.length) * (n + 1) = m at hf
    omega
  | done | lap | oob => nofun
  | skip _ hl _ _ ih => exact ih (Nat.lt_of_le_of_ne hs (hl rfl)) (by rwa [Nat.add_assoc, Nat.add_comm 1] at hf)
  | @add _ _ _ ch rep _ h _ _ _ _ ih =>
    have hd : rf - ch.length = rf - (ch ++ [rep]).length + 1 := by
      rw [List.length_append, List.length_singleton]; omega
    rw [hd, Nat.succ_mul] at hf
    refine ih (Nat.zero_le n) ?_
    generalize (rf - (ch ++ [rep]).length) * (n + 1) = m at hf ⊢
    omega

theorem replicasFor_repaired_ne_fuelOut (ring : List Sec) (zones : List Nat) (rf : Nat) (start : List Sec) :
    replicasFor true ring zones rf start ≠ .fuelOut :=
  loop_repaired_terminates (Nat.zero_le _) (by
    rw [fuelBound, List.length_nil, Nat.sub_zero, Nat.succ_mul]
    generalize rf * (ring.length + 1) = m
    omega)

theorem loop_fuel_mono {lc : Bool} {ring : List Sec} {n : Nat} {zones : List Nat} {rf fuel : Nat} {rest : List Sec}
    {skipped : Nat} {chosen : List Sec} (k : Nat) (hr : loop lc ring n zones rf fuel rest skipped chosen ≠ .fuelOut) :
    loop lc ring n zones rf (fuel + k) rest skipped chosen = loop lc ring n zones rf fuel rest skipped chosen := by
  induction fuel, rest, skipped, chosen using loop_induct with
  | zero => exact absurd rfl hr
  | done h => rw [Nat.add_right_comm, loop_done h]
  | lap h hl hs => rw [Nat.add_right_comm, loop_lap h hl hs]
  | oob h hl hc => rw [Nat.add_right_comm, loop_oob h hl hc]
  | skip h hl hc hs ih => rw [Nat.add_right_comm, loop_skip h hl hc hs]; exact ih hr
  | add h hl hc ht hz ih => rw [Nat.add_right_comm, loop_add h hl hc ht hz]; exact ih hr

theorem loop_ne_oob {lc : Bool} {ring : List Sec} {n : Nat} {zones : List Nat} {rf fuel : Nat} {rest : List Sec}
    {skipped : Nat} {chosen : List Sec} (hne : ring ≠ []) : loop lc ring n zones rf fuel rest skipped chosen ≠ .oob := by
  induction fuel, rest, skipped, chosen using loop_induct with
  | zero | done | lap => nofun
  | oob _ _ hc => exact absurd (cursor_eq_none.mp hc).2 hne
  | skip _ _ _ _ ih | add _ _ _ _ _ ih => exact ih

theorem loop_unrepaired_ne_stuck {ring : List Sec} {n : Nat} {zones : List Nat} {rf fuel : Nat} {rest : List Sec}
    {skipped : Nat} {chosen : List Sec} : loop false ring n zones rf fuel rest skipped chosen ≠ .stuck := by
  induction fuel, rest, skipped, chosen using loop_induct with
  | zero | done | oob => nofun
  | lap _ hl => exact nomatch hl
  | skip _ _ _ _ ih | add _ _ _ _ _ ih => exact ih

/-- the lap check only ever turns "still running" into "stuck" -/
theorem loop_ok_unrepaired {ring : List Sec} {n : Nat} {zones : List Nat} {rf fuel : Nat} {rest : List Sec}
    {skipped : Nat} {chosen : List Sec} {reps : List Nat}
    (h : loop true ring n zones rf fuel rest skipped chosen = .ok reps) :
    loop false ring n zones rf fuel rest skipped chosen = .ok reps := by
  induction fuel, rest, skipped, chosen using loop_induct with
  | zero | lap | oob => cases h
  | done hd => exact h ▸ loop_done hd
  | skip hlt _ hc hs ih => exact (loop_skip (lc := false) hlt nofun hc hs).trans (ih h)
  | add hlt _ hc ht hz ih => exact (loop_add (lc := false) hlt nofun hc ht hz).trans (ih h)

/-- no section of the ring can be added to `chosen`: every further iteration skips -/
def Stuck (ring : List Sec) (zones : List Nat) (chosen : List Sec) : Prop :=
  ∀ s ∈ ring, taken chosen s.ep = true ∨ skipAZ zones chosen s = true

instance (ring : List Sec) (zones : List Nat) (chosen : List Sec) : Decidable (Stuck ring zones chosen) := by
  unfold Stuck; infer_instance

theorem Stuck.not_admitted {ring : List Sec} {zones : List Nat} {chosen : List Sec} {rep : Sec}
    (hst : Stuck ring zones chosen) (hrep : rep ∈ ring) (ht : taken chosen rep.ep = false)
    (hz : skipAZ zones chosen rep = false) : False := by
  rcases hst rep hrep with h | h
  · rw [ht] at h; cases h
  · rw [hz] at h; cases h

theorem stuck_forever {ring : List Sec} {n : Nat} {zones : List Nat} {rf fuel : Nat} {rest : List Sec} {skipped : Nat}
    {chosen : List Sec} (hne : ring ≠ []) (hst : Stuck ring zones chosen) (hlen : chosen.length < rf)
    (hsub : ∀ s ∈ rest, s ∈ ring) : loop false ring n zones rf fuel rest skipped chosen = .fuelOut := by
  induction fuel, rest, skipped, chosen using loop_induct with
  | zero => rfl
  | done h => exact absurd hlen (Nat.not_lt.mpr h)
  | lap _ hl => exact nomatch hl
  | oob _ _ hc => exact absurd (cursor_eq_none.mp hc).2 hne
  | skip _ _ hc _ ih => exact ih hst hlen (cursor_mem hsub hc).2
  | add _ _ hc ht hz => exact (hst.not_admitted (cursor_mem hsub hc).1 ht hz).elim

theorem cnt_append (z : Nat) (chosen : List Sec) (rep : Sec) :
    cnt z (chosen ++ [rep]) = cnt z chosen + (if rep.az = z then 1 else 0) := by
  simp only [cnt, List.countP_append, List.countP_cons, List.countP_nil, beq_iff_eq]
  omega

theorem least_mono (chosen : List Sec) (rep : Sec) : ∀ zones : List Nat,
    least chosen zones ≤ least (chosen ++ [rep]) zones
  | [] => Nat.le_refl _
  | z :: zs => by
    have hc : cnt z chosen ≤ cnt z (chosen ++ [rep]) := cnt_append z chosen rep ▸ Nat.le_add_right _ _
    exact Nat.le_min.mpr ⟨Nat.le_trans (Nat.min_le_left _ _) hc,
      Nat.le_trans (Nat.min_le_right _ _) (least_mono chosen rep zs)⟩

theorem least_le_of_mem (chosen : List Sec) {z : Nat} : ∀ {zones : List Nat}, z ∈ zones →
    least chosen zones ≤ cnt z chosen
  | y :: ys, h => by
    simp only [least]
    rcases List.mem_cons.mp h with rfl | h
    · exact Nat.min_le_left _ _
    · exact Nat.le_trans (Nat.min_le_right _ _) (least_le_of_mem chosen h)

/-- no configured zone is more than one replica ahead of the least occupied one -/
def Bal (zones : List Nat) (chosen : List Sec) : Prop :=
  ∀ z ∈ zones, cnt z chosen ≤ least chosen zones + 1

/-- the skip rule only ever lets a replica into a zone that is currently least occupied -/
theorem bal_step {zones : List Nat} {chosen : List Sec} {rep : Sec} (hz : zones.length > 1)
    (hb : Bal zones chosen) (hs : skipAZ zones chosen rep = false) : Bal zones (chosen ++ [rep]) := by
  have hle : cnt rep.az chosen ≤ least chosen zones := by
    simp only [skipAZ, hz, decide_true, Bool.true_and, Bool.and_eq_false_iff, decide_eq_false_iff_not] at hs
    omega
  intro z hzm
  have h1 := cnt_append z chosen rep
  have h2 := least_mono chosen rep zones
  have h3 := hb z hzm
  split at h1
  · rename_i h; subst h; omega
  · omega

/-- balanced after every choice, which is what `C18_balance` states -/
def AllBal (zones : List Nat) (chosen : List Sec) : Prop := ∀ k, Bal zones (chosen.take k)

theorem AllBal.bal {zones : List Nat} {chosen : List Sec} (h : AllBal zones chosen) : Bal zones chosen :=
  List.take_length (l := chosen) ▸ h chosen.length

theorem allBal_step {zones : List Nat} {chosen : List Sec} {rep : Sec} (hz : zones.length > 1)
    (hb : AllBal zones chosen) (hs : skipAZ zones chosen rep = false) : AllBal zones (chosen ++ [rep]) := by
  intro k
  by_cases hk : k ≤ chosen.length
  · rw [List.take_append_of_le_length hk]; exact hb k
  · rw [List.take_of_length_le (by rw [List.length_append, List.length_singleton]; omega)]
    exact bal_step hz hb.bal hs

theorem taken_false_iff {chosen : List Sec} {e : Nat} : taken chosen e = false ↔ e ∉ chosen.map (·.ep) := by
  simp [taken]

/-- The invariant of the loop state: it holds of `[]` and after every addition, so of every state a run passes
    through (it is not the set of reachable states), and is strong enough for `stuck_full`. -/
structure Reach (ring : List Sec) (zones : List Nat) (rf : Nat) (chosen : List Sec) : Prop where
  sub : ∀ s ∈ chosen, s ∈ ring
  nodup : (chosen.map (·.ep)).Nodup
  len : chosen.length ≤ rf
  bal : zones.length > 1 → AllBal zones chosen

theorem reach_nil (ring : List Sec) (zones : List Nat) (rf : Nat) : Reach ring zones rf [] :=
  ⟨nofun, List.nodup_nil, Nat.zero_le _, fun _ k => by rw [List.take_nil]; exact fun _ _ => Nat.zero_le _⟩

theorem reach_step {ring : List Sec} {zones : List Nat} {rf : Nat} {chosen : List Sec} {rep : Sec}
    (hr : Reach ring zones rf chosen) (hrep : rep ∈ ring) (ht : taken chosen rep.ep = false)
    (hs : skipAZ zones chosen rep = false) (hlen : chosen.length < rf) : Reach ring zones rf (chosen ++ [rep]) := by
  refine ⟨?_, ?_, by rw [List.length_append, List.length_singleton]; omega, fun hz => allBal_step hz (hr.bal hz) hs⟩
  · intro s hs'
    rcases List.mem_append.mp hs' with h | h
    · exact hr.sub s h
    · rw [List.mem_singleton.mp h]; exact hrep
  · rw [List.map_append]
    exact nodup_concat hr.nodup (taken_false_iff.mp ht)

theorem loop_ok_reach {lc : Bool} {ring : List Sec} {n : Nat} {zones : List Nat} {rf fuel : Nat} {rest : List Sec}
    {skipped : Nat} {chosen : List Sec} {reps : List Nat} (hsub : ∀ s ∈ rest, s ∈ ring)
    (hr : Reach ring zones rf chosen) (h : loop lc ring n zones rf fuel rest skipped chosen = .ok reps) :
    ∃ final, Reach ring zones rf final ∧ rf ≤ final.length ∧ reps = final.map (·.ep) := by
  induction fuel, rest, skipped, chosen using loop_induct with
  | zero | lap | oob => cases h
  | done hd => exact ⟨_, hr, hd, (Res.ok.inj h).symm⟩
  | skip _ _ hc _ ih => exact ih (cursor_mem hsub hc).2 hr h
  | add hlt _ hc ht hz ih => exact ih (cursor_mem hsub hc).2 (reach_step hr (cursor_mem hsub hc).1 ht hz hlt) h

theorem loop_ok_distinct {lc : Bool} {ring : List Sec} {n : Nat} {zones : List Nat} {rf fuel : Nat}
    {rest : List Sec} {skipped : Nat} {reps : List Nat} (hsub : ∀ s ∈ rest, s ∈ ring)
    (h : loop lc ring n zones rf fuel rest skipped [] = .ok reps) :
    reps.Nodup ∧ reps.length = rf ∧ ∀ e ∈ reps, ∃ s ∈ ring, s.ep = e := by
  obtain ⟨final, hr, hlen, rfl⟩ := loop_ok_reach hsub (reach_nil ring zones rf) h
  refine ⟨hr.nodup, by rw [List.length_map]; exact Nat.le_antisymm hr.len hlen, fun e he => ?_⟩
  obtain ⟨s, hs, rfl⟩ := List.mem_map.mp he
  exact ⟨s, hr.sub s hs, rfl⟩

theorem loop_ok_extends {lc : Bool} {ring : List Sec} {n : Nat} {zones : List Nat} {rf fuel : Nat} {rest : List Sec}
    {skipped : Nat} {chosen : List Sec} {reps : List Nat}
    (h : loop lc ring n zones rf fuel rest skipped chosen = .ok reps) : chosen.map (·.ep) <+: reps := by
  induction fuel, rest, skipped, chosen using loop_induct with
  | zero | lap | oob => cases h
  | done => exact Res.ok.inj h ▸ List.prefix_refl _
  | skip _ _ _ _ ih => exact ih h
  | add _ _ _ _ _ ih =>
    have := ih h
    rw [List.map_append] at this
    exact (List.prefix_append _ _).trans this

/-- the decisions of the loop do not depend on `rf` except for where it stops -/
theorem loop_prefix {lc : Bool} {ring : List Sec} {n : Nat} {zones : List Nat} {rf rf' fuel : Nat} {rest : List Sec}
    {skipped : Nat} {chosen : List Sec} {reps : List Nat} (hle : rf' ≤ rf) (hlen : chosen.length ≤ rf')
    (e : loop lc ring n zones rf fuel rest skipped chosen = .ok reps) :
    loop lc ring n zones rf' fuel rest skipped chosen = .ok (reps.take rf') := by
  -- where the smaller loop stops, it answers the chosen ones, which the final answer extends
  have stop : ∀ {fuel rest sk ch reps}, rf' ≤ ch.length → ch.length ≤ rf' → ch.map (·.ep) <+: reps →
      loop lc ring n zones rf' (fuel + 1) rest sk ch = .ok (reps.take rf') := by
    intro fuel rest sk ch reps h1 h2 hext
    rw [loop_done h1, Nat.le_antisymm h1 h2, ← List.length_map (f := (·.ep)), ← List.prefix_iff_eq_take.mp hext]
  induction fuel, rest, skipped, chosen using loop_induct (lc := lc) (ring := ring) (n := n) (zones := zones) (rf := rf) with
  | zero | lap | oob => cases e
  | done h => exact stop (Nat.le_trans hle h) hlen (Res.ok.inj e ▸ List.prefix_refl _)
  | @skip _ _ _ ch _ _ _ hl hc hs ih =>
    by_cases h' : rf' ≤ ch.length
    · exact stop h' hlen (loop_ok_extends e)
    · rw [loop_skip (Nat.lt_of_not_le h') hl hc hs]; exact ih hlen e
  | @add _ _ _ ch _ _ _ hl hc ht hz ih =>
    by_cases h' : rf' ≤ ch.length
    · have hext := loop_ok_extends e
      rw [List.map_append] at hext
      exact stop h' hlen ((List.prefix_append _ _).trans hext)
    · rw [loop_add (Nat.lt_of_not_le h') hl hc ht hz]
      exact ih (by rw [List.length_append, List.length_singleton]; omega) e

theorem mem_dedup {a : Nat} : ∀ {l : List Nat}, a ∈ dedup l ↔ a ∈ l
  | [] => Iff.rfl
  | b :: l => by
    simp only [dedup]
    split
    · rename_i h
      rw [mem_dedup, List.mem_cons]
      exact ⟨Or.inr, fun h' => h'.elim (fun e => e ▸ List.contains_iff_mem.mp h) id⟩
    · rw [List.mem_cons, List.mem_cons, mem_dedup]

theorem nodup_dedup : ∀ (l : List Nat), (dedup l).Nodup
  | [] => List.nodup_nil
  | b :: l => by
    simp only [dedup]
    split
    · exact nodup_dedup l
    · rename_i h
      exact List.nodup_cons.mpr ⟨fun hb => h (List.contains_iff_mem.mpr (mem_dedup.mp hb)), nodup_dedup l⟩

theorem mem_zonesOf {eps : List Ep} {z : Nat} : z ∈ zonesOf eps ↔ ∃ e ∈ eps, e.az = z := by
  rw [zonesOf, mem_dedup, List.mem_map]

/-- No user in the development.  The fuel has to cover the `n - skipped` skips that remain before the lap check fires;
    the exactness results go the other way, from the answer `.stuck` to a `Stuck` state (`loop_stuck_reach`). -/
theorem stuck_detected (ring : List Sec) (n : Nat) (zones : List Nat) (rf : Nat) (chosen : List Sec)
    (hne : ring ≠ []) (hst : Stuck ring zones chosen) (hlen : chosen.length < rf) :
    ∀ (fuel : Nat) (rest : List Sec) (skipped : Nat), (∀ s ∈ rest, s ∈ ring) → skipped ≤ n →
      n - skipped < fuel →
      loop true ring n zones rf fuel rest skipped chosen = .stuck := by
  intro fuel rest skipped hsub hs hf
  induction fuel, rest, skipped, chosen using loop_induct with
  | zero => exact absurd hf (Nat.not_lt_zero _)
  | done h => exact absurd hlen (Nat.not_lt.mpr h)
  | lap => rfl
  | oob _ _ hc => exact absurd (cursor_eq_none.mp hc).2 hne
  | skip _ hl hc _ ih =>
    have hlt : _ < n := Nat.lt_of_le_of_ne hs (hl rfl)
    exact ih hst hlen (cursor_mem hsub hc).2 hlt (Nat.lt_of_lt_of_le (Nat.sub_succ_lt_self n _ hlt) (Nat.le_of_lt_succ hf))
  | add _ _ hc ht hz => exact (hst.not_admitted (cursor_mem hsub hc).1 ht hz).elim

end Thanos.Hashring
