import Thanos.Lemmas.Rows
import Thanos.Lemmas.OrderedInsert
import Thanos.Lemmas.ListFacts
/-
  C04: the first row of `overlapSplit` ("virtual replica 0") on chunks that are cuts of one time-sorted sequence `S`
  (`CutOf`), sorted by start time, such that after every chunk end some chunk starts (which is what contiguous,
  per-replica disjoint cuts give: Lemmas/Cuts.lean): row 0 is a gap-free prefix of `S` (`ff_prefix`; read as all of `S`
  in `firstFit_row0`, up to a bound in `firstFit_row0_bounded`).  The union of cuts sorted by start time, however they
  overlap, holds exactly what they hold (`mem_unionFrom_cuts`).  A cut of `S` is the samples of `S` in `[mint, maxt]`, so
  one that holds a sample in the query range is sent (`inRange_of_mem`).
  Also here, for the proxy specification of Model/ReadPath.lean: `proxyChunks` hands over the chunks that overlap the
  range, each content once, sorted by start time (`proxyChunks_spec`).
-/
namespace Thanos.Dedup

/-- the chunk is a non-empty contiguous cut of the sample sequence `S` -/
def CutOf (S : List Sample) (c : RChunk) : Prop := c.samples ≠ [] ∧ c.samples <:+: S

/-- what first-fit does to its first row when the chunk `c` comes -/
def ffStep (row : List RChunk) (c : RChunk) : List RChunk := if fits row c then row ++ [c] else row

def headRow (rows : List (List RChunk)) : List RChunk := rows.head?.getD []

theorem headRow_splitInsert (c : RChunk) : ∀ (rows : List (List RChunk)),
    headRow (splitInsert c rows) = ffStep (headRow rows) c
  | [] => rfl
  | row :: rest => by
    rw [splitInsert_cons]
    show headRow (if fits row c then _ else _) = if fits row c then _ else _
    split <;> rfl

theorem headRow_overlapSplit (cs : List RChunk) : headRow (overlapSplit cs) = cs.foldl ffStep [] :=
  (List.foldl_hom headRow fun rows c => (headRow_splitInsert c rows).symm).symm

theorem mint_of_cons {c : RChunk} {x : Sample} {r : List Sample} (h : c.samples = x :: r) :
    c.mint = x.t ∧ c.maxt = lastOf x r := by
  unfold RChunk.mint RChunk.maxt lastOf
  rw [h, List.getLast?_cons]
  simp

theorem maxt_of_suffix {c : RChunk} {y : Sample} {r : List Sample} (h : (y :: r) <:+ c.samples) :
    lastOf y r = c.maxt := by
  obtain ⟨x, q, hx⟩ := List.exists_cons_of_ne_nil (l := c.samples)
    (by obtain ⟨p, hp⟩ := h; rw [← hp]; simp)
  rw [(mint_of_cons hx).2]
  exact lastOf_suffix (hx ▸ h)

theorem maxt_mem {c : RChunk} (h : c.samples ≠ []) : ∃ z ∈ c.samples, z.t = c.maxt := by
  obtain ⟨x, r, hx⟩ := List.exists_cons_of_ne_nil h
  exact ⟨_, hx ▸ lastOf_mem x r, (mint_of_cons hx).2.symm⟩

theorem mint_of_prefix {c : RChunk} {Q : List Sample} {g : Sample} (hne : c.samples ≠ [])
    (hpre : c.samples <+: Q) (hg : Q.head? = some g) : c.mint = g.t := by
  obtain ⟨x, r, hx⟩ := List.exists_cons_of_ne_nil hne
  obtain ⟨t, ht⟩ := hpre
  rw [← ht, hx] at hg
  cases hg
  exact (mint_of_cons hx).1

theorem cut_prefix {P Q c : List Sample} {x : Sample} {r : List Sample} (hS : SSorted (P ++ Q)) (hc : c = x :: r)
    (hinf : c <:+: P ++ Q) (hlt : ∀ a ∈ P, a.t < x.t) (hhead : ∀ g, Q.head? = some g → x.t ≤ g.t) : c <+: Q := by
  obtain ⟨s, t, hst⟩ := hinf
  subst hc
  rcases List.append_eq_append_iff.mp (show P ++ Q = s ++ ((x :: r) ++ t) by rw [← hst, List.append_assoc])
    with ⟨a, _, h2⟩ | ⟨a, h1, h2⟩
  · -- Q = a ++ (x :: r) ++ t: `a` is empty, since its head would be the head of `Q` and stand before `x`
    cases a with
    | nil => exact ⟨t, h2.symm⟩
    | cons y a' =>
      exact absurd (ssorted_append_lt (A := y :: a') (B := (x :: r) ++ t) (h2 ▸ (List.pairwise_append.mp hS).2.1)
        y List.mem_cons_self x (List.mem_append_left _ List.mem_cons_self)) (Int.not_lt.mpr (hhead y (h2 ▸ rfl)))
  · -- P = s ++ a, (x :: r) ++ t = a ++ Q: `a` is empty, since its head would be `x`, which is not in `P`
    cases a with
    | nil => exact ⟨t, h2⟩
    | cons y a' =>
      cases (List.cons.inj h2).1
      exact absurd (hlt x (h1 ▸ List.mem_append_right _ List.mem_cons_self)) (Int.lt_irrefl _)

theorem mem_chunk_bounds {c : RChunk} {S : List Sample} (hS : SSorted S) (hinf : c.samples <:+: S)
    {a : Sample} (ha : a ∈ c.samples) : c.mint ≤ a.t ∧ a.t ≤ c.maxt := by
  obtain ⟨x, r, hx⟩ := List.exists_cons_of_ne_nil (List.ne_nil_of_mem ha)
  obtain ⟨h1, h2⟩ := mint_of_cons hx
  have hs : SSorted (x :: r) := by rw [← hx]; exact List.Pairwise.sublist hinf.sublist hS
  rw [hx] at ha
  have := ssorted_bounds hs rfl List.getLast?_cons a ha
  unfold lastOf at h2
  omega

theorem mint_le_maxt {c : RChunk} {S : List Sample} (hS : SSorted S) (hne : c.samples ≠ [])
    (hinf : c.samples <:+: S) : c.mint ≤ c.maxt := by
  obtain ⟨z, hz, _⟩ := maxt_mem hne
  exact Int.le_trans (mem_chunk_bounds hS hinf hz).1 (mem_chunk_bounds hS hinf hz).2

/-- a cut that holds a sample inside the range overlaps the range: the stores send it -/
theorem inRange_of_mem {S : List Sample} (hS : SSorted S) {qmint qmaxt : Int} {c : RChunk}
    (hinf : c.samples <:+: S) {x : Sample} (hx : x ∈ c.samples) (h1 : qmint ≤ x.t) (h2 : x.t ≤ qmaxt) :
    inRange qmint qmaxt c = true := by
  have hb := mem_chunk_bounds hS hinf hx
  simp only [inRange, Bool.and_eq_true, decide_eq_true_eq]
  omega

theorem mem_cut_of_bounds {c : RChunk} {S : List Sample} (hS : SSorted S) (hne : c.samples ≠ [])
    (hinf : c.samples <:+: S) {w : Sample} (hw : w ∈ S) (h1 : c.mint ≤ w.t) (h2 : w.t ≤ c.maxt) :
    w ∈ c.samples := by
  obtain ⟨x, r, hx⟩ := List.exists_cons_of_ne_nil hne
  rw [(mint_of_cons hx).1] at h1
  rw [(mint_of_cons hx).2] at h2
  exact infix_contig hS hinf (hx ▸ List.mem_cons_self) (hx ▸ lastOf_mem x r) hw h1 h2

theorem last_of_suffix {P : List Sample} (hP : SSorted P) {c : RChunk} (hne : c.samples ≠ [])
    (hcP : c.samples <:+ P) : ∃ w ∈ c.samples, c.maxt = w.t ∧ ∀ a ∈ P, a.t ≤ w.t := by
  obtain ⟨cx, cr, hcx⟩ := List.exists_cons_of_ne_nil hne
  refine ⟨cr.getLast?.getD cx, by rw [hcx]; exact lastOf_mem cx cr, (mint_of_cons hcx).2, fun a ha => ?_⟩
  obtain ⟨p0, hp0⟩ := hcP
  rw [← hp0, hcx] at ha hP
  rcases List.mem_append.mp ha with ha | ha
  · exact Int.le_of_lt (ssorted_append_lt hP a ha _ (lastOf_mem cx cr))
  · exact le_lastOf (List.Pairwise.sublist (List.sublist_append_right p0 _) hP) a ha

theorem fits_append (row : List RChunk) (l c : RChunk) : fits (row ++ [l]) c = decide (l.maxt < c.mint) := by
  simp [fits]

/-- The state of first-fit seen from row 0, after the chunks `done`: the row holds the prefix `P`
    of `S = P ++ Q`; a chunk goes to its end iff it starts after all of `P`; `P` ends where a chunk ends
    (the form in which `hsucc` of `ff_prefix` is asked); every chunk seen so far starts before all of `Q`. -/
structure Row0 (cs done row : List RChunk) (P Q : List Sample) : Prop where
  flat : row.flatMap (·.samples) = P
  fit : ∀ c, fits row c = true ↔ ∀ a ∈ P, a.t < c.mint
  bd : P = [] ∨ ∃ c ∈ cs, c.samples <:+ P
  before : ∀ c ∈ done, ∀ b ∈ Q, c.mint < b.t

theorem Row0.init (cs : List RChunk) (S : List Sample) : Row0 cs [] [] [] S :=
  ⟨rfl, fun _ => ⟨fun _ _ ha => (nomatch ha), fun _ => rfl⟩, Or.inl rfl, fun _ hc => nomatch hc⟩

/-- Row 0 of first-fit is a gap-free prefix.  `B`: a downward closed set of timestamps holding every chunk start
    (chunks starting outside are not sent by the stores) such that wherever a chunk ends (and at the very start) with
    the next sample in `B`, some chunk begins. -/
theorem ff_prefix (B : Int → Prop) (hB : ∀ {a b : Int}, a ≤ b → B b → B a)
    (S : List Sample) (hS : SSorted S) (cs : List RChunk)
    (hmx : ∀ c ∈ cs, B c.mint)
    (hcut : ∀ c ∈ cs, CutOf S c)
    (hsorted : cs.Pairwise (fun a b => a.mint ≤ b.mint))
    (hsucc : ∀ P Q g, S = P ++ Q → Q.head? = some g → B g.t → (P = [] ∨ ∃ c ∈ cs, c.samples <:+ P) →
      ∃ d ∈ cs, d.samples ≠ [] ∧ d.samples <+: Q) :
    ∀ (rest done row : List RChunk) (P Q : List Sample), cs = done ++ rest → S = P ++ Q →
      Row0 cs done row P Q →
      ∃ P' Q', S = P' ++ Q' ∧ (rest.foldl ffStep row).flatMap (·.samples) = P' ∧
        ∀ g, Q'.head? = some g → ¬ B g.t := by
  intro rest
  induction rest with
  | nil =>
    intro done row P Q hcs hPQ hI
    refine ⟨P, Q, hPQ, hI.flat, fun g hg hBg => ?_⟩
    -- a chunk starting at the head of `Q` would be among those already seen
    obtain ⟨d, hd, hdne, hdQ⟩ := hsucc P Q g hPQ hg hBg hI.bd
    have := hI.before d (by simpa [hcs] using hd) g (List.mem_of_mem_head? hg)
    rw [mint_of_prefix hdne hdQ hg] at this
    exact absurd this (Int.lt_irrefl _)
  | cons c rest ih =>
    intro done row P Q hcs hPQ hI
    have hccs : c ∈ cs := by rw [hcs]; simp
    obtain ⟨hcne, hcinf⟩ := hcut c hccs
    have hcs' : cs = (done ++ [c]) ++ rest := hcs.trans (List.append_cons ..)
    have hSs : SSorted (P ++ Q) := hPQ ▸ hS
    rw [List.foldl_cons, ffStep]
    by_cases hfit : fits row c = true
    · rw [if_pos hfit]
      have hPlt := (hI.fit c).mp hfit
      obtain ⟨x, r, hx⟩ := List.exists_cons_of_ne_nil hcne
      have hcm := (mint_of_cons hx).1
      -- `c` lies after `P`, and not after the head `y` of `Q`: it is a prefix of `Q`
      obtain ⟨v, huv⟩ := cut_prefix hSs hx (hPQ ▸ hcinf) (fun a ha => hcm ▸ hPlt a ha) fun y hy =>
        Int.not_lt.mp fun hyx => by
          -- some chunk `d` starts at `y`; it has not been seen, so it starts no earlier than `c`
          obtain ⟨d, hd, hdne, hdQ⟩ := hsucc P Q y hPQ hy (hB (hcm ▸ Int.le_of_lt hyx) (hmx c hccs)) hI.bd
          have hdm := mint_of_prefix hdne hdQ hy
          rw [hcs] at hd hsorted
          rcases List.mem_append.mp hd with hd | hd
          · exact absurd (hdm ▸ hI.before d hd y (List.mem_of_mem_head? hy)) (Int.lt_irrefl _)
          · have hle : c.mint ≤ d.mint := by
              rcases List.mem_cons.mp hd with rfl | hd
              · exact Int.le_refl _
              · exact (List.pairwise_cons.mp (List.pairwise_append.mp hsorted).2.1).1 d hd
            exact absurd (Int.lt_of_le_of_lt (hcm ▸ hdm ▸ hle) hyx) (Int.lt_irrefl _)
      have hQs : SSorted (c.samples ++ v) := huv ▸ (List.pairwise_append.mp hSs).2.1
      have hS' : S = (P ++ c.samples) ++ v := by rw [hPQ, ← huv, List.append_assoc]
      -- the row now ends with the last sample `w` of `c`
      obtain ⟨w, hwc, hmax, hle⟩ := last_of_suffix (List.Pairwise.sublist (List.sublist_append_left _ v) (hS' ▸ hS))
        hcne (List.suffix_append P _)
      apply ih (done ++ [c]) (row ++ [c]) (P ++ c.samples) v hcs' hS'
      refine ⟨by simp [List.flatMap_append, hI.flat], fun c' => ?_,
        Or.inr ⟨c, hccs, List.suffix_append _ _⟩, fun c' hc' b hb => ?_⟩
      · rw [fits_append, decide_eq_true_eq, hmax]
        exact ⟨fun h a ha => Int.lt_of_le_of_lt (hle a ha) h, fun h => h w (List.mem_append_right _ hwc)⟩
      · rcases List.mem_append.mp hc' with hc' | hc'
        · exact hI.before c' hc' b (huv ▸ List.mem_append_right _ hb)
        · obtain rfl := List.mem_singleton.mp hc'
          exact hcm ▸ ssorted_append_lt hQs x (hx ▸ List.mem_cons_self) b hb
    · rw [if_neg hfit]
      apply ih (done ++ [c]) row P Q hcs' hPQ
      refine ⟨hI.flat, hI.fit, hI.bd, fun c' hc' b hb => ?_⟩
      rcases List.mem_append.mp hc' with hc' | hc'
      · exact hI.before c' hc' b hb
      · obtain rfl := List.mem_singleton.mp hc'
        -- otherwise `c` would start after all of `P` and fit
        refine Int.not_le.mp fun hle => hfit ((hI.fit c').mpr fun a ha => ?_)
        exact Int.lt_of_lt_of_le (ssorted_append_lt hSs a ha b hb) hle

/-- a following chunk is only required where the next sample is at or before `Mx`; row 0 is then a prefix `P` of `S`,
    and what it leaves out starts beyond `Mx` -/
theorem firstFit_row0_bounded (S : List Sample) (hS : SSorted S) (cs : List RChunk) (Mx : Int)
    (hmx : ∀ c ∈ cs, c.mint ≤ Mx)
    (hcut : ∀ c ∈ cs, c.samples ≠ [] ∧ c.samples <:+: S)
    (hsorted : cs.Pairwise (fun a b => a.mint ≤ b.mint))
    (hsucc : ∀ P Q g, S = P ++ Q → Q.head? = some g → g.t ≤ Mx → (P = [] ∨ ∃ c ∈ cs, c.samples <:+ P) →
      ∃ d ∈ cs, d.samples ≠ [] ∧ d.samples <+: Q)
    (hne : cs ≠ []) :
    ∃ P Q, S = P ++ Q ∧ (headRow (overlapSplit cs)).flatMap (·.samples) = P ∧
      ∀ g, Q.head? = some g → Mx < g.t := by
  rw [headRow_overlapSplit]
  obtain ⟨P, Q, h1, h2, h3⟩ := ff_prefix (· ≤ Mx) Int.le_trans S hS cs hmx hcut hsorted hsucc
    cs [] [] [] S rfl rfl (Row0.init cs S)
  exact ⟨P, Q, h1, h2, fun g hg => Int.not_le.mp (h3 g hg)⟩

/-- the unbounded form: a chunk follows wherever one ends before the end of `S`, and row 0 is all of `S`; no proof uses
    it (C04 goes through the bounded form) -/
theorem firstFit_row0 (S : List Sample) (hS : SSorted S) (cs : List RChunk)
    (hcut : ∀ c ∈ cs, c.samples ≠ [] ∧ c.samples <:+: S)
    (hsorted : cs.Pairwise (fun a b => a.mint ≤ b.mint))
    (hsucc : ∀ P Q, S = P ++ Q → Q ≠ [] → (P = [] ∨ ∃ c ∈ cs, c.samples <:+ P) →
      ∃ d ∈ cs, d.samples ≠ [] ∧ d.samples <+: Q)
    (hne : cs ≠ []) : (headRow (overlapSplit cs)).flatMap (·.samples) = S := by
  rw [headRow_overlapSplit]
  obtain ⟨P, Q, h1, h2, h3⟩ := ff_prefix (fun _ => True) (fun _ _ => trivial) S hS cs
    (fun _ _ => trivial) hcut hsorted
    (fun P Q g hPQ hg _ hbd => hsucc P Q hPQ (fun h => by rw [h] at hg; cases hg) hbd)
    cs [] [] [] S rfl rfl (Row0.init cs S)
  cases Q with
  | nil => rw [h1, List.append_nil]; exact h2
  | cons g Q => exact absurd trivial (h3 g rfl)

theorem rowOK_pairwise {S : List Sample} (hS : SSorted S) (row : List RChunk) (hok : RowOK row)
    (hcut : ∀ c ∈ row, CutOf S c) : row.Pairwise fun a b => a.maxt < b.mint := by
  induction row with
  | nil => exact List.Pairwise.nil
  | cons c row ih =>
    cases row with
    | nil => exact List.pairwise_singleton _ _
    | cons d row =>
      have ih := ih hok.2 fun e he => hcut e (List.mem_cons_of_mem _ he)
      have hd := hcut d (List.mem_cons_of_mem _ List.mem_cons_self)
      refine List.pairwise_cons.mpr ⟨fun e he => ?_, ih⟩
      rcases List.mem_cons.mp he with rfl | he
      · exact hok.1
      · exact Int.lt_trans (Int.lt_of_lt_of_le hok.1 (mint_le_maxt hS hd.1 hd.2)) ((List.pairwise_cons.mp ih).1 e he)

theorem rowOK_sorted {S : List Sample} (hS : SSorted S) (row : List RChunk) (hok : RowOK row)
    (hcut : ∀ c ∈ row, CutOf S c) : row.Pairwise fun a b => a.mint ≤ b.mint :=
  (rowOK_pairwise hS row hok hcut).imp_of_mem fun ha _ h =>
    Int.le_of_lt (Int.lt_of_le_of_lt (mint_le_maxt hS (hcut _ ha).1 (hcut _ ha).2) h)

theorem row_ssorted {S : List Sample} (hS : SSorted S) (row : List RChunk) (hok : RowOK row)
    (hcut : ∀ c ∈ row, CutOf S c) : SSorted (row.flatMap (·.samples)) :=
  List.pairwise_flatMap.mpr ⟨fun c hc => List.Pairwise.sublist (hcut c hc).2.sublist hS,
    (rowOK_pairwise hS row hok hcut).imp_of_mem fun ha hb hlt _ hx _ hy =>
      Int.lt_of_le_of_lt (mem_chunk_bounds hS (hcut _ ha).2 hx).2
        (Int.lt_of_lt_of_le hlt (mem_chunk_bounds hS (hcut _ hb).2 hy).1)⟩

/-- a row of cuts read in order is a sub-sequence of `S`; a fact listed for C04 that no proof uses -/
theorem row_sublist : ∀ (row : List RChunk) (S : List Sample), SSorted S → RowOK row →
    (∀ c ∈ row, c.samples ≠ [] ∧ c.samples <:+: S) → (row.flatMap (·.samples)).Sublist S :=
  fun row _ hS hok hcut => ssorted_sublist_of_subset (row_ssorted hS row hok hcut) hS fun _ hx =>
    let ⟨c, hc, hxc⟩ := List.mem_flatMap.mp hx
    (hcut c hc).2.subset hxc

theorem insertSorted_eq_ins (c : RChunk) (l : List RChunk) :
    insertSorted c l = OrderedInsert.ins (fun a b => chunkLe a b = true) c l := by
  induction l with
  | nil => rfl
  | cons d ds ih => simp only [insertSorted, OrderedInsert.ins, ih]

theorem mem_sortChunks {x : RChunk} {l : List RChunk} : x ∈ sortChunks l ↔ x ∈ l :=
  (OrderedInsert.sort_perm insertSorted_eq_ins l).mem_iff

theorem chunkLe_mint {a b : RChunk} (h : chunkLe a b = true) : a.mint ≤ b.mint := by
  by_cases hm : a.mint = b.mint
  · exact Int.le_of_eq hm
  · rw [chunkLe, if_pos hm] at h
    exact Int.le_of_lt (of_decide_eq_true h)

theorem not_chunkLe_mint {a b : RChunk} (h : ¬ chunkLe a b = true) : b.mint ≤ a.mint := by
  by_cases hm : a.mint = b.mint
  · exact Int.le_of_eq hm.symm
  · rw [chunkLe, if_pos hm] at h
    exact Int.not_lt.mp fun hlt => h (decide_eq_true hlt)

theorem sortChunks_sorted (l : List RChunk) : (sortChunks l).Pairwise (fun a b => a.mint ≤ b.mint) :=
  OrderedInsert.sort_pairwise insertSorted_eq_ins (R := fun a b : RChunk => a.mint ≤ b.mint) (fun _ _ _ => Int.le_trans) l
    (List.pairwise_of_forall fun _ _ => ⟨chunkLe_mint, not_chunkLe_mint⟩)

def dedupStep (acc : List RChunk) (c : RChunk) : List RChunk :=
  if acc.any (fun d => d.samples == c.samples) then acc else acc ++ [c]

theorem dedupContent_eq (l : List RChunk) : dedupContent l = l.foldl dedupStep [] := rfl

theorem mem_dedupStep {acc : List RChunk} {d x : RChunk} (h : x ∈ dedupStep acc d) : x ∈ acc ∨ x = d := by
  unfold dedupStep at h
  split at h
  · exact Or.inl h
  · exact (List.mem_append.mp h).imp_right List.mem_singleton.mp

theorem subset_dedupStep (acc : List RChunk) (d : RChunk) : acc ⊆ dedupStep acc d := by
  unfold dedupStep
  split
  · exact fun _ h => h
  · exact fun _ h => List.mem_append_left _ h

theorem dedupStep_has (acc : List RChunk) (d : RChunk) : ∃ c' ∈ dedupStep acc d, c'.samples = d.samples := by
  unfold dedupStep
  split
  · rename_i h
    obtain ⟨e, he, hes⟩ := List.any_eq_true.mp h
    exact ⟨e, he, by simpa using hes⟩
  · exact ⟨d, List.mem_append_right _ (List.mem_singleton.mpr rfl), rfl⟩

theorem mem_dedupContent_sub {l : List RChunk} {x : RChunk} : x ∈ dedupContent l → x ∈ l :=
  List.foldlRecOn l dedupStep (motive := fun acc => x ∈ acc → x ∈ l) nofun
    fun _ ih _ hd hx => (mem_dedupStep hx).elim ih (· ▸ hd)

/-- once a chunk with the bytes of `c` is kept, or while `c` is still to come, one is kept at the end -/
theorem dedup_fold_has (l acc : List RChunk) (c : RChunk)
    (h : (∃ e ∈ acc, e.samples = c.samples) ∨ c ∈ l) : ∃ c' ∈ l.foldl dedupStep acc, c'.samples = c.samples := by
  induction l generalizing acc with
  | nil => exact h.resolve_right List.not_mem_nil
  | cons d l ih =>
    refine ih (dedupStep acc d) ?_
    rcases h with ⟨e, he, hes⟩ | hc
    · exact Or.inl ⟨e, subset_dedupStep acc d he, hes⟩
    · rcases List.mem_cons.mp hc with rfl | hc
      · exact Or.inl (dedupStep_has acc c)
      · exact Or.inr hc

theorem dedupContent_complete {l : List RChunk} {c : RChunk} (h : c ∈ l) :
    ∃ c' ∈ dedupContent l, c'.samples = c.samples :=
  dedup_fold_has l [] c (Or.inr h)

theorem proxyChunks_spec (qmint qmaxt : Int) (all : List RChunk) :
    (∀ c ∈ proxyChunks qmint qmaxt all, c ∈ all.filter (inRange qmint qmaxt)) ∧
    (∀ d ∈ all.filter (inRange qmint qmaxt), ∃ d' ∈ proxyChunks qmint qmaxt all, d'.samples = d.samples) ∧
    (proxyChunks qmint qmaxt all).Pairwise (fun a b => a.mint ≤ b.mint) := by
  refine ⟨fun c hc => mem_dedupContent_sub (mem_sortChunks.mp hc), fun d hd => ?_, sortChunks_sorted _⟩
  obtain ⟨d', hd', hs'⟩ := dedupContent_complete hd
  exact ⟨d', mem_sortChunks.mpr hd', hs'⟩

/-- no coverage assumption, any overlaps -/
theorem mem_unionFrom_cuts (S : List Sample) (hS : SSorted S) : ∀ (cs : List RChunk) (l : Int),
    (∀ c ∈ cs, c.samples ≠ [] ∧ c.samples <:+: S) → cs.Pairwise (fun a b => a.mint ≤ b.mint) →
    ∀ x, x ∈ unionFrom l (cs.map (·.samples)) ↔ (∃ c ∈ cs, x ∈ c.samples) ∧ l < x.t := by
  intro cs
  induction cs with
  | nil => intro l _ _ x; simp [unionFrom]
  | cons c0 cs ih =>
    intro l hcut hsorted x
    obtain ⟨hc0ne, hc0inf⟩ := hcut c0 List.mem_cons_self
    have hc0s : SSorted c0.samples := List.Pairwise.sublist hc0inf.sublist hS
    have hp := List.pairwise_cons.mp hsorted
    have hcut' : ∀ c ∈ cs, CutOf S c := fun c hc => hcut c (List.mem_cons_of_mem _ hc)
    have hnew : ∀ a, a ∈ dropLt (l + 1) c0.samples ↔ a ∈ c0.samples ∧ l < a.t :=
      fun _ => mem_dropLt_sorted hc0s
    simp only [List.map_cons, List.mem_cons, exists_eq_or_imp]
    cases hd : dropLt (l + 1) c0.samples with
    | nil =>
      -- nothing of `c0` lies after `l`
      rw [hd] at hnew
      rw [unionFrom_cons_nil hd, ih l hcut' hp.2 x]
      exact ⟨fun ⟨h, hl⟩ => ⟨Or.inr h, hl⟩,
        fun ⟨h, hl⟩ => h.elim (fun h0 => nomatch (hnew x).mpr ⟨h0, hl⟩) (fun h => ⟨h, hl⟩)⟩
    | cons y r =>
      -- the samples of `c0` after `l`, then the later cuts from the end of `c0` on
      have hlast : lastOf y r = c0.maxt := maxt_of_suffix (hd ▸ dropLt_suffix _ _)
      have hy : l < c0.maxt := by
        obtain ⟨hy0, hly⟩ := (hnew y).mp (hd ▸ List.mem_cons_self)
        exact Int.lt_of_lt_of_le hly (mem_chunk_bounds hS hc0inf hy0).2
      rw [unionFrom_cons_cons hd, List.mem_append, ← hd, hnew x, hlast, ih c0.maxt hcut' hp.2 x]
      constructor
      · rintro (⟨h0, hl⟩ | ⟨h, hl⟩)
        · exact ⟨Or.inl h0, hl⟩
        · exact ⟨Or.inr h, Int.lt_trans hy hl⟩
      · rintro ⟨h0 | ⟨c, hc, hxc⟩, hl⟩
        · exact Or.inl ⟨h0, hl⟩
        · by_cases hgt : c0.maxt < x.t
          · exact Or.inr ⟨⟨c, hc, hxc⟩, hgt⟩
          · -- c0.mint ≤ c.mint ≤ x.t ≤ c0.maxt: x lies inside the cut c0
            exact Or.inl ⟨mem_cut_of_bounds hS hc0ne hc0inf ((hcut' c hc).2.subset hxc)
              (Int.le_trans (hp.1 c hc) (mem_chunk_bounds hS (hcut' c hc).2 hxc).1) (Int.not_lt.mp hgt), hl⟩

/-- Against a split `cs = done ++ rest`, `S = P ++ Q` at `last`, with `done` holding samples of `P` only: the union from
    `last` on of the cuts still to come is `Q`, whatever their overlaps (for `done = []`, `P = []`: the union of sorted cuts
    that cover `S` is `S`).  No proof uses it: C04 reads the union through `mem_unionFrom_cuts`. -/
theorem union_cover (S : List Sample) (hS : SSorted S) (cs : List RChunk)
    (hcut : ∀ c ∈ cs, c.samples ≠ [] ∧ c.samples <:+: S)
    (hsorted : cs.Pairwise (fun a b => a.mint ≤ b.mint))
    (hcover : ∀ x ∈ S, ∃ c ∈ cs, x ∈ c.samples) :
    ∀ (rest done : List RChunk) (P Q : List Sample) (last : Int), cs = done ++ rest → S = P ++ Q →
      (∀ a ∈ P, a.t ≤ last) → (∀ b ∈ Q, last < b.t) →
      (∀ c ∈ done, ∀ x ∈ c.samples, x ∈ P) →
      unionFrom last (rest.map (·.samples)) = Q := by
  intro rest done P Q last hcs hPQ hP hQ hdone
  subst hcs hPQ
  have hcutr : ∀ c ∈ rest, c.samples ≠ [] ∧ c.samples <:+: P ++ Q :=
    fun c hc => hcut c (List.mem_append_right _ hc)
  -- both sides are time-sorted; they hold the same samples
  refine ssorted_ext (unionFrom_sorted (List.forall_mem_map.mpr fun c hc =>
    List.Pairwise.sublist (hcutr c hc).2.sublist hS)).1 (List.pairwise_append.mp hS).2.1 fun x => ?_
  rw [mem_unionFrom_cuts _ hS rest last hcutr (List.pairwise_append.mp hsorted).2.1 x]
  constructor
  · rintro ⟨⟨c, hc, hxc⟩, hl⟩
    rcases List.mem_append.mp ((hcutr c hc).2.subset hxc) with hx | hx
    · exact absurd hl (Int.not_lt.mpr (hP x hx))
    · exact hx
  · intro hx
    refine ⟨?_, hQ x hx⟩
    obtain ⟨c, hc, hxc⟩ := hcover x (List.mem_append_right _ hx)
    rcases List.mem_append.mp hc with hc | hc
    · exact absurd (ssorted_append_lt hS x (hdone c hc x hxc) x hx) (Int.lt_irrefl _)
    · exact ⟨c, hc, hxc⟩

def covered (cs : List RChunk) (x : Sample) : Bool := cs.any fun c => c.samples.contains x

theorem covered_iff {cs : List RChunk} {x : Sample} : covered cs x = true ↔ ∃ c ∈ cs, x ∈ c.samples := by
  simp [covered, List.any_eq_true]

end Thanos.Dedup
