import Thanos.Model.PostingsCodec
import Thanos.Lemmas.Uvarint
/-
  C12: the streamed decoder finds what a read of the whole payload finds, wherever the chunk
  boundaries are and whatever the bytes (`streamNext_flatten`); a simulation argument (decoded
  iterator ≈ list iterator, `Sim`) shared by the two codecs, whose invariants have `Enc` in common.
-/
namespace Thanos.PostingsCodec
open Thanos.Uvarint

/-- non-decreasing from `prev`, and every entry below 2^64: the order is what `encodeFrom` accepts, the bound is
    what makes the 64-bit addition of the decoders give back the entry (`Enc.cons`) -/
def Nondec (prev : Nat) : List Nat → Prop
  | [] => True
  | v :: vs => prev ≤ v ∧ v < M64 ∧ Nondec v vs

theorem encodeFrom_cons {prev v : Nat} {vs bs : List Nat} : encodeFrom prev (v :: vs) = some bs ↔
    prev ≤ v ∧ ∃ bs', encodeFrom v vs = some bs' ∧ bs = uvarint (v - prev) ++ bs' := by
  rw [encodeFrom]
  by_cases hlt : v < prev
  · rw [if_pos hlt]
    exact ⟨nofun, fun h => absurd h.1 (Nat.not_le.mpr hlt)⟩
  · rw [if_neg hlt]
    cases encodeFrom v vs with
    | none => exact ⟨nofun, nofun⟩
    | some bs' =>
      exact ⟨fun h => ⟨Nat.le_of_not_lt hlt, bs', rfl, (Option.some.inj h).symm⟩, fun ⟨_, _, h, hb⟩ => by cases h; rw [hb]⟩

theorem nondec_iff_encodeFrom : ∀ (l : List Nat) (prev : Nat),
    Nondec prev l ↔ (∀ v ∈ l, v < M64) ∧ ∃ bs, encodeFrom prev l = some bs
  | [], _ => ⟨fun _ => ⟨nofun, [], rfl⟩, fun _ => trivial⟩
  | v :: vs, prev => by
    rw [Nondec, nondec_iff_encodeFrom vs v, List.forall_mem_cons]
    constructor
    · rintro ⟨h1, h2, h3, bs, hbs⟩
      exact ⟨⟨h2, h3⟩, _, encodeFrom_cons.mpr ⟨h1, bs, hbs, rfl⟩⟩
    · rintro ⟨⟨h2, h3⟩, bs, hbs⟩
      obtain ⟨h1, bs', hr, _⟩ := encodeFrom_cons.mp hbs
      exact ⟨h1, h2, h3, bs', hr⟩

/-- every element takes at least one byte -/
theorem length_le_encodeFrom (l : List Nat) (prev : Nat) (bs : List Nat) (h : encodeFrom prev l = some bs) :
    l.length ≤ bs.length := by
  induction l generalizing prev bs with
  | nil => exact Nat.zero_le _
  | cons v vs ih =>
    obtain ⟨_, bs', h1, h2⟩ := encodeFrom_cons.mp h
    have := ih v bs' h1
    have hp := uvarint_length_pos (v - prev)
    subst h2
    simp only [List.length_cons, List.length_append]
    omega

theorem plainNext_head {s : Plain} {x : Nat} {c : List Nat} (herr : s.err = false) (hb : s.buf = uvarint x ++ c)
    (hx : x < 2 ^ 64) : s.next = (true, ⟨(s.cur + x) % M64, c, false⟩) := by
  have hn : ¬ (((uvarint x).length : Int) < 1) := by have := uvarint_length_pos x; omega
  have hne : (uvarint x ++ c).isEmpty = false :=
    List.isEmpty_eq_false_iff.mpr (List.append_ne_nil_of_left_ne_nil (uvarint_ne_nil x) c)
  simp only [Plain.next, herr, hb, hne, Bool.or_self, Bool.false_eq_true, if_false, unuvarint_uvarint x c hx, hn,
    Int.toNat_natCast, List.drop_left]

/-- a read that fails on the buffer is retried with the next chunk appended, one that succeeds did not
    need the rest (`unuvarint_append`) -/
theorem streamNext_flatten (cur : Nat) (chunks : List (List Nat)) (buf : List Nat) {x : Nat} {n : Int}
    (hr : unuvarint (buf ++ chunks.flatten) = (x, n)) :
    match streamNext cur buf chunks with
    | none => n < 1
    | some s' => s'.cur = (cur + x) % M64 ∧ s'.buf ++ s'.chunks.flatten = (buf ++ chunks.flatten).drop n.toNat ∧
        1 ≤ n := by
  -- no chunk left: the read fails, or succeeds; a chunk left: the read fails (retry with it), or succeeds
  fun_induction streamNext cur buf chunks with
  | case1 buf x' n' hu h => rw [List.flatten_nil, List.append_nil, hu] at hr; cases hr; exact h
  | case2 buf x' n' hu h =>
    rw [List.flatten_nil, List.append_nil] at hr ⊢
    cases hu.symm.trans hr
    exact ⟨rfl, List.append_nil _, Int.not_lt.mp h⟩
  | case3 buf c cs x' n' hu h ih => rw [List.flatten_cons, ← List.append_assoc] at hr ⊢; exact ih hr
  | case4 buf c cs x' n' hu h =>
    have h1 : 1 ≤ n' := Int.not_lt.mp h
    obtain ⟨happ, hle⟩ := unuvarint_append hu (fun h0 => by rw [h0] at h1; exact absurd h1 (by decide)) (c :: cs).flatten
    cases happ.symm.trans hr
    exact ⟨rfl, (List.drop_append_of_le_length hle).symm, h1⟩

/-- what has to be shown of `next` for the rest (Seek loop, scripts, draining) to follow -/
structure Sim {σ : Type} (I : IterOps σ) (Inv : σ → Ref → Prop) : Prop where
  cur_eq : ∀ s r, Inv s r → I.cur s = r.cur
  next_nil : ∀ s c, Inv s ⟨c, []⟩ → ∃ s', I.next s = (false, s') ∧ Inv s' ⟨c, []⟩
  next_cons : ∀ s c v rest, Inv s ⟨c, v :: rest⟩ → ∃ s', I.next s = (true, s') ∧ Inv s' ⟨v, rest⟩
  size_ok : ∀ s r, Inv s r → r.rest.length ≤ I.size s

variable {σ : Type} {I : IterOps σ} {Inv : σ → Ref → Prop}

theorem next_sim (S : Sim I Inv) (s : σ) (r : Ref) (h : Inv s r) :
    (I.next s).1 = r.next.1 ∧ Inv (I.next s).2 r.next.2 := by
  obtain ⟨c, rest⟩ := r
  cases rest with
  | nil => obtain ⟨s', h1, h2⟩ := S.next_nil s c h; rw [h1]; exact ⟨rfl, h2⟩
  | cons v rest => obtain ⟨s', h1, h2⟩ := S.next_cons s c v rest h; rw [h1]; exact ⟨rfl, h2⟩

theorem scan_sim (S : Sim I Inv) (x : Nat) : ∀ (rest : List Nat) (s : σ) (c fuel : Nat),
    Inv s ⟨c, rest⟩ → rest.length + 1 ≤ fuel →
    (scanG I x fuel s).1 = (Ref.scan x c rest).1 ∧ Inv (scanG I x fuel s).2 (Ref.scan x c rest).2 := by
  intro rest
  induction rest with
  | nil =>
    intro s c fuel h hf
    obtain ⟨s', h1, h2⟩ := S.next_nil s c h
    obtain ⟨f, rfl⟩ := Nat.exists_eq_add_of_le' hf
    simp only [scanG, h1]
    exact ⟨rfl, h2⟩
  | cons v rest ih =>
    intro s c fuel h hf
    obtain ⟨s', h1, h2⟩ := S.next_cons s c v rest h
    obtain ⟨f, rfl⟩ := Nat.exists_eq_add_of_le' hf
    simp only [scanG, h1, S.cur_eq _ _ h2, Ref.scan]
    by_cases hv : v ≥ x
    · rw [if_pos hv, if_pos hv]; exact ⟨rfl, h2⟩
    · rw [if_neg hv, if_neg hv]
      exact ih s' v _ h2 (Nat.le_of_succ_le_succ hf)

theorem seek_sim (S : Sim I Inv) (x : Nat) (s : σ) (r : Ref) (h : Inv s r) :
    (seekG I x s).1 = (r.seek x).1 ∧ Inv (seekG I x s).2 (r.seek x).2 := by
  rw [seekG, Ref.seek, S.cur_eq s r h]
  split
  · exact ⟨rfl, h⟩
  · exact scan_sim S x r.rest s r.cur _ h (Nat.succ_le_succ (S.size_ok s r h))

theorem run_sim (S : Sim I Inv) : ∀ (ops : List Op) (s : σ) (r : Ref), Inv s r →
    runG I ops s = Ref.run ops r := by
  intro ops
  induction ops with
  | nil => exact fun _ _ _ => rfl
  | cons op ops ih =>
    intro s r h
    cases op with
    | next =>
      obtain ⟨h1, h2⟩ := next_sim S s r h
      simp only [runG, Ref.run]
      rw [h1, S.cur_eq _ _ h2, ih _ _ h2]
    | seek x =>
      obtain ⟨h1, h2⟩ := seek_sim S x s r h
      simp only [runG, Ref.run]
      rw [h1, S.cur_eq _ _ h2, ih _ _ h2]

theorem drain_sim (S : Sim I Inv) : ∀ (rest : List Nat) (s : σ) (c fuel : Nat),
    Inv s ⟨c, rest⟩ → rest.length + 1 ≤ fuel → (drainG I fuel s).1 = rest := by
  intro rest
  induction rest with
  | nil =>
    intro s c fuel h hf
    obtain ⟨s', h1, _⟩ := S.next_nil s c h
    obtain ⟨f, rfl⟩ := Nat.exists_eq_add_of_le' hf
    simp only [drainG, h1]
  | cons v rest ih =>
    intro s c fuel h hf
    obtain ⟨s', h1, h2⟩ := S.next_cons s c v rest h
    obtain ⟨f, rfl⟩ := Nat.exists_eq_add_of_le' hf
    simp only [drainG, h1, S.cur_eq _ _ h2, ih s' v _ h2 (Nat.le_of_succ_le_succ hf)]

/-- the bytes not yet consumed are the encoding of the rest of the list relative to the current value -/
def Enc (cur : Nat) (bytes : List Nat) (r : Ref) : Prop :=
  cur = r.cur ∧ Nondec r.cur r.rest ∧ encodeFrom r.cur r.rest = some bytes

theorem Enc.nil {cur c : Nat} {bytes : List Nat} (h : Enc cur bytes ⟨c, []⟩) : bytes = [] :=
  (Option.some.inj h.2.2).symm

theorem Enc.cons {cur c v : Nat} {bytes rest : List Nat} (h : Enc cur bytes ⟨c, v :: rest⟩) :
    ∃ bs', bytes = uvarint (v - c) ++ bs' ∧ v - c < 2 ^ 64 ∧ (cur + (v - c)) % M64 = v ∧ Enc v bs' ⟨v, rest⟩ := by
  obtain ⟨rfl, ⟨hcv, hv, hrest⟩, h3⟩ := h
  obtain ⟨_, bs', he, hb⟩ := encodeFrom_cons.mp h3
  exact ⟨bs', hb, Nat.lt_of_le_of_lt (Nat.sub_le _ _) hv,
    by rw [Nat.add_sub_cancel' hcv, Nat.mod_eq_of_lt hv], rfl, hrest, he⟩

/-- codec "dss": the bytes are the buffer, then the unread chunks -/
def StreamInv (s : Stream) (r : Ref) : Prop := Enc s.cur (s.buf ++ s.chunks.flatten) r

/-- codec "dvs": a single buffer and no error so far -/
def PlainInv (s : Plain) (r : Ref) : Prop := s.err = false ∧ Enc s.cur s.buf r

theorem stream_sim : Sim streamOps StreamInv where
  cur_eq := fun s r h => h.1
  next_nil := by
    intro s c h
    have hf := streamNext_flatten s.cur s.chunks s.buf (x := 0) (n := 0) (by rw [h.nil]; rfl)
    cases hn : streamNext s.cur s.buf s.chunks with
    | some s' => rw [hn] at hf; exact absurd hf.2.2 (by decide)
    | none =>
      refine ⟨s.exhaust, by simp only [streamOps, Stream.next, hn], ?_⟩
      rw [StreamInv, Stream.exhaust, List.flatten_nil, List.append_nil]; exact h
  next_cons := by
    intro s c v rest h
    obtain ⟨bs', hb, hx, hval, he⟩ := h.cons
    have hf := streamNext_flatten s.cur s.chunks s.buf (hb ▸ unuvarint_uvarint _ bs' hx)
    cases hn : streamNext s.cur s.buf s.chunks with
    | none => rw [hn] at hf; exact absurd (Int.ofNat_lt.mp hf) (Nat.not_lt.mpr (uvarint_length_pos _))
    | some s' =>
      rw [hn] at hf
      refine ⟨s', show s.next = _ by rw [Stream.next, hn], ?_⟩
      rw [StreamInv, hf.1, hf.2.1, hb, hval, Int.toNat_natCast, List.drop_left]; exact he
  size_ok := fun s r h => by
    have := length_le_encodeFrom _ _ _ h.2.2
    rwa [List.length_append] at this

theorem plain_sim : Sim plainOps PlainInv where
  cur_eq := fun s r h => h.2.1
  next_nil := fun s c ⟨herr, h⟩ => ⟨s, by simp [plainOps, Plain.next, h.nil], herr, h⟩
  next_cons := by
    intro s c v rest ⟨herr, h⟩
    obtain ⟨bs', hb, hx, hval, he⟩ := h.cons
    refine ⟨_, plainNext_head herr hb hx, rfl, ?_⟩
    rw [hval]; exact he
  size_ok := fun s r h => length_le_encodeFrom _ _ _ h.2.2.2

end Thanos.PostingsCodec
