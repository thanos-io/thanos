import Thanos.Model.BucketKey
import Thanos.Lemmas.CacheKeys
/-
  BucketCacheKey.String is injective on the keys the caching bucket builds.
-/
namespace Thanos.CacheKeys

theorem Verb.str_no_colon (v : Verb) : cColon ∉ v.str := by
  cases v <;> decide

theorem Verb.str_inj {v1 v2 : Verb} (h : v1.str = v2.str) : v1 = v2 := by
  cases v1 <;> cases v2 <;> first | rfl | exact absurd h (by decide)

theorem split_last_decimal {a b : Str} {x y : Nat}
    (h : a ++ cColon :: decimal x = b ++ cColon :: decimal y) : a = b ∧ x = y :=
  (split_at_right (decimal_no_colon x) (decimal_no_colon y) h).imp_right decimal_inj

/-- the keys as CachingBucket builds them: subrange keys carry a non-empty range, every other
    key has Start = End = 0; only the two iter verbs carry the configuration hash, which is the
    same (`H`) for the whole bucket -/
def WFB (H : Str) (k : BucketKey) : Prop :=
  (k.verb = .subrange → k.start < k.stop) ∧
  (k.verb ≠ .subrange → k.start = 0 ∧ k.stop = 0) ∧
  ((k.verb = .iter ∨ k.verb = .iterRecursive) → k.hash = H) ∧
  (¬ (k.verb = .iter ∨ k.verb = .iterRecursive) → k.hash = [])

theorem bucketKey_verb (k : BucketKey) : ∃ rest, bucketKeyString k = k.verb.str ++ cColon :: rest := by
  unfold bucketKeyString
  split
  · split
    · exact ⟨_, List.append_assoc ..⟩
    · exact ⟨_, rfl⟩
  · exact ⟨_, (List.append_assoc ..).trans (List.append_assoc ..)⟩

theorem bucketKey_inj (H : Str) (k1 k2 : BucketKey) (w1 : WFB H k1) (w2 : WFB H k2)
    (h : bucketKeyString k1 = bucketKeyString k2) : k1 = k2 := by
  have hv : k1.verb = k2.verb := by
    obtain ⟨r1, e1⟩ := bucketKey_verb k1
    obtain ⟨r2, e2⟩ := bucketKey_verb k2
    rw [e1, e2] at h
    exact Verb.str_inj (split_at (Verb.str_no_colon _) (Verb.str_no_colon _) h).1
  obtain ⟨v, n1, s1, t1, g1⟩ := k1
  obtain ⟨v2, n2, s2, t2, g2⟩ := k2
  cases hv
  obtain ⟨a1, b1, c1, d1⟩ := w1
  obtain ⟨a2, b2, c2, d2⟩ := w2
  unfold bucketKeyString at h
  simp only at a1 b1 c1 d1 a2 b2 c2 d2 h
  by_cases hs : v = .subrange
  · -- subrange keys: read the two numbers from the right
    subst hs
    have p1 := a1 rfl
    have p2 := a2 rfl
    rw [if_neg (by omega), if_neg (by omega)] at h
    obtain ⟨h3, rfl⟩ := split_last_decimal h
    obtain ⟨h4, rfl⟩ := split_last_decimal h3
    cases List.append_cancel_left h4
    rw [d1 (by decide), d2 (by decide)]
  · obtain ⟨rfl, rfl⟩ := b1 hs
    obtain ⟨rfl, rfl⟩ := b2 hs
    simp only [and_self, if_true] at h
    by_cases hi : v = .iter ∨ v = .iterRecursive
    · rw [if_pos hi, if_pos hi, c1 hi, c2 hi] at h
      cases List.append_cancel_left (List.append_cancel_right h)
      rw [c1 hi, c2 hi]
    · rw [if_neg hi, if_neg hi] at h
      cases List.append_cancel_left h
      rw [d1 hi, d2 hi]

end Thanos.CacheKeys
