import Thanos.Model.LoserTree
/-
  Refinement proof of pkg/losertree (as transliterated in Model/LoserTree.lean), part 1:
  heap-layout arithmetic, node access lemmas, and the tournament invariant `Won`, a derivation.  It has the
  shape of the subtree, so what a tournament gives — its winner is a leaf of the subtree and minimal
  among its leaves, it only reads the nodes of the subtree, a match at a node makes one out of two —
  goes by structural induction, without arithmetic on node indices.
-/
namespace Thanos.LoserTree

variable {E : Type}

/-- `q` lies in the subtree rooted at `p` (positions as in the Go slice: children of `p` are `2p`, `2p+1`) -/
def IsDesc (p q : Nat) : Prop := ∃ k, q / 2 ^ k = p

theorem isDesc_refl (p : Nat) : IsDesc p p := ⟨0, by simp⟩

theorem div_pow_add (l a b : Nat) : l / 2 ^ (a + b) = (l / 2 ^ a) / 2 ^ b := by
  rw [Nat.pow_add, Nat.div_div_eq_div_mul]

theorem isDesc_trans {a b c : Nat} (h1 : IsDesc a b) (h2 : IsDesc b c) : IsDesc a c := by
  obtain ⟨k, hk⟩ := h1
  obtain ⟨j, hj⟩ := h2
  exact ⟨j + k, by rw [div_pow_add, hj, hk]⟩

theorem isDesc_left (p : Nat) : IsDesc p (2 * p) := ⟨1, by rw [Nat.pow_one]; omega⟩
theorem isDesc_right (p : Nat) : IsDesc p (2 * p + 1) := ⟨1, by rw [Nat.pow_one]; omega⟩

theorem isDesc_ge {p q : Nat} (h : IsDesc p q) : p ≤ q := by
  obtain ⟨k, hk⟩ := h
  rw [← hk]
  exact Nat.div_le_self _ _

theorem isDesc_cases {p q : Nat} (h : IsDesc p q) : q = p ∨ IsDesc (2 * p) q ∨ IsDesc (2 * p + 1) q := by
  obtain ⟨k, hk⟩ := h
  cases k with
  | zero => left; simpa using hk
  | succ k =>
    right
    rw [div_pow_add, Nat.pow_one] at hk
    have : q / 2 ^ k = 2 * p ∨ q / 2 ^ k = 2 * p + 1 := by omega
    exact this.imp (fun h => ⟨k, h⟩) (fun h => ⟨k, h⟩)

theorem isDesc_root : ∀ (q : Nat), 1 ≤ q → IsDesc 1 q := by
  intro q
  induction q using Nat.strongRecOn with
  | _ q ih =>
    intro hq
    by_cases h1 : q = 1
    · subst h1; exact isDesc_refl 1
    · exact isDesc_trans (ih (q / 2) (by omega) (by omega)) ⟨1, by rw [Nat.pow_one]⟩

theorem isDesc_chain {a b q : Nat} (ha : IsDesc a q) (hb : IsDesc b q) : IsDesc a b ∨ IsDesc b a := by
  obtain ⟨k, hk⟩ := ha
  obtain ⟨j, hj⟩ := hb
  rcases Nat.le_total k j with h | h
  · obtain ⟨d, rfl⟩ := Nat.exists_eq_add_of_le h
    rw [div_pow_add, hk] at hj
    exact Or.inr ⟨d, hj⟩
  · obtain ⟨d, rfl⟩ := Nat.exists_eq_add_of_le h
    rw [div_pow_add, hj] at hk
    exact Or.inl ⟨d, hk⟩

theorem isDesc_disjoint {a q : Nat} (ha : 1 ≤ a) (h1 : IsDesc (2 * a) q) (h2 : IsDesc (2 * a + 1) q) : False := by
  rcases isDesc_chain h1 h2 with h | h
  · -- `2a+1` is neither `2a` nor below one of its children `4a`, `4a+1`
    rcases isDesc_cases h with h | h | h
    · omega
    · have := isDesc_ge h; omega
    · have := isDesc_ge h; omega
  · have := isDesc_ge h; omega

/-- `c` and `s` are the two children of `a`, in either order: `c` the child one is looking at, `s` its sibling -/
def Children (a c s : Nat) : Prop := (c = 2 * a ∧ s = 2 * a + 1) ∨ (c = 2 * a + 1 ∧ s = 2 * a)

theorem Children.symm {a c s : Nat} (h : Children a c s) : Children a s c :=
  h.elim (fun h => Or.inr ⟨h.2, h.1⟩) (fun h => Or.inl ⟨h.2, h.1⟩)

theorem Children.half {a c s : Nat} (h : Children a c s) : c / 2 = a := by
  rcases h with ⟨rfl, _⟩ | ⟨rfl, _⟩ <;> omega

theorem Children.desc {a c s : Nat} (h : Children a c s) : IsDesc a c := by
  rcases h with ⟨rfl, _⟩ | ⟨rfl, _⟩
  · exact isDesc_left a
  · exact isDesc_right a

theorem Children.lt {a c s q : Nat} (h : Children a c s) (ha : 1 ≤ a) (hq : IsDesc c q) : a < q := by
  have := isDesc_ge hq
  rcases h with ⟨rfl, _⟩ | ⟨rfl, _⟩ <;> omega

theorem Children.disjoint {a c s q : Nat} (h : Children a c s) (ha : 1 ≤ a) (hc : IsDesc c q) (hs : IsDesc s q) :
    False := by
  rcases h with ⟨rfl, rfl⟩ | ⟨rfl, rfl⟩
  · exact isDesc_disjoint ha hc hs
  · exact isDesc_disjoint ha hs hc

theorem Children.cases {a c s p : Nat} (h : Children a c s) (hp : IsDesc a p) : p = a ∨ IsDesc c p ∨ IsDesc s p := by
  rcases h with ⟨rfl, rfl⟩ | ⟨rfl, rfl⟩
  · exact isDesc_cases hp
  · exact (isDesc_cases hp).imp_right Or.symm

def val (t : Tree E) (p : Nat) : E := (getNode t p).value
def idx (t : Tree E) (p : Nat) : Int := (getNode t p).index

theorem setNode_length (t : Tree E) (i : Nat) (x : Node E) : (setNode t i x).nodes.length = t.nodes.length := by
  simp [setNode]

-- `setNode` writes `nodes` only
theorem setNode_maxVal (t : Tree E) (i : Nat) (x : Node E) : (setNode t i x).maxVal = t.maxVal := rfl
theorem setNode_less (t : Tree E) (i : Nat) (x : Node E) : (setNode t i x).less = t.less := rfl
theorem setNode_closed (t : Tree E) (i : Nat) (x : Node E) : (setNode t i x).closed = t.closed := rfl

theorem getNode_setNode_same (t : Tree E) (i : Nat) (x : Node E) (h : i < t.nodes.length) :
    getNode (setNode t i x) i = x := by
  simp [getNode, setNode, h]

theorem getNode_setNode_ne (t : Tree E) (i j : Nat) (x : Node E) (h : i ≠ j) :
    getNode (setNode t i x) j = getNode t j := by
  simp [getNode, setNode, List.getElem?_set_ne h]

theorem setNode_getNode (t : Tree E) {i : Nat} (h : i < t.nodes.length) : setNode t i (getNode t i) = t := by
  simp [setNode, getNode, h]

theorem val_setNode_ne (t : Tree E) {i j : Nat} (x : Node E) (h : i ≠ j) : val (setNode t i x) j = val t j :=
  congrArg Node.value (getNode_setNode_ne t i j x h)

theorem idx_setNode_ne (t : Tree E) {i j : Nat} (x : Node E) (h : i ≠ j) : idx (setNode t i x) j = idx t j :=
  congrArg Node.index (getNode_setNode_ne t i j x h)

variable {le : E → E → Prop} {t : Tree E} {n : Nat}

/-- `Won le t n p w`: the nodes below `p` hold a loser tournament that leaf `w` wins.  A leaf wins itself; a node `a`
    is won by the winner `w` of one child's subtree when the other child's winner `l` is not smaller, and stores that
    loser `l` with a copy of its value -/
inductive Won (le : E → E → Prop) (t : Tree E) (n : Nat) : Nat → Nat → Prop
  | leaf {p : Nat} : n ≤ p → p < 2 * n → Won le t n p p
  | node {a c s w l : Nat} : a < n → Children a c s → Won le t n c w → Won le t n s l →
      idx t a = (l : Int) → val t a = val t l → le (val t w) (val t l) → Won le t n a w

theorem Won.range {p w : Nat} (h : Won le t n p w) : IsDesc p w ∧ n ≤ w ∧ w < 2 * n := by
  induction h with
  | leaf hl hl2 => exact ⟨isDesc_refl _, hl, hl2⟩
  | node _ hcs _ _ _ _ _ ihc _ => exact ⟨isDesc_trans hcs.desc ihc.1, ihc.2⟩

theorem Won.min (hrefl : ∀ a, le a a) (htrans : ∀ a b c, le a b → le b c → le a c) {p w : Nat}
    (h : Won le t n p w) {l : Nat} (hl : n ≤ l) (hl2 : l < 2 * n) (hd : IsDesc p l) : le (val t w) (val t l) := by
  induction h with
  | @leaf p hp _ =>
    rcases isDesc_cases hd with rfl | h | h
    · exact hrefl _
    · have := isDesc_ge h; omega
    · have := isDesc_ge h; omega
  | node han hcs _ _ _ _ hle ihc ihs =>
    rcases hcs.cases hd with rfl | h | h
    · omega
    · exact ihc h
    · exact htrans _ _ _ hle (ihs h)

theorem Won.frame {t' : Tree E} {p w : Nat} (h : Won le t n p w)
    (hsame : ∀ q, IsDesc p q → getNode t' q = getNode t q) : Won le t' n p w := by
  induction h with
  | leaf hl hl2 => exact .leaf hl hl2
  | node han hcs hC hS hi hv hle ihc ihs =>
    have hv' : ∀ q, IsDesc _ q → val t' q = val t q := fun q hq => congrArg Node.value (hsame q hq)
    have hw := isDesc_trans hcs.desc hC.range.1
    have hl := isDesc_trans hcs.symm.desc hS.range.1
    refine .node han hcs (ihc fun q hq => hsame q (isDesc_trans hcs.desc hq))
      (ihs fun q hq => hsame q (isDesc_trans hcs.symm.desc hq))
      ((congrArg Node.index (hsame _ (isDesc_refl _))).trans hi) ?_ ?_
    · rw [hv' _ (isDesc_refl _), hv' _ hl]; exact hv
    · rw [hv' _ hw, hv' _ hl]; exact hle

theorem Won.play {a c s w l : Nat} (hcs : Children a c s) (ha : 1 ≤ a) (han : a < n)
    (hlen : t.nodes.length = 2 * n) (hC : Won le t n c w) (hS : Won le t n s l) (hle : le (val t w) (val t l)) :
    Won le (setNode t a { getNode t a with index := (l : Int), value := val t l }) n a w := by
  have hw := hC.range.2.1
  have hl := hS.range.2.1
  have hget := getNode_setNode_same t a { getNode t a with index := (l : Int), value := val t l } (by omega)
  refine .node han hcs
    (hC.frame fun q hq => getNode_setNode_ne t a q _ (Nat.ne_of_lt (hcs.lt ha hq)))
    (hS.frame fun q hq => getNode_setNode_ne t a q _ (Nat.ne_of_lt (hcs.symm.lt ha hq)))
    (congrArg Node.index hget) ?_ ?_
  · rw [val_setNode_ne t _ (show a ≠ l by omega)]; exact (congrArg Node.value hget :)
  · rw [val_setNode_ne t _ (show a ≠ l by omega), val_setNode_ne t _ (show a ≠ w by omega)]; exact hle

end Thanos.LoserTree
