import Thanos.Model.Frames
/-
  The frame splitter of `TSDBStore.Series` (C08), by induction along `splitLoop`: the frames concatenate back to the
  chunks and none is empty; then the byte budget ("minor inaccuracy … max of full chunk size"), with `left` kept equal to
  the budget minus the bytes collected in `acc`.
-/
namespace Thanos.Frames

theorem splitLoop_cons (budget : Int) (c : Chunk) (rest : List Chunk) (left : Int) (acc : List Chunk) :
    splitLoop budget (c :: rest) left acc =
      if left - c.2 > 0 ∧ !rest.isEmpty then splitLoop budget rest (left - c.2) (acc ++ [c])
      else (acc ++ [c]) :: splitLoop budget rest budget [] := rfl

theorem splitLoop_flatten (budget : Int) (cs : List Chunk) (left : Int) (acc : List Chunk) (h : cs ≠ []) :
    (splitLoop budget cs left acc).flatten = acc ++ cs := by
  fun_induction splitLoop budget cs left acc with
  | case1 => exact absurd rfl h
  | case2 c rest left acc left' acc' hc ih =>
    have hr : rest ≠ [] := fun e => by rw [e] at hc; exact nomatch hc.2
    rw [ih hr, List.append_assoc, List.singleton_append]
  | case3 c rest left acc left' acc' hc ih =>
    rw [List.flatten_cons, List.append_assoc, List.singleton_append]
    match rest, ih with
    | [], _ => rfl
    | d :: ds, ih => rw [ih (List.cons_ne_nil d ds), List.nil_append]

theorem splitLoop_nonempty (budget : Int) (cs : List Chunk) (left : Int) (acc : List Chunk) :
    ∀ f ∈ splitLoop budget cs left acc, f ≠ [] := by
  fun_induction splitLoop budget cs left acc with
  | case1 => exact fun _ h => nomatch h
  | case2 c rest left acc left' acc' hc ih => exact ih
  | case3 c rest left acc left' acc' hc ih =>
    exact fun f h => (List.mem_cons.mp h).elim (· ▸ List.concat_ne_nil c acc) (ih f)

theorem splitLoop_nil_iff (budget : Int) (cs : List Chunk) (left : Int) (acc : List Chunk) :
    splitLoop budget cs left acc = [] ↔ cs = [] := by
  constructor
  · intro h
    cases cs with
    | nil => rfl
    | cons c rest =>
      have := splitLoop_flatten budget (c :: rest) left acc (by simp)
      rw [h] at this
      simp at this
  · intro h; subst h; simp [splitLoop]

/-- the bytes of a frame, as the budget theorems count them -/
def bytes (f : List Chunk) : Int := (f.map (·.2)).sum

theorem bytes_append (a b : List Chunk) : bytes (a ++ b) = bytes a + bytes b := by
  simp [bytes]

theorem bytes_single (c : Chunk) : bytes [c] = c.2 := by simp [bytes]

theorem splitLoop_overshoot (budget : Int) (cs : List Chunk) (left : Int) (acc : List Chunk)
    (hl : left = budget - bytes acc) (hpos : acc ≠ [] → left > 0) :
    ∀ f ∈ splitLoop budget cs left acc, ∃ init last, f = init ++ [last] ∧ (init = [] ∨ bytes init < budget) := by
  fun_induction splitLoop budget cs left acc with
  | case1 => exact fun _ hf => nomatch hf
  | case2 c rest left acc left' acc' hcont ih =>
    refine ih ?_ (fun _ => hcont.1)
    rw [bytes_append, bytes_single, ← Int.sub_sub, ← hl]
  | case3 c rest left acc left' acc' hcont ih =>
    intro f hf
    rcases List.mem_cons.mp hf with rfl | hf'
    · refine ⟨acc, c, rfl, ?_⟩
      by_cases ha : acc = []
      · exact Or.inl ha
      · exact Or.inr (Int.lt_of_sub_pos (hl ▸ hpos ha))
    · exact ih (Int.sub_zero budget).symm (fun h => absurd rfl h) f hf'

theorem splitLoop_full (budget : Int) (cs : List Chunk) (left : Int) (acc : List Chunk)
    (hl : left = budget - bytes acc) :
    ∀ f ∈ (splitLoop budget cs left acc).dropLast, bytes f ≥ budget := by
  fun_induction splitLoop budget cs left acc with
  | case1 => exact fun _ hf => nomatch hf
  | case2 c rest left acc left' acc' hcont ih =>
    refine ih ?_
    rw [bytes_append, bytes_single, ← Int.sub_sub, ← hl]
  | case3 c rest left acc left' acc' hcont ih =>
    intro f hf
    match rest, hcont, hf, ih with
    | [], _, hf, _ => exact nomatch hf
    | d :: ds, hcont, hf, ih =>
      rw [List.dropLast_cons_of_ne_nil (mt (splitLoop_nil_iff budget (d :: ds) budget []).mp (List.cons_ne_nil d ds))] at hf
      rcases List.mem_cons.mp hf with rfl | hf'
      · -- sent although more chunks follow: no bytes were left
        rw [bytes_append, bytes_single]
        refine Int.le_of_sub_nonpos ?_
        rw [← Int.sub_sub, ← hl]
        exact Int.not_lt.mp fun h => hcont ⟨h, rfl⟩
      · exact ih (Int.sub_zero budget).symm f hf'

end Thanos.Frames
