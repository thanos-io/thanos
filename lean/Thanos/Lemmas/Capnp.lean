import Thanos.Model.Capnp
/-
  C25: the symbol table round trip, and why later insertions do not disturb earlier indices: an
  encoding step only extends the table (`Ext`), and what it wrote reads back the same on every
  extension (`Reads`, `Enc`).  Each `marshal…_spec` is `Enc` of one marshalling function against
  its reader, at the value the protobuf path delivers (`expect…`, for the histograms of `histOK`).
-/
namespace Thanos.Capnp

/-- `HistogramProtoToHistogram` / `FloatHistogramProtoToFloatHistogram`: the count member decides
    the kind; `GetCountInt`, `GetZeroCountInt`, `GetZeroCountFloat` give 0 for another member -/
def expectHist (h : PHist) : DHist :=
  match h.count with
  | .float c =>
    .float h.resetHint c h.sum h.schema h.zeroThreshold (match h.zeroCount with | .float z => z | _ => 0)
      h.posSpans h.negSpans h.posCounts h.negCounts h.customValues h.timestamp
  | .int c =>
    .int h.resetHint c h.sum h.schema h.zeroThreshold (match h.zeroCount with | .int z => z | _ => 0)
      h.posSpans h.negSpans h.posDeltas h.negDeltas h.customValues h.timestamp
  | .unset =>
    .int h.resetHint 0 h.sum h.schema h.zeroThreshold (match h.zeroCount with | .int z => z | _ => 0)
      h.posSpans h.negSpans h.posDeltas h.negDeltas h.customValues h.timestamp

def expectSeries (s : PSeries) : DSeries := ⟨s.labels, s.samples, s.hists.map expectHist, s.exemplars⟩

def expect (req : List (Str × List PSeries)) : List (Str × List DSeries) :=
  req.map fun t => (t.1, t.2.map expectSeries)

def sameKind (h : PHist) : Bool :=
  match h.count, h.zeroCount with
  | .float _, .float _ => true
  | .float _, _ => false
  | _, .float _ => false
  | _, _ => true

/-- the histograms for which the round trip holds: no custom bucket values; and, for the decoder
    that reads the zero count through the bare generated accessors (`strict = true`, see
    `zeroCountAs`), count and zero count of one kind -/
def histOK (strict : Bool) (h : PHist) : Bool :=
  h.customValues.isEmpty && (!strict || sameKind h)

def ReqOK (strict : Bool) (req : List (Str × List PSeries)) : Prop :=
  ∀ t, t ∈ req → ∀ s, s ∈ t.2 → ∀ h, h ∈ s.hists → histOK strict h = true

/-- the interned strings in index order -/
def syms (b : Builder) : List Str := b.entries.map (·.str)

/-- the entries are numbered from `idx` upwards and lie end to end in the data buffer: the first starts at
    byte `start`, the last ends at `size` -/
def WFfrom : Nat → Nat → List Entry → Nat → Prop
  | _, start, [], size => start = size
  | idx, start, e :: es, size => e.index = idx ∧ e.start = start ∧ WFfrom (idx + 1) (start + e.str.length) es size

def WF (b : Builder) : Prop := WFfrom 0 0 b.entries b.size

theorem wf_empty : WF Builder.empty := rfl

theorem wffrom_append {idx start : Nat} {es : List Entry} {size : Nat} (h : WFfrom idx start es size) (s : Str) :
    WFfrom idx start (es ++ [⟨s, idx + es.length, size⟩]) (size + s.length) := by
  induction es generalizing idx start with
  | nil =>
    cases h
    exact ⟨rfl, rfl, rfl⟩
  | cons e es ih =>
    exact ⟨h.1, h.2.1, by simpa [Nat.add_assoc, Nat.add_comm 1] using ih h.2.2⟩

theorem wffrom_getElem {idx start : Nat} {es : List Entry} {size : Nat} (h : WFfrom idx start es size) {k : Nat}
    {e : Entry} (hk : es[k]? = some e) : e.index = idx + k := by
  induction es generalizing idx start k with
  | nil => cases hk
  | cons a es ih =>
    cases k with
    | zero => cases hk; exact h.1
    | succ k => exact (ih h.2.2 hk).trans (by omega)

theorem findEntry_some {s : Str} {es : List Entry} {e : Entry} (h : findEntry s es = some e) : e ∈ es ∧ e.str = s := by
  induction es with
  | nil => cases h
  | cons a es ih =>
    simp only [findEntry] at h
    split at h
    · cases h
      exact ⟨List.mem_cons_self, ‹_›⟩
    · exact ⟨List.mem_cons_of_mem _ (ih h).1, (ih h).2⟩

/-- `b'` is a well-formed table that holds the strings of `b` at the same indices, and maybe more -/
def Ext (b b' : Builder) : Prop := WF b' ∧ ∃ ext, syms b' = syms b ++ ext

theorem Ext.refl {b : Builder} (h : WF b) : Ext b b := ⟨h, [], (List.append_nil _).symm⟩

theorem Ext.trans {a b c : Builder} (h1 : Ext a b) (h2 : Ext b c) : Ext a c := by
  obtain ⟨_, e1, x1⟩ := h1
  obtain ⟨w2, e2, x2⟩ := h2
  exact ⟨w2, e1 ++ e2, by rw [x2, x1, List.append_assoc]⟩

/-- `rd` gives `z` on the table `T` and on every extension of it: what is interned stays where it
    is, whatever is interned later -/
def Reads {γ : Type} (T : List Str) (rd : List Str → γ) (z : γ) : Prop := ∀ ext, rd (T ++ ext) = z

theorem Reads.of_ext {γ : Type} {b b' : Builder} {rd : List Str → γ} {z : γ} (h : Reads (syms b) rd z)
    (hx : Ext b b') : Reads (syms b') rd z := by
  obtain ⟨_, e, x⟩ := hx
  intro ext
  rw [x, List.append_assoc]
  exact h _

/-- an encoding step from table `b` with result `r` (the new table and what was written): the table
    is only extended, and from every extension of it `rd · r.2` reads what was written back as `z` -/
structure Enc {γ δ : Type} (b : Builder) (r : Builder × γ) (rd : List Str → γ → δ) (z : δ) : Prop where
  ext : Ext b r.1
  reads : Reads (syms r.1) (rd · r.2) z

theorem addEntry_spec (b : Builder) (s : Str) (h : WF b) : Enc b (addEntry b s) (·[·]?) (some s) := by
  have key : Ext b (addEntry b s).1 ∧ (syms (addEntry b s).1)[(addEntry b s).2]? = some s := by
    unfold addEntry
    cases hf : findEntry s b.entries with
    | some e =>
      obtain ⟨hm, hs⟩ := findEntry_some hf
      obtain ⟨j, hj⟩ := List.mem_iff_getElem?.1 hm
      refine ⟨Ext.refl h, ?_⟩
      show (syms b)[e.index]? = some s
      rw [(wffrom_getElem h hj).trans (Nat.zero_add j), syms, List.getElem?_map, hj, ← hs]
      rfl
    | none =>
      refine ⟨⟨?_, [s], by simp [syms]⟩, ?_⟩
      · simpa [WF] using wffrom_append h s
      · simp [syms]
  exact ⟨key.1, fun ext => (List.getElem?_append_left (List.getElem?_eq_some_iff.mp key.2).1).trans key.2⟩

theorem adds_ext (l : List Str) (b : Builder) (h : WF b) : Ext b (l.foldl (fun b x => (addEntry b x).1) b) :=
  List.foldlRecOn (motive := Ext b) l _ (Ext.refl h) fun b' hb x _ => hb.trans (addEntry_spec b' x hb.1).ext

/-- decoding the marshalled entries (offsets: where each ends; data: their strings end to end) gives
    the strings back; `pre` is the part of the buffer the loop has passed -/
theorem decodeSymbolsFrom_spec (pre : Str) (idx : Nat) (es : List Entry) (size : Nat)
    (h : WFfrom idx pre.length es size) :
    decodeSymbolsFrom (pre ++ es.flatMap (·.str)) pre.length (es.map fun e => e.start + e.str.length) = es.map (·.str) := by
  induction es generalizing pre idx with
  | nil => rfl
  | cons e es ih =>
    obtain ⟨_, h2, h3⟩ := h
    simp only [List.map_cons, List.flatMap_cons, decodeSymbolsFrom, h2]
    have hlen : (pre ++ e.str).length = pre.length + e.str.length := List.length_append
    have ih := ih (pre ++ e.str) (idx + 1) (hlen ▸ h3)
    rw [hlen, List.append_assoc] at ih
    rw [ih]
    congr 1
    rw [List.drop_append_of_le_length (Nat.le_refl _)]
    simp

theorem decode_marshal_symbols (b : Builder) (h : WF b) :
    decodeSymbols (marshalSymbols b).1 (marshalSymbols b).2 = syms b := by
  simpa [decodeSymbols, marshalSymbols, syms] using decodeSymbolsFrom_spec [] 0 b.entries b.size (by simpa [WF] using h)

theorem marshalLabels_spec (ls : List (Str × Str)) (b : Builder) (h : WF b) :
    Enc b (marshalLabels b ls) lookupLabels (.ok ls) := by
  induction ls generalizing b with
  | nil => exact ⟨Ext.refl h, fun _ => rfl⟩
  | cons nv ls ih =>
    obtain ⟨n, v⟩ := nv
    obtain ⟨x1, g1⟩ := addEntry_spec b n h
    obtain ⟨x2, g2⟩ := addEntry_spec (addEntry b n).1 v x1.1
    obtain ⟨x3, g3⟩ := ih (addEntry (addEntry b n).1 v).1 x2.1
    refine ⟨x1.trans (x2.trans x3), fun ext => ?_⟩
    simp only [marshalLabels, lookupLabels, g1.of_ext (x2.trans x3) ext, g2.of_ext x3 ext, g3 ext]

theorem marshalExemplars_spec (es : List PExemplar) (b : Builder) (h : WF b) :
    Enc b (marshalExemplars b es) (fun T => mapE (readExemplar T)) (.ok es) := by
  induction es generalizing b with
  | nil => exact ⟨Ext.refl h, fun _ => rfl⟩
  | cons e es ih =>
    obtain ⟨x1, g1⟩ := marshalLabels_spec e.labels b h
    obtain ⟨x2, g2⟩ := ih (marshalLabels b e.labels).1 x1.1
    refine ⟨x1.trans x2, fun ext => ?_⟩
    simp only [marshalExemplars, mapE, readExemplar, g1.of_ext x2 ext, g2 ext]

theorem mapE_map_ok {α β γ : Type} (f : α → β) (g : β → Except DErr γ) (k : α → γ) (l : List α)
    (h : ∀ a, a ∈ l → g (f a) = .ok (k a)) : mapE g (l.map f) = .ok (l.map k) := by
  induction l with
  | nil => rfl
  | cons a l ih =>
    obtain ⟨ha, hl⟩ := List.forall_mem_cons.1 h
    simp [mapE, ha, ih hl]

theorem readHistogram_marshal (strict : Bool) (h : PHist) (hok : histOK strict h = true) :
    readHistogram strict (marshalHistogram h) = .ok (expectHist h) := by
  obtain ⟨c, sum, schema, zth, zc, ns, nd, nc, ps, pd, pc, hint, ts, custom⟩ := h
  obtain ⟨hc, hk⟩ := Bool.and_eq_true_iff.1 hok
  cases List.isEmpty_iff.1 hc
  -- with the flags concrete both sides compute; the strict decoder fails only on mixed kinds
  cases strict <;> cases c <;> cases zc <;> first | rfl | exact (Bool.false_ne_true hk).elim

theorem marshalSeries_spec (strict : Bool) (s : PSeries) (b : Builder) (h : WF b)
    (hok : ∀ x, x ∈ s.hists → histOK strict x = true) :
    Enc b (marshalSeries b s) (readSeries strict) (.ok (expectSeries s)) := by
  obtain ⟨x1, g1⟩ := marshalLabels_spec s.labels b h
  obtain ⟨x2, g2⟩ := marshalExemplars_spec s.exemplars (marshalLabels b s.labels).1 x1.1
  refine ⟨x1.trans x2, fun ext => ?_⟩
  have hh := mapE_map_ok marshalHistogram (readHistogram strict) expectHist s.hists
    (fun x hx => readHistogram_marshal strict x (hok x hx))
  simp only [marshalSeries, readSeries, g1.of_ext x2 ext, hh, g2 ext, expectSeries]

theorem marshalSeriesList_spec (strict : Bool) (ss : List PSeries) (b : Builder) (h : WF b)
    (hok : ∀ s, s ∈ ss → ∀ x, x ∈ s.hists → histOK strict x = true) :
    Enc b (marshalSeriesList b ss) (fun T => mapE (readSeries strict T)) (.ok (ss.map expectSeries)) := by
  induction ss generalizing b with
  | nil => exact ⟨Ext.refl h, fun _ => rfl⟩
  | cons s ss ih =>
    obtain ⟨hs, hss⟩ := List.forall_mem_cons.1 hok
    obtain ⟨x1, g1⟩ := marshalSeries_spec strict s b h hs
    obtain ⟨x2, g2⟩ := ih (marshalSeries b s).1 x1.1 hss
    refine ⟨x1.trans x2, fun ext => ?_⟩
    simp only [marshalSeriesList, mapE, g1.of_ext x2 ext, g2 ext, List.map_cons]

theorem marshalTenants_spec (strict : Bool) (req : List (Str × List PSeries)) (b : Builder) (h : WF b)
    (hok : ReqOK strict req) :
    Enc b (marshalTenants b req) (fun T => mapE (decodeTenant strict T)) (.ok (expect req)) := by
  induction req generalizing b with
  | nil => exact ⟨Ext.refl h, fun _ => rfl⟩
  | cons t ts ih =>
    obtain ⟨ht, hts⟩ := List.forall_mem_cons.1 hok
    obtain ⟨x1, g1⟩ := marshalSeriesList_spec strict t.2 b h ht
    obtain ⟨x2, g2⟩ := ih (marshalSeriesList b t.2).1 x1.1 hts
    refine ⟨x1.trans x2, fun ext => ?_⟩
    simp only [marshalTenants, mapE, decodeTenant, g1.of_ext x2 ext, g2 ext, expect, List.map_cons]

end Thanos.Capnp
