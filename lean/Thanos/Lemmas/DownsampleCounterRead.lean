import Thanos.Lemmas.DownsampleCounter
/-
  For C37, the reader: ApplyCounterResetsSeriesIterator (`CR.step`, `crChunk`, `crChunks`).  Past the
  first sample of a well-shaped counter chunk the reader's running total and the chunk's own counter
  differ by a constant (`crChunk_ctr`); so reading the counter sub-chunks `ctrChunk` of consecutive
  segments of a raw series yields the reset-adjusted raw counter at the segments' emission timestamps
  (`applyResets_segs`).
-/
namespace Thanos.Downsample

theorem CR.step_first {s : CR} (t v : Int) (h : s.total = 0) :
    s.step t v = ({ total := 1, lastT := t, lastV := v, totalV := v }, true) := if_pos h

theorem CR.step_later {s : CR} {t : Int} (v : Int) (h0 : s.total ≠ 0) (ht : s.lastT < t) :
    s.step t v =
      ({ total := s.total + 1, lastT := t, lastV := v, totalV := s.totalV + delta s.lastV v }, true) := by
  rw [CR.step, if_neg h0, if_pos ht, delta]
  by_cases h : v < s.lastV
  · rw [if_neg (Int.not_le.mpr h), if_pos h]
  · rw [if_pos (Int.not_lt.mp h), if_neg h]

theorem CR.step_mono {s : CR} {t v c : Int} (h0 : 0 < s.total) (ht : s.lastT < t) (hv : s.lastV ≤ v)
    (hc : s.totalV = c + s.lastV) : s.step t v = (⟨s.total + 1, t, v, c + v⟩, true) := by
  rw [CR.step_later v (Nat.ne_of_gt h0) ht, delta_of_le hv, show s.totalV + (v - s.lastV) = c + v by omega]

/-- a sample at the timestamp just read is not returned; its value replaces the last value
    (the "true last value" a counter chunk ends with) -/
theorem CR.step_dup {s : CR} (v : Int) (h0 : s.total ≠ 0) : s.step s.lastT v = ({ s with lastV := v }, false) := by
  rw [CR.step, if_neg h0, if_neg (Int.lt_irrefl _), if_pos rfl]

/-- the running total right after the first sample of a chunk -/
def enterV (s : CR) (v0 : Int) : Int :=
  if s.total = 0 then v0 else s.totalV + delta s.lastV v0

theorem CR.step_enter {s : CR} {t0 : Int} (v0 : Int) (hs : s.total = 0 ∨ s.lastT < t0) :
    s.step t0 v0 = ({ total := s.total + 1, lastT := t0, lastV := v0, totalV := enterV s v0 }, true) := by
  unfold enterV
  by_cases h0 : s.total = 0
  · rw [CR.step_first t0 v0 h0, if_pos h0, h0]
  · rw [CR.step_later v0 h0 (hs.resolve_left h0), if_neg h0]

theorem popFrames_of_le (t : Int) (fr : List Int) (h : ∀ x ∈ fr, x ≤ t) : popFrames t fr = [] := by
  induction fr with
  | nil => rfl
  | cons x xs ih =>
    rw [List.forall_mem_cons] at h
    rw [popFrames, if_pos h.1]
    exact ih h.2

theorem crChunk_cons_ret {s s' : CR} {t v : Int} (h : s.step t v = (s', true)) (rest : List Pt) {fr : List Int}
    (hfr : popFrames s'.lastT fr = []) :
    crChunk ((t, v) :: rest) s fr = ((s'.lastT, s'.totalV) :: (crChunk rest s' []).1, (crChunk rest s' []).2) := by
  rw [crChunk, h]
  simp only [if_true, hfr]

theorem crChunk_cons_skip {s s' : CR} {t v : Int} (h : s.step t v = (s', false)) (rest : List Pt) (fr : List Int) :
    crChunk ((t, v) :: rest) s fr = crChunk rest s' fr := by
  rw [crChunk, h]
  rfl

theorem crChunk_append (l1 l2 : List Pt) (s : CR) (fr : List Int) :
    crChunk (l1 ++ l2) s fr =
      ((crChunk l1 s fr).1 ++ (crChunk l2 (crChunk l1 s fr).2.1 (crChunk l1 s fr).2.2).1,
       (crChunk l2 (crChunk l1 s fr).2.1 (crChunk l1 s fr).2.2).2) := by
  induction l1 generalizing s fr with
  | nil => rfl
  | cons p l1 ih =>
    simp only [List.cons_append, crChunk]
    split
    · split
      · simp only [ih, List.cons_append]
      · exact ih _ _
    · exact ih _ _

/-- without a reset `totalV - lastV` does not change; it is carried as the variable `c` -/
theorem crChunk_mono (c : Int) (mid : List Pt) : ∀ (s : CR), 0 < s.total → s.totalV = c + s.lastV →
    ((s.lastT, s.lastV) :: mid).Pairwise (fun p q => p.1 < q.1 ∧ p.2 ≤ q.2) →
    crChunk mid s [] = (mid.map (fun p => (p.1, c + p.2)),
      { total := s.total + mid.length, lastT := (mid.getLastD (s.lastT, s.lastV)).1,
        lastV := (mid.getLastD (s.lastT, s.lastV)).2, totalV := c + (mid.getLastD (s.lastT, s.lastV)).2 }, []) := by
  induction mid with
  | nil =>
    intro s _ hc _
    rw [crChunk, List.getLastD_nil, ← hc]
    rfl
  | cons p rest ih =>
    intro s hs hc h
    obtain ⟨h1, h2⟩ := List.pairwise_cons.mp h
    have hp := h1 p (List.mem_cons_self ..)
    rw [crChunk_cons_ret (fr := []) (CR.step_mono hs hp.1 hp.2 hc) rest rfl, ih ⟨s.total + 1, p.1, p.2, c + p.2⟩ (Nat.succ_pos _) rfl h2]
    simp only [List.map_cons, List.getLastD_cons, List.length_cons, Nat.add_assoc, Nat.add_comm 1]

/-- **reading one counter chunk** `(t0, f t0) :: [(t, f t) | t ∈ T] ++ [(lt, lv)]`: the first sample
    enters with `enterV`, which fixes the offset `c` between the chunk's own counter `f` and the
    running total for the rest of the chunk.  A first emission timestamp equal to `t0` (the first
    window of a chunk may end at the chunk's first raw timestamp) is skipped, the rest is a monotone
    stretch, and the closing sample only replaces the last value. -/
theorem crChunk_ctr (f : Int → Int) {t0 lt : Int} {T : List Int} (lv : Int) (hT : T.Pairwise (· < ·))
    (h0 : ∀ t ∈ T, t0 ≤ t) (hlast : T.getLast? = some lt) (hf : ∀ a b, a ≤ b → f a ≤ f b)
    (s : CR) (fr : List Int) (hs : s.total = 0 ∨ s.lastT < t0) (hfr : ∀ x ∈ fr, x ≤ t0)
    (c : Int) (hc : enterV s (f t0) = c + f t0) :
    crChunk ((t0, f t0) :: T.map (fun t => (t, f t)) ++ [(lt, lv)]) s fr =
      ((t0 :: T.filter (t0 < ·)).map (fun t => (t, c + f t)),
       { total := s.total + 1 + (T.filter (t0 < ·)).length, lastT := lt, lastV := lv, totalV := c + f lt }, []) := by
  have hL : ∀ t ∈ T.filter (t0 < ·), t0 < t := fun t ht => of_decide_eq_true (List.mem_filter.mp ht).2
  have hcases := filter_lt_cases hT h0
  have hn : s.total + 1 ≠ 0 := Nat.succ_ne_zero _
  rw [List.cons_append, crChunk_cons_ret (CR.step_enter _ hs) _ (popFrames_of_le t0 fr hfr), hc]
  generalize T.filter (t0 < ·) = L at hL hcases ⊢
  generalize s.total + 1 = n at hn ⊢
  -- reading `T` is reading `L`: a leading `t0` repeats the sample just read
  obtain ⟨hP, hlt, hread⟩ : (t0 :: L).Pairwise (· < ·) ∧ L.getLastD t0 = lt ∧
      crChunk (T.map (fun t => (t, f t)) ++ [(lt, lv)]) ⟨n, t0, f t0, c + f t0⟩ [] =
        crChunk (L.map (fun t => (t, f t)) ++ [(lt, lv)]) ⟨n, t0, f t0, c + f t0⟩ [] := by
    rcases hcases with rfl | rfl
    · exact ⟨List.pairwise_cons.mpr ⟨hL, hT⟩, by rw [List.getLastD_eq_getLast?, hlast]; rfl, rfl⟩
    · rw [List.getLast?_cons, ← List.getLastD_eq_getLast?] at hlast
      exact ⟨hT, Option.some.inj hlast, crChunk_cons_skip (s := ⟨n, t0, f t0, c + f t0⟩) (CR.step_dup _ hn) _ _⟩
  have hP' : ((t0 :: L).map fun t => (t, f t)).Pairwise (fun p q => p.1 < q.1 ∧ p.2 ≤ q.2) :=
    List.pairwise_map.mpr (hP.imp fun {a b} hab => ⟨hab, hf a b (Int.le_of_lt hab)⟩)
  rw [hread, crChunk_append, crChunk_mono c _ ⟨n, t0, f t0, c + f t0⟩ (Nat.pos_of_ne_zero hn) rfl hP',
    List.getLastD_map (f := fun t => (t, f t)), hlt]
  dsimp only
  rw [List.length_map, crChunk_cons_skip (s := ⟨n + L.length, lt, f lt, c + f lt⟩)
    (CR.step_dup lv (Nat.ne_of_gt (Nat.add_pos_left (Nat.pos_of_ne_zero hn) _))) [] []]
  simp only [crChunk, List.append_nil, List.map_map, Function.comp_def, List.map_cons]

/-- the reader's state after the raw samples `pre`; `[lp.1 + 1]` is the frame `crChunks` pushes at a chunk switch
    (`Seek(it.lastT + 1)`) -/
def StateAfter (pre : List Pt) (s : CR) (fr : List Int) : Prop :=
  match pre.getLast? with
  | none => s.total = 0 ∧ fr = []
  | some lp => 0 < s.total ∧ s.totalV = adjusted (pre.map (·.2)) ∧ s.lastV = lp.2 ∧ s.lastT = lp.1 ∧ fr = [lp.1 + 1]

theorem crChunk_seg {pre vs : List Pt} {T : List Int} (ok : SegOK vs T) (hsorted : Sorted (pre ++ vs))
    {s : CR} {fr : List Int} (hst : StateAfter pre s fr) :
    ∃ s', crChunk (ctrChunk vs T) s fr = ((segTs vs T).map fun t => (t, adjAt (pre ++ vs) t), s', []) ∧
      StateAfter (pre ++ vs) s' [s'.lastT + 1] := by
  obtain ⟨t0, v0, lt, lv, hf, hl⟩ := ends_of_ne_nil ok.ne
  have hpre_lt : ∀ p ∈ pre, p.1 < t0 := fun p hp =>
    (List.pairwise_append.mp hsorted).2.2 p hp (t0, v0) (List.mem_of_head? hf)
  have hentry : (s.total = 0 ∨ s.lastT < t0) ∧ (∀ x ∈ fr, x ≤ t0) ∧ enterV s v0 = adjusted (pre.map (·.2) ++ [v0]) := by
    unfold StateAfter at hst
    split at hst
    next hgl =>
      rw [List.getLast?_eq_none_iff.mp hgl, hst.2, enterV, if_pos hst.1]
      exact ⟨Or.inl hst.1, nofun, rfl⟩
    next lp hgl =>
      obtain ⟨h1, h2, h3, h4, h5⟩ := hst
      have hlp := hpre_lt lp (List.mem_of_getLast? hgl)
      refine ⟨Or.inr (h4 ▸ hlp), fun x hx => by rw [h5, List.mem_singleton] at hx; exact hx ▸ hlp, ?_⟩
      obtain ⟨ys, rfl⟩ := List.getLast?_eq_some_iff.mp hgl
      rw [List.map_append] at h2 ⊢
      rw [enterV, if_neg (Nat.ne_of_gt h1), h2, h3, List.append_assoc]
      exact (adjusted_append_cons _ lp.2 [v0]).symm ▸ congrArg _ (Int.add_zero _).symm
  have hT0 : ∀ t ∈ T, t0 ≤ t := fun t ht => ok.tfirst t ht _ hf
  have hv0 := adjAt_head ok.sorted hf
  have hval := adjAt_append hf hpre_lt
  have hb := segTs_bounds ok hf hl
  have hgl : (pre ++ vs).getLast? = some (lt, lv) := by rw [List.getLast?_append, hl]; rfl
  have hle := le_getLast_of_pairwise (hsorted.imp Int.le_of_lt) hgl
  have ht0lt : t0 ≤ lt := hle _ (List.mem_append_right _ (List.mem_of_head? hf))
  -- the chunk's own counter plus the offset fixed on entry
  have hcr := crChunk_ctr (adjAt vs) lv ok.tsorted hT0 (ok.tlast _ hl)
    (fun _ _ => adjAt_mono ok.sorted ok.nonneg) s fr hentry.1 hentry.2.1
    (adjusted (pre.map (·.2) ++ [v0]) - v0) (by rw [hv0, hentry.2.2, Int.sub_add_cancel])
  rw [hv0, ← hval lt ht0lt, adjAt_of_le hle] at hcr
  rw [ctrChunk_eq T hf hl, hcr, ← segTs_eq T hf]
  refine ⟨_, congrArg (·, _, _) (List.map_congr_left fun t ht => by rw [hval t (hb t ht).1]), ?_⟩
  unfold StateAfter
  rw [hgl]
  exact ⟨Nat.add_pos_left (Nat.succ_pos _) _, rfl, rfl, rfl, rfl⟩

theorem crChunks_segs : ∀ (segs : List (List Pt × List Int)) (pre : List Pt) (s : CR) (fr : List Int),
    (∀ sg ∈ segs, SegOK sg.1 sg.2) → Sorted (pre ++ segs.flatMap (·.1)) → StateAfter pre s fr →
    (crChunks (segs.map fun sg => ctrChunk sg.1 sg.2) s fr).1 =
      segs.flatMap (fun sg => (segTs sg.1 sg.2).map fun t => (t, adjAt (pre ++ segs.flatMap (·.1)) t)) ∧
    ∃ fr', StateAfter (pre ++ segs.flatMap (·.1)) (crChunks (segs.map fun sg => ctrChunk sg.1 sg.2) s fr).2 fr' := by
  intro segs
  induction segs with
  | nil =>
    intro pre s fr _ _ hst
    simp only [List.flatMap_nil, List.append_nil]
    exact ⟨rfl, fr, hst⟩
  | cons sg rest ih =>
    intro pre s fr hok hsorted hst
    obtain ⟨vs, T⟩ := sg
    obtain ⟨ok, hok'⟩ := List.forall_mem_cons.mp hok
    have hflat : pre ++ ((vs, T) :: rest).flatMap (·.1) = (pre ++ vs) ++ rest.flatMap (·.1) := by
      rw [List.flatMap_cons, List.append_assoc]
    rw [hflat] at hsorted ⊢
    obtain ⟨s', hcr, hst'⟩ := crChunk_seg ok (List.pairwise_append.mp hsorted).1 hst
    obtain ⟨hout, hfin⟩ := ih (pre ++ vs) s' [s'.lastT + 1] hok' hsorted hst'
    rw [List.map_cons, crChunks, hcr]
    refine ⟨?_, hfin⟩
    rw [List.flatMap_cons, ← hout]
    -- later segments do not change the adjusted counter at this segment's timestamps
    obtain ⟨t0, v0, lt, lv, hf, hl⟩ := ends_of_ne_nil ok.ne
    refine congrArg (· ++ _) (List.map_congr_left fun t ht => ?_)
    rw [adjAt_append_later _ _ t fun p hp => Int.lt_of_le_of_lt (segTs_bounds ok hf hl t ht).2
      ((List.pairwise_append.mp hsorted).2.2 (lt, lv) (List.mem_append_right _ (List.mem_of_getLast? hl)) p hp)]

theorem applyResets_segs (segs : List (List Pt × List Int)) (hok : ∀ sg ∈ segs, SegOK sg.1 sg.2)
    (hsorted : Sorted (segs.flatMap (·.1))) :
    (applyResets (segs.map fun sg => ctrChunk sg.1 sg.2)).1 =
      segs.flatMap (fun sg => (segTs sg.1 sg.2).map fun t => (t, adjAt (segs.flatMap (·.1)) t)) ∧
    ∀ l, (segs.flatMap (·.1)).getLast? = some l → (applyResets (segs.map fun sg => ctrChunk sg.1 sg.2)).2 = l.2 := by
  obtain ⟨hout, fr', hst⟩ := crChunks_segs segs [] {} [] hok hsorted ⟨rfl, rfl⟩
  refine ⟨hout, fun l hl => ?_⟩
  unfold StateAfter at hst
  rw [List.nil_append, hl] at hst
  exact hst.2.2.1

end Thanos.Downsample
