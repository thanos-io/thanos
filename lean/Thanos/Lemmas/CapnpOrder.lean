import Thanos.Lemmas.Capnp
/-
  C25: `marshalSymbols` ranges over a Go map.  Whatever order the runtime picks, the offsets and
  the data buffer come out the same: every write puts the values of the final array on the
  positions it touches, and every position is touched (`foldl_eq_target`).
-/
namespace Thanos.Capnp

abbrev Entry.covers (e : Entry) (p : Nat) : Prop := e.start ≤ p ∧ p < e.start + e.str.length

/-- Go's `copy` into a buffer that is long enough -/
theorem writeAt_spec {buf : Str} {start : Nat} {s : Str} (h : start + s.length ≤ buf.length) :
    (writeAt buf start s).length = buf.length ∧
    (∀ p, start ≤ p ∧ p < start + s.length → (writeAt buf start s)[p]? = s[p - start]?) ∧
    ∀ p, ¬ (start ≤ p ∧ p < start + s.length) → (writeAt buf start s)[p]? = buf[p]? := by
  have h1 : (buf.take start).length = start := List.length_take_of_le (Nat.le_trans (Nat.le_add_right _ _) h)
  unfold writeAt
  refine ⟨?_, fun p hp => ?_, fun p hp => ?_⟩
  · rw [List.length_append, List.length_append, h1, List.length_drop]
    exact Nat.add_sub_cancel' h
  · rw [List.getElem?_append_left (by rw [List.length_append, h1]; exact hp.2),
      List.getElem?_append_right (Nat.le_trans (Nat.le_of_eq h1) hp.1), h1]
  · rw [List.getElem?_append, List.getElem?_append, List.length_append, h1, List.getElem?_drop]
    by_cases hlt : p < start
    · rw [if_pos (Nat.lt_of_lt_of_le hlt (Nat.le_add_right _ _)), if_pos hlt, List.getElem?_take_of_lt hlt]
    · have hge : start + s.length ≤ p := Nat.le_of_not_lt fun h2 => hp ⟨Nat.le_of_not_lt hlt, h2⟩
      rw [if_neg (Nat.not_lt.2 hge), Nat.add_sub_cancel' hge]

/-- `At e`: the positions write `e` touches; `T`: the final array.  In whatever order,
    overlapping or not. -/
theorem foldl_eq_target {α ε : Type} {w : List α → ε → List α} {At : ε → Nat → Prop} {T : List α}
    (l : List ε) (d : List α) (hn : d.length = T.length)
    (hw : ∀ e, e ∈ l → ∀ d : List α, d.length = T.length → (w d e).length = T.length ∧
      (∀ p, At e p → (w d e)[p]? = T[p]?) ∧ ∀ p, ¬ At e p → (w d e)[p]? = d[p]?)
    (hcov : ∀ p, p < T.length → (∃ e, e ∈ l ∧ At e p) ∨ d[p]? = T[p]?) :
    l.foldl w d = T := by
  induction l generalizing d with
  | nil =>
    refine List.ext_getElem hn fun p hp _ => Option.some.inj ?_
    rw [← List.getElem?_eq_getElem, ← List.getElem?_eq_getElem]
    exact (hcov p (hn ▸ hp)).resolve_left fun ⟨_, he, _⟩ => nomatch he
  | cons a l ih =>
    obtain ⟨hwa, hwl⟩ := List.forall_mem_cons.1 hw
    obtain ⟨a1, a2, a3⟩ := hwa d hn
    refine ih (w d a) a1 hwl fun p hp => ?_
    by_cases hpa : At a p
    · exact .inr (a2 p hpa)
    · rcases hcov p hp with ⟨e, he, hpe⟩ | hd
      · rcases List.mem_cons.1 he with rfl | he
        · exact absurd hpe hpa
        · exact .inl ⟨e, he, hpe⟩
      · exact .inr ((a3 p hpa).trans hd)

/-- what `marshalSymbols_any_order` needs of a well-formed entry list laid out behind `pre`: the total length is
    `size`; every entry ends inside; the bytes under an entry are its string; every byte behind `pre` is under an entry -/
theorem wffrom_facts (pre : Str) (idx : Nat) (es : List Entry) (size : Nat) (h : WFfrom idx pre.length es size) :
    (pre ++ es.flatMap (·.str)).length = size ∧
    (∀ e, e ∈ es → e.start + e.str.length ≤ size) ∧
    (∀ e, e ∈ es → ∀ p, e.covers p → (pre ++ es.flatMap (·.str))[p]? = e.str[p - e.start]?) ∧
    (∀ p, pre.length ≤ p → p < size → ∃ e, e ∈ es ∧ e.covers p) := by
  induction es generalizing pre idx with
  | nil =>
    have h : pre.length = size := h
    refine ⟨by rw [List.flatMap_nil, List.append_nil, h], (fun _ he => nomatch he),
      (fun _ he => nomatch he), fun p h1 h2 => absurd (h ▸ h1) (Nat.not_le.2 h2)⟩
  | cons a es ih =>
    obtain ⟨_, h2, h3⟩ := h
    have hlen : (pre ++ a.str).length = pre.length + a.str.length := List.length_append
    obtain ⟨f1, f2, f3, f4⟩ := ih (pre ++ a.str) (idx + 1) (hlen ▸ h3)
    have hstop : a.start + a.str.length = pre.length + a.str.length := congrArg (· + a.str.length) h2
    rw [List.append_assoc] at f1 f3
    have hsz : pre.length + a.str.length ≤ size := by
      rw [← f1, List.length_append, List.length_append, ← Nat.add_assoc]
      exact Nat.le_add_right _ _
    refine ⟨f1, List.forall_mem_cons.2 ⟨hstop ▸ hsz, f2⟩, List.forall_mem_cons.2 ⟨fun p hp => ?_, f3⟩,
      fun p hp1 hp2 => ?_⟩
    · rw [List.flatMap_cons, h2, List.getElem?_append_right (h2 ▸ hp.1),
        List.getElem?_append_left (Nat.sub_lt_left_of_lt_add (h2 ▸ hp.1) (hstop ▸ hp.2))]
    · by_cases hin : p < pre.length + a.str.length
      · exact ⟨a, List.mem_cons_self, h2 ▸ hp1, hstop ▸ hin⟩
      · obtain ⟨e, he, hg⟩ := f4 p (hlen ▸ Nat.le_of_not_lt hin) hp2
        exact ⟨e, List.mem_cons_of_mem _ he, hg⟩

/-- The order in which the Go runtime ranges over the symbol map does not matter, for any well-formed
    table (`C25_symbols_any_order` has it for the tables `addEntry` builds from the empty one). -/
theorem marshalSymbols_any_order (b : Builder) (h : WF b) (order : List Entry) (hperm : order.Perm b.entries) :
    marshalSymbolsIn order b.entries.length b.size = marshalSymbols b := by
  obtain ⟨f1, f2, f3, f4⟩ := wffrom_facts [] 0 b.entries b.size h
  simp only [List.nil_append] at f1 f3
  have hidx : ∀ {j : Nat} {e : Entry}, b.entries[j]? = some e → e.index = j := fun hj =>
    (wffrom_getElem h hj).trans (Nat.zero_add _)
  unfold marshalSymbolsIn marshalSymbols
  congr 1
  · refine foldl_eq_target (At := fun e p => p = e.index) order _
      (List.length_replicate.trans (List.length_map _).symm) (fun e he o hn => ?_) fun p hp => ?_
    · obtain ⟨j, hj⟩ := List.mem_iff_getElem?.1 (hperm.mem_iff.mp he)
      have hlt : e.index < o.length := by
        rw [hn, List.length_map, hidx hj]
        exact (List.getElem?_eq_some_iff.1 hj).1
      refine ⟨List.length_set.trans hn, fun p hp => ?_, fun p hp => List.getElem?_set_ne (Ne.symm hp)⟩
      rw [hp, List.getElem?_set_self hlt, hidx hj, List.getElem?_map, hj]
      rfl
    · rw [List.length_map] at hp
      exact .inl ⟨b.entries[p], hperm.mem_iff.mpr (List.getElem_mem hp), (hidx (List.getElem?_eq_getElem hp)).symm⟩
  · refine foldl_eq_target (At := Entry.covers) order _ (List.length_replicate.trans f1.symm)
      (fun e he d hn => ?_) fun p hp => ?_
    · have he := hperm.mem_iff.mp he
      have hs := writeAt_spec (hn ▸ f1 ▸ f2 e he)
      exact ⟨hs.1.trans hn, fun p hp => (hs.2.1 p hp).trans (f3 e he p hp).symm, hs.2.2⟩
    · obtain ⟨e, he, hg⟩ := f4 p (Nat.zero_le _) (f1 ▸ hp)
      exact .inl ⟨e, hperm.mem_iff.mpr he, hg⟩

end Thanos.Capnp
