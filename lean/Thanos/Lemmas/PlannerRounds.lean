import Thanos.Lemmas.Planner
import Thanos.Lemmas.ListFacts
import Thanos.Lemmas.OrderedInsert
/-
  One round of each loop around `plan`, in facts that do not mention `plan`.  A round of plan/apply (`applyPlan`) takes
  the planned blocks out and puts in one block that spans exactly them and has no tombstones, by `insertByMin`, which is
  `OrderedInsert.ins` for "starts earlier".  So it lowers `measure` (blocks plus blocks with many tombstones:
  `applyPlan_measure`) and, when the plan is a contiguous piece whose hull is no longer than `R`, keeps the group
  `Good R`: non-overlapping proper blocks no longer than `R` (`apply_good`).  A round of the size-limit marking loops
  excludes one more block of the plan, which lowers `free`, the number of blocks not excluded (`free_lt_of_more`).
  Lemmas/PlannerLoops puts in what `plan` returns.
-/
namespace Thanos.Planner

theorem filter_countP_sublist (keep q : Meta → Bool) {p ms : List Meta} (hsub : p.Sublist ms)
    (hk : ∀ b ∈ p, keep b = false) : (ms.filter keep).countP q + p.countP q ≤ ms.countP q := by
  have h1 := List.countP_eq_countP_filter_add ms q keep
  have h2 := (hsub.filter (fun a => !keep a)).countP_le (p := q)
  rw [List.filter_eq_self.mpr (fun b hb => by simp [hk b hb])] at h2
  omega

theorem insertByMin_eq_ins (b : Meta) : ∀ l : List Meta,
    insertByMin b l = OrderedInsert.ins (fun b m : Meta => b.min < m.min) b l
  | [] => rfl
  | m :: ms => by simp only [insertByMin, OrderedInsert.ins, insertByMin_eq_ins b ms]

theorem insertByMin_perm (b : Meta) (l : List Meta) : (insertByMin b l).Perm (b :: l) :=
  insertByMin_eq_ins b l ▸ OrderedInsert.ins_perm b l

theorem mem_insertByMin {b c : Meta} {l : List Meta} : c ∈ insertByMin b l ↔ c = b ∨ c ∈ l :=
  (insertByMin_perm b l).mem_iff.trans List.mem_cons

theorem minOf_spec (ms : List Meta) (a : Int) :
    minOf ms a ≤ a ∧ (minOf ms a = a ∨ ∃ b ∈ ms, minOf ms a = b.min) := by
  fun_induction minOf ms a with
  | case1 a => exact ⟨Int.le_refl _, Or.inl rfl⟩
  | case2 m ms a ih =>
    simp only [List.mem_cons, exists_eq_or_imp]
    by_cases hlt : m.min < a
    · rw [if_pos hlt] at ih ⊢
      exact ⟨by omega, Or.inr ih.2⟩
    · rw [if_neg hlt] at ih ⊢
      exact ⟨ih.1, ih.2.imp_right Or.inr⟩

theorem maxOf_spec (ms : List Meta) (a : Int) :
    a ≤ maxOf ms a ∧ (maxOf ms a = a ∨ ∃ b ∈ ms, maxOf ms a = b.max) := by
  fun_induction maxOf ms a with
  | case1 a => exact ⟨Int.le_refl _, Or.inl rfl⟩
  | case2 m ms a ih =>
    simp only [List.mem_cons, exists_eq_or_imp]
    by_cases hlt : m.max > a
    · rw [if_pos hlt] at ih ⊢
      exact ⟨by omega, Or.inr ih.2⟩
    · rw [if_neg hlt] at ih ⊢
      exact ⟨ih.1, ih.2.imp_right Or.inr⟩

theorem hull_spec (newId : Nat) (m : Meta) (ms : List Meta) :
    (∃ a ∈ m :: ms, (hull newId (m :: ms)).min = a.min) ∧ (∃ b ∈ m :: ms, (hull newId (m :: ms)).max = b.max) ∧
    (hull newId (m :: ms)).min ≤ m.min ∧ m.max ≤ (hull newId (m :: ms)).max := by
  simp only [List.mem_cons, exists_eq_or_imp]
  exact ⟨(minOf_spec ms m.min).2, (maxOf_spec ms m.max).2, (minOf_spec ms m.min).1, (maxOf_spec ms m.max).1⟩

theorem hull_no_tombstones (newId : Nat) (p : List Meta) : manyTombstones (hull newId p) = false := by
  cases p <;> simp [hull, manyTombstones]

/-- what every applied plan decreases -/
def measure (ms : List Meta) : Nat := ms.length + ms.countP manyTombstones

theorem applyPlan_measure (newId : Nat) {p ms : List Meta} (hsub : p.Sublist ms)
    (hp : 2 ≤ p.length ∨ ∃ b, p = [b] ∧ manyTombstones b = true) :
    measure (applyPlan newId p ms) < measure ms := by
  have hk : ∀ b ∈ p, (!(p.any (fun q => q.id = b.id))) = false := fun b hb => by
    simpa using ⟨b, hb, rfl⟩
  -- the planned blocks leave (`h1`: so many blocks, `h2`: so many with tombstones), one without tombstones comes in
  have h1 := filter_countP_sublist _ (fun _ => true) hsub hk
  have h2 := filter_countP_sublist _ manyTombstones hsub hk
  have hperm := insertByMin_perm (hull newId p) (ms.filter (fun m => !(p.any (fun q => q.id = m.id))))
  unfold measure applyPlan
  rw [hperm.length_eq, hperm.countP_eq, List.countP_cons, hull_no_tombstones]
  simp only [List.countP_true] at h1
  simp only [List.length_cons, Bool.false_eq_true, if_false]
  rcases hp with hp | ⟨b, rfl, hb⟩
  · omega
  · simp only [List.length_cons, List.length_nil, List.countP_cons, List.countP_nil, hb, if_true] at h1 h2
    omega

/-- what the last clause of C30 promises of a group -/
structure Good (R : Int) (ms : List Meta) : Prop where
  nonOverlap : NonOverlapping ms
  wf : ∀ b ∈ ms, b.min < b.max
  short : ∀ b ∈ ms, b.max - b.min ≤ R

theorem Good.sorted {R : Int} {ms : List Meta} (h : Good R ms) : SortedByMin ms :=
  h.nonOverlap.imp_of_mem fun ha _ hab => Int.le_trans (Int.le_of_lt (h.wf _ ha)) hab

theorem Good.sublist {R : Int} {ms l : List Meta} (hg : Good R ms) (h : l.Sublist ms) : Good R l :=
  ⟨hg.nonOverlap.sublist h, fun b hb => hg.wf b (h.subset hb), fun b hb => hg.short b (h.subset hb)⟩

theorem insert_nonOverlapping {b : Meta} {l : List Meta} (hb : b.min < b.max) (hn : NonOverlapping l)
    (hw : ∀ c ∈ l, c.min < c.max) (hd : ∀ c ∈ l, c.max ≤ b.min ∨ b.max ≤ c.min) :
    NonOverlapping (insertByMin b l) := by
  rw [insertByMin_eq_ins]
  -- "ends before the next starts" is not transitive by itself; with "the next is an interval" it is
  refine (OrderedInsert.ins_pairwise (R := fun a c : Meta => a.max ≤ c.min ∧ c.min ≤ c.max)
    (fun _ _ _ h1 h2 => ⟨Int.le_trans h1.1 (Int.le_trans h1.2 h2.1), h2.2⟩) b l
    (hn.imp_of_mem fun _ hc h => ⟨h, Int.le_of_lt (hw _ hc)⟩) (fun c hc hlt => ?_) fun c hc hlt => ?_).imp And.left
  -- `b` is disjoint from `c`, and which of the two starts first says on which side it lies
  · have := hd c hc
    have := hw c hc
    omega
  · have := hd c hc
    omega

theorem insert_good {R : Int} {b : Meta} {l : List Meta} (hb : b.min < b.max) (hlen : b.max - b.min ≤ R)
    (hg : Good R l) (hd : ∀ c ∈ l, c.max ≤ b.min ∨ b.max ≤ c.min) : Good R (insertByMin b l) :=
  ⟨insert_nonOverlapping hb hg.nonOverlap hg.wf hd,
    fun c hc => (mem_insertByMin.mp hc).elim (fun h => h ▸ hb) (hg.wf c),
    fun c hc => (mem_insertByMin.mp hc).elim (fun h => h ▸ hlen) (hg.short c)⟩

theorem apply_good {R : Int} {newId : Nat} {p ms : List Meta} (hinf : p <:+: ms)
    (hne : p ≠ []) (hg : Good R ms) (hlen : (hull newId p).max - (hull newId p).min ≤ R) :
    Good R (applyPlan newId p ms) := by
  obtain ⟨pre, suf, rfl⟩ := hinf
  obtain ⟨m0, p', rfl⟩ := List.exists_cons_of_ne_nil hne
  obtain ⟨⟨a, ha, hmin⟩, ⟨z, hz, hmax⟩, hlo, hhi⟩ := hull_spec newId m0 p'
  have hwf0 := hg.wf m0 (by simp)
  -- the blocks before the piece end before any of its blocks starts, those after it start after any ends
  have hno := hg.nonOverlap
  unfold NonOverlapping at hno
  rw [List.pairwise_append, List.pairwise_append] at hno
  obtain ⟨⟨_, _, hpre_p⟩, _, hall_suf⟩ := hno
  refine insert_good (by omega) hlen (hg.sublist List.filter_sublist) fun c hc => ?_
  obtain ⟨hcm, hck⟩ := List.mem_filter.mp hc
  simp only [List.mem_append] at hcm
  rcases hcm with (hc1 | hc2) | hc3
  · exact Or.inl (hmin ▸ hpre_p c hc1 a ha)
  · simp only [Bool.not_eq_true', List.any_eq_false, decide_eq_true_eq] at hck
    exact absurd rfl (hck c hc2)
  · exact Or.inr (hmax ▸ hall_suf z (List.mem_append_right _ hz) c hc3)

theorem sizeScan_mem {limit : Int} {p : List Meta} {total : Int} {mx : Option Int} {big : Option Meta} {b : Meta}
    (h : sizeScan limit p total mx big = some b) : b ∈ p ∨ big = some b := by
  induction p generalizing total mx big with
  | nil => cases h
  | cons m rest ih =>
    unfold sizeScan at h
    -- after `m` the candidate is `m` or the old one; the loop stops with it or goes on
    have tail : ∀ c : Option Int × Option Meta, (c.2 = some m ∨ c.2 = big) →
        (if total + m.isize ≥ limit then c.2 else sizeScan limit rest (total + m.isize) c.1 c.2) = some b →
        b ∈ m :: rest ∨ big = some b := by
      intro c hc h
      have h' : c.2 = some b ∨ b ∈ rest := by
        split at h
        · exact Or.inl h
        · exact (ih h).symm
      rcases h' with h' | h'
      · rcases hc with hc | hc
        · cases hc.symm.trans h'
          exact Or.inl List.mem_cons_self
        · exact Or.inr (hc.symm.trans h')
      · exact Or.inl (List.mem_cons_of_mem _ h')
    cases mx with
    | none => exact tail (some m.isize, some m) (Or.inl rfl) h
    | some s =>
      refine tail (if s < m.isize then (some m.isize, some m) else (some s, big)) ?_ h
      split
      · exact Or.inl rfl
      · exact Or.inr rfl

/-- what every round of the marking loops decreases -/
def free (excl : Excl) (ms : List Meta) : Nat := ms.countP (fun m => !excl m.id)

theorem free_lt_of_more {excl excl' : Excl} {ms : List Meta} {b : Meta}
    (hmono : ∀ i, excl i = true → excl' i = true) (hb : b ∈ ms) (he : excl b.id = false)
    (he' : excl' b.id = true) : free excl' ms < free excl ms :=
  countP_lt_of_imp _ _ (fun w _ hw => by
    cases h : excl w.id
    · rfl
    · simp [hmono _ h] at hw) hb (by simp [he]) (by simp [he'])

end Thanos.Planner
