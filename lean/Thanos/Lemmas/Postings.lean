import Thanos.Model.Postings
import Thanos.Lemmas.OrderedInsert
import Thanos.Lemmas.MergeTwo
/-
  The list functions of the posting-group model (C10), each by what it keeps of its input and none by what a group
  selects.  The key lists: `sortKeys` (an insertion sort by `OrderedInsert.ins`) and the three two-pointer walks over
  strictly ascending lists, each lemma by recursion on the first list and, inside, along the cases of the walk's inner
  loop (`….aux`).  Each walk compares the two heads; what makes it correct is that a key below the head of a sorted list
  is not in it (`lt_of_lt_head`, `not_mem_of_lt_head`).  Then the bookkeeping of `matchersToPostingGroups`:
  `distinctNames` loses no matcher's name, `insertGroup` permutes, `dedupMatchers` leaves a sublist on which a
  conjunction that does not tell equal matchers apart is unchanged.
-/
namespace Thanos.Postings

def SortedKeys (l : List Nat) : Prop := l.Pairwise (· < ·)

theorem sortedKeys_tail {x : Nat} {xs : List Nat} (h : SortedKeys (x :: xs)) : SortedKeys xs :=
  (List.pairwise_cons.mp h).2

theorem sortedKeys_head_lt {x : Nat} {xs : List Nat} (h : SortedKeys (x :: xs)) : ∀ y ∈ xs, x < y :=
  (List.pairwise_cons.mp h).1

theorem lt_of_lt_head {x y : Nat} {ys : List Nat} (h : SortedKeys (y :: ys)) (hxy : x < y) : ∀ a ∈ y :: ys, x < a := by
  intro a ha
  rcases List.mem_cons.mp ha with rfl | ha
  · exact hxy
  · exact Nat.lt_trans hxy (sortedKeys_head_lt h a ha)

theorem not_mem_of_lt_head {x y : Nat} {ys : List Nat} (h : SortedKeys (y :: ys)) (hxy : x < y) : x ∉ y :: ys :=
  fun hm => Nat.lt_irrefl x (lt_of_lt_head h hxy x hm)

theorem head_not_mem_tail {x : Nat} {xs : List Nat} (h : SortedKeys (x :: xs)) : x ∉ xs :=
  fun hm => Nat.lt_irrefl _ (sortedKeys_head_lt h x hm)

theorem insertKey_eq_ins (x : Nat) (l : List Nat) : insertKey x l = OrderedInsert.ins (· ≤ ·) x l := by
  induction l with
  | nil => rfl
  | cons y ys ih => simp only [insertKey, OrderedInsert.ins, ih]

theorem mem_insertKey (x : Nat) (l : List Nat) (y : Nat) : y ∈ insertKey x l ↔ y = x ∨ y ∈ l :=
  insertKey_eq_ins x l ▸ OrderedInsert.mem_ins

theorem mem_sortKeys (l : List Nat) (y : Nat) : y ∈ sortKeys l ↔ y ∈ l :=
  (OrderedInsert.sort_perm insertKey_eq_ins l).mem_iff

/-- distinct keys: a key not after another one is strictly before it -/
theorem sortKeys_sorted (l : List Nat) (h : l.Nodup) : SortedKeys (sortKeys l) :=
  OrderedInsert.sort_pairwise insertKey_eq_ins (R := (· < ·)) (fun _ _ _ => Nat.lt_trans) l
    (h.imp fun ne => ⟨fun le => Nat.lt_of_le_of_ne le ne, Nat.lt_of_not_le⟩)

/-- the merge of the removed keys of two all-minus groups is `strutil.mergeTwoStringSlices` again -/
theorem unionKeys_eq_mergeTwo : ∀ xs ys : List Nat, unionKeys xs ys = StoreSpec.mergeTwo xs ys
  | [], _ => rfl
  | x :: xs, ys => by
    unfold unionKeys StoreSpec.mergeTwo
    induction ys with
    | nil => rfl
    | cons y ys ih =>
      unfold unionKeys.aux StoreSpec.mergeTwo.aux
      rw [ih, unionKeys_eq_mergeTwo xs (y :: ys), unionKeys_eq_mergeTwo xs ys]

theorem mem_unionKeys (xs ys : List Nat) (a : Nat) : a ∈ unionKeys xs ys ↔ a ∈ xs ∨ a ∈ ys :=
  unionKeys_eq_mergeTwo xs ys ▸ StoreSpec.mem_mergeTwo xs ys a

theorem contains_cons_of_not_mem {a y : Nat} {l : List Nat} (ha : a ∈ l) (hy : y ∉ l) (ys : List Nat) :
    (y :: ys).contains a = ys.contains a := by
  have hne : a ≠ y := fun e => hy (e ▸ ha)
  rw [List.contains_cons, beq_eq_false_iff_ne.mpr hne, Bool.false_or]

theorem contains_filter (p : Nat → Bool) (l : List Nat) (v : Nat) : (l.filter p).contains v = (l.contains v && p v) := by
  rw [Bool.eq_iff_iff, Bool.and_eq_true, List.contains_iff_mem, List.contains_iff_mem, List.mem_filter]

theorem subtractKeys_eq_filter : ∀ (xs ys : List Nat), SortedKeys xs → SortedKeys ys →
    subtractKeys xs ys = xs.filter fun a => !ys.contains a
  | [], _, _, _ => rfl
  | x :: xs, ys, hx, hy => by
    have hxs := sortedKeys_tail hx
    unfold subtractKeys
    fun_induction subtractKeys.aux x xs (subtractKeys xs) ys with
    | case1 => exact (List.filter_eq_self.mpr fun _ _ => rfl).symm
    | case2 y ys h1 =>
      rw [subtractKeys_eq_filter xs (y :: ys) hxs hy, List.filter_cons_of_pos]
      simpa using not_mem_of_lt_head hy h1
    | case3 y ys _ h2 ih =>
      exact (ih (sortedKeys_tail hy)).trans (List.filter_congr fun a ha => by
        rw [contains_cons_of_not_mem ha (not_mem_of_lt_head hx h2)])
    | case4 y ys h1 h2 =>
      obtain rfl : x = y := by omega
      rw [subtractKeys_eq_filter xs ys hxs (sortedKeys_tail hy), List.filter_cons_of_neg (by simp)]
      exact List.filter_congr fun a ha => by rw [contains_cons_of_not_mem ha (head_not_mem_tail hx)]

theorem intersectKeys_eq_filter : ∀ (xs ys : List Nat), SortedKeys xs → SortedKeys ys →
    intersectKeys xs ys = xs.filter ys.contains
  | [], _, _, _ => rfl
  | x :: xs, ys, hx, hy => by
    have hxs := sortedKeys_tail hx
    unfold intersectKeys
    fun_induction intersectKeys.aux x (intersectKeys xs) ys with
    | case1 => simp
    | case2 ys =>
      rw [intersectKeys_eq_filter xs ys hxs (sortedKeys_tail hy), List.filter_cons_of_pos (by simp)]
      exact congrArg _ (List.filter_congr fun a ha => by
        rw [contains_cons_of_not_mem ha (head_not_mem_tail hx)])
    | case3 y ys _ h2 =>
      rw [intersectKeys_eq_filter xs (y :: ys) hxs hy, List.filter_cons_of_neg]
      simpa using not_mem_of_lt_head hy h2
    | case4 y ys h1 h2 ih =>
      exact (ih (sortedKeys_tail hy)).trans (List.filter_congr fun a ha => by
        rw [contains_cons_of_not_mem ha (not_mem_of_lt_head hx (by omega))])

theorem contains_unionKeys (xs ys : List Nat) (a : Nat) :
    (unionKeys xs ys).contains a = (xs.contains a || ys.contains a) := by
  simp only [List.contains_eq_mem, mem_unionKeys, Bool.decide_or]

theorem unionKeys_sorted : ∀ (xs ys : List Nat), SortedKeys xs → SortedKeys ys → SortedKeys (unionKeys xs ys)
  | [], ys, _, hy => hy
  | x :: xs, ys, hx, hy => by
    have hxs := sortedKeys_tail hx
    have hlt := sortedKeys_head_lt hx
    unfold unionKeys
    fun_induction unionKeys.aux x xs (unionKeys xs) ys with
    | case1 => exact hx
    | case2 y ys h1 =>
      exact List.pairwise_cons.mpr ⟨fun a ha => ((mem_unionKeys ..).mp ha).elim (hlt a) (lt_of_lt_head hy h1 a),
        unionKeys_sorted xs (y :: ys) hxs hy⟩
    | case3 y ys _ h2 ih =>
      exact List.pairwise_cons.mpr ⟨fun a ha => ((mem_unionKeys (x :: xs) ys a).mp ha).elim (lt_of_lt_head hx h2 a)
        (sortedKeys_head_lt hy a), ih (sortedKeys_tail hy)⟩
    | case4 y ys h1 h2 =>
      obtain rfl : x = y := by omega
      exact List.pairwise_cons.mpr ⟨fun a ha => ((mem_unionKeys xs ys a).mp ha).elim (hlt a) (sortedKeys_head_lt hy a),
        unionKeys_sorted xs ys hxs (sortedKeys_tail hy)⟩

theorem sorted_of_subset_sorted {l m : List Nat} (hl : l.Sublist m) (hm : SortedKeys m) : SortedKeys l :=
  List.Pairwise.sublist hl hm

theorem mem_distinctNames : ∀ (l : List PMatcher) (n : Nat), n ∈ distinctNames l ↔ ∃ m ∈ l, m.name = n
  | [], n => by simp [distinctNames]
  | m :: ms, n => by
    simp only [distinctNames, List.mem_cons, List.mem_filter, mem_distinctNames ms n, bne_iff_ne, ne_eq]
    by_cases he : n = m.name
    · simp [he]
    · simp [he, Ne.symm he]

theorem all_by_name (l : List PMatcher) (P : Nat → PMatcher → Bool) :
    (distinctNames l).all (fun n => (l.filter (·.name == n)).all (P n)) = l.all (fun m => P m.name m) := by
  rw [Bool.eq_iff_iff]
  simp only [List.all_eq_true, List.mem_filter, beq_iff_eq]
  constructor
  · intro h m hm
    exact h m.name ((mem_distinctNames l m.name).mpr ⟨m, hm, rfl⟩) m ⟨hm, rfl⟩
  · rintro h n _ m ⟨hm, rfl⟩
    exact h m hm

/-- `insertGroup` is an `OrderedInsert.ins` by name; nothing but this is needed of it -/
theorem insertGroup_perm (g : Group) (l : List Group) : (insertGroup g l).Perm (g :: l) := by
  fun_induction insertGroup g l with
  | case1 | case2 => exact .refl _
  | case3 h hs _ ih => exact (ih.cons h).trans (.swap g h hs)

theorem dedupMatchers_sublist (l : List PMatcher) : (dedupMatchers l).Sublist l := by
  fun_induction dedupMatchers l with
  | case1 => exact .slnil
  | case2 _ _ _ ih => exact ih.cons _
  | case3 _ _ _ ih => exact ih.cons_cons _

theorem dedup_ne_nil (l : List PMatcher) (h : l ≠ []) : dedupMatchers l ≠ [] := by
  fun_induction dedupMatchers l with
  | case1 => exact h
  | case2 x xs hany ih => exact ih fun e => by simp [e] at hany
  | case3 => exact List.cons_ne_nil _ _

theorem dedup_all (P : PMatcher → Bool) (l : List PMatcher)
    (h : ∀ a ∈ l, ∀ b ∈ l, sameMatcher a b = true → P a = P b) : (dedupMatchers l).all P = l.all P := by
  fun_induction dedupMatchers l with
  | case1 => rfl
  | case2 x xs hany ih =>
    have ih := ih fun a ha b hb => h a (List.mem_cons_of_mem _ ha) b (List.mem_cons_of_mem _ hb)
    obtain ⟨y, hy, hs⟩ := List.any_eq_true.mp hany
    have hxy := h x (List.mem_cons_self ..) y (List.mem_cons_of_mem _ hy) hs
    rw [ih, List.all_cons, Bool.eq_iff_iff, Bool.and_eq_true, List.all_eq_true]
    exact ⟨fun hall => ⟨hxy ▸ hall y hy, hall⟩, And.right⟩
  | case3 x xs _ ih =>
    rw [List.all_cons, List.all_cons, ih fun a ha b hb => h a (List.mem_cons_of_mem _ ha) b (List.mem_cons_of_mem _ hb)]

end Thanos.Postings
