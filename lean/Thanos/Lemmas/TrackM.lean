import Thanos.Lemmas.ReadPath
/-
  C04, query ranges that cut the series.  `boundedSeriesIterator.Seek` does not enforce `maxt`
  (a sample beyond it can come out) and answers `ValNone` without moving when the target is
  beyond `maxt`; so a bounded side of the dedup node is not list-like.  It is list-like *up to
  `M = maxt`*: `TrackM` says that an iterator follows a list `L` of samples `≤ M` as long as such
  samples remain, and afterwards is "beyond" (`B`: positioned on samples `> M`) or dead.  A dedup
  node over two such iterators is again one, following `cur :: pm2 …` of the tracked lists.

  A side is known to the node by its status `ChildSt` (tracks `l` / beyond / dead), and used only through what a
  live side stands on (`ChildSt.at`), what `Seek` does to status and measure (`ChildSt.seekIf`, `ChildSt.seekHere`)
  and `ChildSt.adjust`.  A positioned node is `NodeLive s L`, which is `nodeT` for `L ≠ []` and `nodeB` for `L = []`
  (`nodeLive_iff`); the node's functions are followed for `NodeLive` alone, each lemma saying what becomes of the
  status and of the measure `nodeRem`.  Back from statuses to the fields of `TrackM` goes `TrackM.of_live`, for the
  leaf (`bnd_trackM`) and for the node (`node_trackM`).  A fresh iterator is known by the status its first `Next`
  leaves — all a node's constructor does with a side (`GoodD`).
-/
namespace Thanos.Dedup

/-- `T r L`: positioned on `head L`, will yield `L` (all `≤ M`, non-empty); `B r`: positioned on a
    sample `> M`; `rem`: a bound on the samples still held (for loop fuel). -/
structure TrackM {ρ : Type} (o : Ops ρ) (M : Int) (T : ρ → List Sample → Prop) (B : ρ → Prop)
    (rem : ρ → Nat) : Prop where
  tNe : ∀ r L, T r L → L ≠ []
  tLe : ∀ r L, T r L → ∀ x ∈ L, x.t ≤ M
  tLower : ∀ r L, T r L → ∀ x ∈ L, minT < x.t
  tAtS : ∀ r L, T r L → o.atS r = L.head?
  tAtT : ∀ r L, T r L → o.atT r = L.head?.map (·.t)
  tSeekT : ∀ r L t, T r L → dropLt t L ≠ [] → (o.seek t r).2 = true ∧ T (o.seek t r).1 (dropLt t L)
  tSeekB : ∀ r L t, T r L → dropLt t L = [] → (o.seek t r).2 = false ∨ B (o.seek t r).1
  tAdjust : ∀ r L v, T r L → T (o.adjust v r) L
  tBad : ∀ r L, T r L → o.bad r = false
  bAt : ∀ r, B r → ∃ x, o.atS r = some x ∧ o.atT r = some x.t ∧ M < x.t
  bSeek : ∀ r t, B r → (o.seek t r).2 = false ∨ B (o.seek t r).1
  /-- seeking to a time at or before the current (beyond) sample does not move -/
  bSeekStay : ∀ r t x, B r → o.atT r = some x → t ≤ x → (o.seek t r).2 = true → o.atT (o.seek t r).1 = some x
  bAdjust : ∀ r v, B r → B (o.adjust v r)
  bBad : ∀ r, B r → o.bad r = false
  /-- a failing `Seek` does not panic either -/
  seekBad : ∀ r t, ((∃ L, T r L) ∨ B r) → o.bad (o.seek t r).1 = false
  remFuel : ∀ r, ((∃ L, T r L) ∨ B r) → rem r ≤ o.fuel r
  remPos : ∀ r, ((∃ L, T r L) ∨ B r) → 1 ≤ rem r
  remSeekLe : ∀ r t, ((∃ L, T r L) ∨ B r) → rem (o.seek t r).1 ≤ rem r
  remSeekLt : ∀ r t x, ((∃ L, T r L) ∨ B r) → o.atT r = some x → x < t → (o.seek t r).2 = true →
    rem (o.seek t r).1 < rem r
  remAdjust : ∀ r v, rem (o.adjust v r) = rem r
  atTAdjust : ∀ r v, o.atT (o.adjust v r) = o.atT r

/-- status of a side of the node: tracking `l`, beyond `M`, or dead (`ValNone` was returned) -/
def ChildSt {γ : Type} (o : Ops γ) (T : γ → List Sample → Prop) (B : γ → Prop) (c : γ) (av : Bool)
    (l : List Sample) : Prop :=
  (l ≠ [] ∧ av = true ∧ T c l) ∨ (l = [] ∧ av = true ∧ B c) ∨ (l = [] ∧ av = false ∧ o.bad c = false)

def remOf {γ : Type} (rem : γ → Nat) (c : γ) (av : Bool) : Nat := if av then rem c else 0

/-- what a live iterator that follows `l` stands on: the head of `l`, or — `l` spent — a sample beyond `M` -/
def Front (M : Int) (l : List Sample) (x : Sample) : Prop :=
  l.head? = some x ∧ minT < x.t ∧ x.t ≤ M ∨ l = [] ∧ M < x.t

theorem Front.of_head {M : Int} {l l' : List Sample} {x : Sample} (h : Front M l x) (hh : l'.head? = l.head?) :
    Front M l' x :=
  h.imp (fun h => ⟨hh.trans h.1, h.2⟩) fun h => ⟨List.head?_eq_none_iff.mp (by rw [hh, h.1]; rfl), h.2⟩

theorem Front.head_eq {M : Int} {l : List Sample} {x y : Sample} (h : Front M l x) (hy : l.head? = some y) :
    y = x := by
  rcases h with ⟨h, _⟩ | ⟨h, _⟩
  · exact Option.some.inj (hy.symm.trans h)
  · rw [h] at hy; cases hy

/-- two iterators, the first not after the second: if the first has spent its list, so has the second -/
theorem Front.nil_of_le {M : Int} {la lb : List Sample} {x y : Sample} (hx : Front M la x) (hy : Front M lb y)
    (hle : x.t ≤ y.t) (h : la = []) : lb = [] := by
  rcases hx with ⟨h1, _⟩ | ⟨_, hx⟩
  · rw [h] at h1; cases h1
  · rcases hy with ⟨_, _, hy⟩ | ⟨hy, _⟩
    · omega
    · exact hy

section child
variable {M : Int} {γ : Type} {o : Ops γ} {T : γ → List Sample → Prop} {B : γ → Prop} {r : γ → Nat}

theorem ChildSt.nbad (h : TrackM o M T B r) {c : γ} {av : Bool} {l : List Sample} (hc : ChildSt o T B c av l) :
    o.bad c = false := by
  rcases hc with ⟨_, _, hT⟩ | ⟨_, _, hB⟩ | ⟨_, _, hb⟩
  · exact h.tBad _ _ hT
  · exact h.bBad _ hB
  · exact hb

theorem ChildSt.valid {c : γ} {l : List Sample} (hc : ChildSt o T B c true l) : (∃ L, T c L) ∨ B c := by
  rcases hc with ⟨_, _, hT⟩ | ⟨_, _, hB⟩ | ⟨_, hf, _⟩
  · exact Or.inl ⟨_, hT⟩
  · exact Or.inr hB
  · cases hf

theorem ChildSt.of_ne {c : γ} {av : Bool} {l : List Sample} (hc : ChildSt o T B c av l) (hl : l ≠ []) :
    av = true ∧ T c l := by
  rcases hc with h | ⟨he, _⟩ | ⟨he, _⟩
  · exact h.2
  · exact absurd he hl
  · exact absurd he hl

theorem ChildSt.of_nil {c : γ} {av : Bool} {l : List Sample} (hc : ChildSt o T B c av l) (hl : l = []) :
    av = false ∨ B c := by
  rcases hc with ⟨hne, _⟩ | ⟨_, _, hB⟩ | ⟨_, hf, _⟩
  · exact absurd hl hne
  · exact Or.inr hB
  · exact Or.inl hf

/-! The first `Next` of a fresh state `s0`, read off the status of the state it leaves (what `GoodD` knows of a fresh
  iterator): `ChildSt.of_ne`, `ChildSt.of_nil` and `ChildSt.nbad` at `o.next s0`, under the names listed for C04.  No
  proof uses them. -/

theorem TrackInit.nextT {s0 : γ} {L : List Sample} (h : ChildSt o T B (o.next s0).1 (o.next s0).2 L) (hL : L ≠ []) :
    (o.next s0).2 = true ∧ T (o.next s0).1 L :=
  h.of_ne hL

theorem TrackInit.nextB {s0 : γ} {L : List Sample} (h : ChildSt o T B (o.next s0).1 (o.next s0).2 L) (hL : L = []) :
    (o.next s0).2 = false ∨ B (o.next s0).1 :=
  h.of_nil hL

theorem TrackInit.nextBad (hm : TrackM o M T B r) {s0 : γ} {L : List Sample}
    (h : ChildSt o T B (o.next s0).1 (o.next s0).2 L) : o.bad (o.next s0).1 = false :=
  h.nbad hm

theorem ChildSt.nil_of_false {c : γ} {l : List Sample} (hc : ChildSt o T B c false l) : l = [] := by
  rcases hc with ⟨_, hf, _⟩ | ⟨_, hf, _⟩ | ⟨h, _⟩
  · cases hf
  · cases hf
  · exact h

theorem ChildSt.at (h : TrackM o M T B r) {c : γ} {l : List Sample} (hc : ChildSt o T B c true l) :
    ∃ x, o.atS c = some x ∧ o.atT c = some x.t ∧ Front M l x := by
  rcases hc with ⟨hl, _, hT⟩ | ⟨hl, _, hB⟩ | ⟨_, hf, _⟩
  · obtain ⟨x, tl, rfl⟩ := List.exists_cons_of_ne_nil hl
    exact ⟨x, h.tAtS _ _ hT, h.tAtT _ _ hT,
      Or.inl ⟨rfl, h.tLower _ _ hT x List.mem_cons_self, h.tLe _ _ hT x List.mem_cons_self⟩⟩
  · obtain ⟨x, h1, h2, h3⟩ := h.bAt _ hB
    exact ⟨x, h1, h2, Or.inr ⟨hl, h3⟩⟩
  · cases hf

theorem ChildSt.at_head (h : TrackM o M T B r) {c : γ} {av : Bool} {l : List Sample} (hc : ChildSt o T B c av l)
    {x : Sample} (hx : l.head? = some x) : av = true ∧ o.atT c = some x.t := by
  have hT := hc.of_ne (List.ne_nil_of_mem (List.mem_of_mem_head? hx))
  exact ⟨hT.1, by rw [h.tAtT _ _ hT.2, hx]; rfl⟩

/-- the fields `tSeekT`, `tSeekB`, `bSeek` and `seekBad` read together -/
theorem ChildSt.seek (h : TrackM o M T B r) {c : γ} {l : List Sample} (hc : ChildSt o T B c true l) (t : Int) :
    ChildSt o T B (o.seek t c).1 (o.seek t c).2 (dropLt t l) := by
  by_cases hD : dropLt t l = []
  · have hr : (o.seek t c).2 = false ∨ B (o.seek t c).1 := by
      rcases hc with ⟨_, _, hT⟩ | ⟨_, _, hB⟩ | ⟨_, hf, _⟩
      · exact h.tSeekB _ _ _ hT hD
      · exact h.bSeek _ t hB
      · cases hf
    rw [hD]
    cases hok : (o.seek t c).2 with
    | false => exact Or.inr (Or.inr ⟨rfl, rfl, h.seekBad c t hc.valid⟩)
    | true => exact Or.inr (Or.inl ⟨rfl, rfl, hr.resolve_left (by rw [hok]; nofun)⟩)
  · exact Or.inl ⟨hD, h.tSeekT _ _ _ (hc.of_ne fun hl => hD (by rw [hl]; rfl)).2 hD⟩

/-- the guarded `Seek` of a side; it holds fewer samples if it stood before `t` also when it dies: a dead side
    counts `0`, a live one at least `1` -/
theorem ChildSt.seekIf (h : TrackM o M T B r) {c : γ} {av : Bool} {l : List Sample} (hc : ChildSt o T B c av l)
    (t : Int) :
    ChildSt o T B (seekIf o t c av).1 (seekIf o t c av).2 (dropLt t l) ∧
    remOf r (seekIf o t c av).1 (seekIf o t c av).2 ≤ remOf r c av ∧
    (av = true → ∀ x, o.atT c = some x → x < t → remOf r (seekIf o t c av).1 (seekIf o t c av).2 < remOf r c av) := by
  cases av with
  | false =>
    rw [hc.nil_of_false]
    exact ⟨Or.inr (Or.inr ⟨rfl, rfl, hc.nbad h⟩), Nat.le_refl _, fun hf => nomatch hf⟩
  | true =>
    have hv := hc.valid
    refine ⟨hc.seek h t, ?_, fun _ x hat hlt => ?_⟩
    · show (if (o.seek t c).2 = true then r (o.seek t c).1 else 0) ≤ r c
      split
      · exact h.remSeekLe _ _ hv
      · exact Nat.zero_le _
    · show (if (o.seek t c).2 = true then r (o.seek t c).1 else 0) < r c
      split
      · exact h.remSeekLt _ _ _ hv hat hlt ‹_›
      · exact h.remPos _ hv

/-- `Seek` to the timestamp a live side stands on: unless it dies it stands there still, a tracking side by
    `tSeekT` on its own head, a side beyond `M` by `bSeekStay` -/
theorem ChildSt.seekHere (h : TrackM o M T B r) {c : γ} {l : List Sample} (hc : ChildSt o T B c true l) {x : Int}
    (hat : o.atT c = some x) :
    ChildSt o T B (o.seek x c).1 (o.seek x c).2 l ∧ r (o.seek x c).1 ≤ r c ∧
    ((o.seek x c).2 = true → o.atT (o.seek x c).1 = some x) := by
  have hs := hc.seek h x
  have hle := h.remSeekLe c x hc.valid
  rcases hc with ⟨hl, _, hT⟩ | ⟨hl, _, hB⟩ | ⟨_, hf, _⟩
  · have hx : l.head?.map (·.t) = some x := (h.tAtT _ _ hT).symm.trans hat
    rw [dropLt_eq_self fun y hy => by rw [hy] at hx; cases hx; exact Int.le_refl _] at hs
    exact ⟨hs, hle, fun _ => (h.tAtT _ _ (hs.of_ne hl).2).trans hx⟩
  · subst hl
    exact ⟨hs, hle, h.bSeekStay c x x hB hat (Int.le_refl _)⟩
  · cases hf

theorem remOf_le_fuel (h : TrackM o M T B r) {c : γ} {av : Bool} {l : List Sample} (hc : ChildSt o T B c av l) :
    remOf r c av ≤ o.fuel c := by
  cases av with
  | false => exact Nat.zero_le _
  | true => exact h.remFuel _ hc.valid

theorem ChildSt.adjust (h : TrackM o M T B r) (v : Int) {c : γ} {av : Bool} {l : List Sample}
    (hc : ChildSt o T B c av l) : ChildSt o T B (if av then o.adjust v c else c) av l := by
  rcases hc with ⟨hl, rfl, hT⟩ | ⟨hl, rfl, hB⟩ | ⟨hl, rfl, hb⟩
  · exact Or.inl ⟨hl, rfl, h.tAdjust _ _ v hT⟩
  · exact Or.inr (Or.inl ⟨hl, rfl, h.bAdjust _ v hB⟩)
  · exact Or.inr (Or.inr ⟨hl, rfl, hb⟩)

theorem remOf_adjust (h : TrackM o M T B r) (v : Int) (c : γ) (av : Bool) :
    remOf r (if av then o.adjust v c else c) av = remOf r c av := by
  cases av with
  | false => rfl
  | true => exact h.remAdjust c v

theorem atT_adjust (h : TrackM o M T B r) (v : Int) (c : γ) (av : Bool) :
    o.atT (if av then o.adjust v c else c) = o.atT c := by
  cases av with
  | false => rfl
  | true => exact h.atTAdjust c v

/-- `TrackM` from its laws read on live statuses (`Lv c L`, another spelling of `ChildSt o T B c true L`).  The
    converse is the lemmas above. -/
theorem TrackM.of_live {Lv : γ → List Sample → Prop} (hLv : ∀ {c L}, Lv c L ↔ ChildSt o T B c true L)
    (shape : ∀ c L, T c L → L ≠ [] ∧ ∀ x ∈ L, minT < x.t ∧ x.t ≤ M)
    (live : ∀ c L, Lv c L → o.bad c = false ∧ 1 ≤ r c ∧ r c ≤ o.fuel c ∧
      ∃ x, o.atS c = some x ∧ o.atT c = some x.t ∧ Front M L x)
    (seek : ∀ c L t, Lv c L → ChildSt o T B (o.seek t c).1 (o.seek t c).2 (dropLt t L) ∧
      r (o.seek t c).1 ≤ r c ∧ ∀ x, o.atT c = some x → (o.seek t c).2 = true →
        (x < t → r (o.seek t c).1 < r c) ∧ (t ≤ x → o.atT (o.seek t c).1 = some x))
    (adjust : ∀ c v, (∀ L, Lv c L → Lv (o.adjust v c) L) ∧ r (o.adjust v c) = r c ∧
      o.atT (o.adjust v c) = o.atT c) :
    TrackM o M T B r := by
  have lT : ∀ {c L}, T c L → Lv c L := fun h => hLv.mpr (Or.inl ⟨(shape _ _ h).1, rfl, h⟩)
  have lB : ∀ {c}, B c → Lv c [] := fun h => hLv.mpr (Or.inr (Or.inl ⟨rfl, rfl, h⟩))
  have lV : ∀ {c}, ((∃ L, T c L) ∨ B c) → ∃ L, Lv c L := by
    rintro c (⟨L, h⟩ | h)
    · exact ⟨L, lT h⟩
    · exact ⟨[], lB h⟩
  exact {
    tNe := fun c L h => (shape c L h).1
    tLe := fun c L h x hx => ((shape c L h).2 x hx).2
    tLower := fun c L h x hx => ((shape c L h).2 x hx).1
    tAtS := by
      intro c L h
      obtain ⟨_, _, _, x, hxs, _, ⟨hx, _⟩ | ⟨hx, _⟩⟩ := live c L (lT h)
      · exact hxs.trans hx.symm
      · exact absurd hx (shape c L h).1
    tAtT := by
      intro c L h
      obtain ⟨_, _, _, x, _, hxt, ⟨hx, _⟩ | ⟨hx, _⟩⟩ := live c L (lT h)
      · exact hxt.trans (by rw [hx]; rfl)
      · exact absurd hx (shape c L h).1
    tSeekT := fun c L t h hD => (seek c L t (lT h)).1.of_ne hD
    tSeekB := fun c L t h hD => (seek c L t (lT h)).1.of_nil hD
    tAdjust := fun c L v h => ((hLv.mp ((adjust c v).1 L (lT h))).of_ne (shape c L h).1).2
    tBad := fun c L h => (live c L (lT h)).1
    bAt := by
      intro c h
      obtain ⟨_, _, _, x, hxs, hxt, ⟨hx, _⟩ | ⟨_, hx⟩⟩ := live c [] (lB h)
      · cases hx
      · exact ⟨x, hxs, hxt, hx⟩
    bSeek := fun c t h => (seek c [] t (lB h)).1.of_nil rfl
    bSeekStay := fun c t x h hat hle hok => ((seek c [] t (lB h)).2.2 x hat hok).2 hle
    bAdjust := fun c v h => ((hLv.mp ((adjust c v).1 [] (lB h))).of_nil rfl).resolve_left nofun
    bBad := fun c h => (live c [] (lB h)).1
    seekBad := by
      intro c t hv
      obtain ⟨L, hc⟩ := lV hv
      rcases (seek c L t hc).1 with ⟨_, _, h⟩ | ⟨_, _, h⟩ | ⟨_, _, h⟩
      · exact (live _ _ (lT h)).1
      · exact (live _ _ (lB h)).1
      · exact h
    remFuel := fun c hv => (lV hv).elim fun L hc => (live c L hc).2.2.1
    remPos := fun c hv => (lV hv).elim fun L hc => (live c L hc).2.1
    remSeekLe := fun c t hv => (lV hv).elim fun L hc => (seek c L t hc).2.1
    remSeekLt := fun c t x hv hat hlt hok => (lV hv).elim fun L hc => ((seek c L t hc).2.2 x hat hok).1 hlt
    remAdjust := fun c v => (adjust c v).2.1
    atTAdjust := fun c v => (adjust c v).2.2 }

end child

/-! ### boundedSeriesIterator over a list-like iterator with time-sorted samples -/

section leaf
variable {σ : Type} {o : Ops σ} {V : σ → Prop} {abs : σ → List Sample} (mint M : Int)

/-- the bounded iterator follows the samples `≤ M` of the wrapped one -/
def bndT (V : σ → Prop) (abs : σ → List Sample) (mint M : Int) (b : Bnd σ) (L : List Sample) : Prop :=
  V b.inner ∧ b.bad = false ∧ SSorted (abs b.inner) ∧ (∀ x ∈ abs b.inner, mint ≤ x.t) ∧
    L = takeLe M (abs b.inner) ∧ L ≠ []

def bndB (V : σ → Prop) (abs : σ → List Sample) (mint M : Int) (b : Bnd σ) : Prop :=
  V b.inner ∧ b.bad = false ∧ SSorted (abs b.inner) ∧ (∀ x ∈ abs b.inner, mint ≤ x.t) ∧
    ∃ x, (abs b.inner).head? = some x ∧ M < x.t

def bndRem (abs : σ → List Sample) (b : Bnd σ) : Nat := (abs b.inner).length

theorem bnd_live {r : Bnd σ} {L : List Sample}
    (hc : ChildSt (bndOps o mint M) (bndT V abs mint M) (bndB V abs mint M) r true L) :
    (V r.inner ∧ r.bad = false ∧ SSorted (abs r.inner) ∧ (∀ x ∈ abs r.inner, mint ≤ x.t) ∧ abs r.inner ≠ []) ∧
      L = takeLe M (abs r.inner) := by
  rcases hc with ⟨hne, _, hV, hb, hs, hm, hL, _⟩ | ⟨hL, _, hV, hb, hs, hm, x, hx, hM⟩ | ⟨_, hf, _⟩
  · exact ⟨⟨hV, hb, hs, hm, by rw [hL] at hne; exact ne_of_takeLe_ne hne⟩, hL⟩
  · exact ⟨⟨hV, hb, hs, hm, fun he => by rw [he] at hx; cases hx⟩,
      by rw [hL, takeLe_eq_nil_iff.mpr fun y hy => by rw [hx] at hy; cases hy; exact hM]⟩
  · cases hf

theorem bnd_status {s : σ} {A : List Sample} (st : Bool) (hV : V s) (hA : abs s = A) (hs : SSorted A)
    (hm : ∀ x ∈ A, mint ≤ x.t) (hne : A ≠ []) :
    ChildSt (bndOps o mint M) (bndT V abs mint M) (bndB V abs mint M) { inner := s, bad := false, stopped := st }
      true (takeLe M A) := by
  subst hA
  by_cases hT : takeLe M (abs s) = []
  · rw [hT]
    obtain ⟨x, l, hx⟩ := List.exists_cons_of_ne_nil hne
    exact Or.inr (Or.inl ⟨rfl, rfl, hV, rfl, hs, hm, x, by rw [hx]; rfl, takeLe_eq_nil_iff.mp hT x (by rw [hx]; rfl)⟩)
  · exact Or.inl ⟨hT, rfl, hV, rfl, hs, hm, rfl, hT⟩

theorem bnd_trackM (h : ListLike o V abs) :
    TrackM (bndOps o mint M) M (bndT V abs mint M) (bndB V abs mint M) (bndRem abs) := by
  have hbad : ∀ (b : Bnd σ), V b.inner → b.bad = false → (bndOps o mint M).bad b = false := by
    intro b hV hb
    rw [bndOps_bad_eq, hb, h.bad _ hV]; rfl
  refine TrackM.of_live Iff.rfl ?_ ?_ ?_ fun r v => ⟨fun L hc => hc, rfl, rfl⟩
  · rintro r L ⟨hV, _, _, _, rfl, hne⟩
    exact ⟨hne, fun x hx => ⟨h.lower _ hV x ((takeLe_sublist M _).subset hx), mem_takeLe_le hx⟩⟩
  · intro r L hc
    obtain ⟨⟨hV, hb, _, _, hne⟩, rfl⟩ := bnd_live mint M hc
    obtain ⟨a, l, ha⟩ := List.exists_cons_of_ne_nil hne
    refine ⟨hbad r hV hb, List.length_pos_iff.mpr hne, h.fuel _ hV, a, h.atS_cons hV ha, h.atT_cons hV ha, ?_⟩
    by_cases haM : a.t ≤ M
    · have hT : takeLe M (abs r.inner) ≠ [] := fun he => by
        have := takeLe_eq_nil_iff.mp he a (by rw [ha]; rfl); omega
      exact Or.inl ⟨by rw [head_takeLe hT, ha]; rfl, h.lower _ hV a (by rw [ha]; exact List.mem_cons_self), haM⟩
    · exact Or.inr ⟨takeLe_eq_nil_iff.mpr fun y hy => by rw [ha] at hy; cases hy; omega, by omega⟩
  · -- everything about `Seek`, from one look at the two branches of `boundedSeriesIterator.Seek`
    intro r L t hc
    obtain ⟨⟨hV, hb, hs, hm, hne⟩, rfl⟩ := bnd_live mint M hc
    by_cases ht : t > M
    · -- beyond `maxt`: `ValNone`, nothing moves
      rw [bnd_seek_beyond mint M r t ht, dropLt_eq_nil_iff.mpr fun x hx => by have := mem_takeLe_le hx; omega]
      exact ⟨Or.inr (Or.inr ⟨rfl, rfl, hbad _ hV hb⟩), Nat.le_refl _, fun _ _ hok => nomatch hok⟩
    · obtain ⟨q, e, hV', habs', hok'⟩ := bnd_seek_live mint M h hV hne hm ht
      rw [e]
      obtain ⟨a, l, ha⟩ := List.exists_cons_of_ne_nil hne
      have hata : o.atT r.inner = some a.t := h.atT_cons hV ha
      refine ⟨?_, ?_, fun x hat _ => ?_⟩
      · rw [← takeLe_dropLt_comm hs, hok', hb]
        cases hD : dropLt t (abs r.inner) with
        | nil => exact Or.inr (Or.inr ⟨rfl, rfl, hbad _ hV' rfl⟩)
        | cons d rest =>
          exact bnd_status mint M _ hV' (habs'.trans hD) (hD ▸ ssorted_dropLt t hs)
            (fun x hx => hm x (mem_of_mem_dropLt (hD ▸ hx))) (List.cons_ne_nil d rest)
      · show (abs _).length ≤ (abs r.inner).length
        rw [habs']; exact dropLt_length_le _ _
      · cases hata.symm.trans hat
        refine ⟨fun hlt => ?_, fun hle => ?_⟩
        · show (abs _).length < (abs r.inner).length
          rw [habs', ha, dropLt_cons_lt hlt]
          exact Nat.lt_succ_of_le (dropLt_length_le t l)
        · show o.atT q.1 = some a.t
          have hself : dropLt t (abs r.inner) = abs r.inner := dropLt_eq_self fun z hz => by
            rw [ha] at hz; cases hz; exact hle
          exact h.atT_cons hV' ((habs'.trans hself).trans ha)

/-- the status the first `Next` of a fresh bounded iterator leaves -/
theorem bnd_first (h : ListLike o V abs) {s0 : σ} {L : List Sample} (hi : InitNext o V abs s0 L)
    (hs : SSorted L) :
    ChildSt (bndOps o mint M) (bndT V abs mint M) (bndB V abs mint M)
      ((bndOps o mint M).next { inner := s0, bad := false, stopped := false }).1
      ((bndOps o mint M).next { inner := s0, bad := false, stopped := false }).2 (takeLe M (dropLt mint L)) := by
  obtain ⟨s1, hb, hV1, habs⟩ := bNext_spec mint M h hi.nextV hi.nextAbs hi.nextOk
  have hbad : (bndOps o mint M).bad { inner := s1, bad := false, stopped := false } = false := h.bad _ hV1
  rw [bndOps_next_of_some mint M hb]
  cases hf : ((dropLt mint L).head?.any fun d => decide (d.t ≤ M)) with
  | true =>
    exact bnd_status mint M false hV1 (habs hf) (ssorted_dropLt mint hs) (fun x hx => ((mem_dropLt_sorted hs).mp hx).2)
      fun he => by rw [he] at hf; cases hf
  | false =>
    -- no sample in the range: `ValNone`
    rw [takeLe_eq_nil_iff.mpr fun x hx => by rw [hx] at hf; exact Int.not_le.mp (of_decide_eq_false hf)]
    exact Or.inr (Or.inr ⟨rfl, rfl, hbad⟩)

end leaf

/-! ### dedupSeriesIterator over two iterators that track lists up to `M` -/

section node
variable {α β : Type} {oa : Ops α} {ob : Ops β} {M : Int}
  {Ta : α → List Sample → Prop} {Ba : α → Prop} {ra : α → Nat}
  {Tb : β → List Sample → Prop} {Bb : β → Prop} {rb : β → Nat}

/-- statuses of both sides, no panic so far -/
def NodeSt (oa : Ops α) (ob : Ops β) (Ta : α → List Sample → Prop) (Ba : α → Prop)
    (Tb : β → List Sample → Prop) (Bb : β → Prop) (s : Node α β) (la lb : List Sample) : Prop :=
  s.bad = false ∧ ChildSt oa Ta Ba s.a s.aval la ∧ ChildSt ob Tb Bb s.b s.bval lb

def nodeT (oa : Ops α) (ob : Ops β) (Ta : α → List Sample → Prop) (Ba : α → Prop)
    (Tb : β → List Sample → Prop) (Bb : β → Prop) (s : Node α β) (L : List Sample) : Prop :=
  ∃ la lb, NodeSt oa ob Ta Ba Tb Bb s la lb ∧ s.lastIsA = s.useA ∧
    (if s.lastIsA then s.penA = 0 else s.penB = 0) ∧
    ∃ cur, (if s.lastIsA then la else lb).head? = some cur ∧ cur.t = s.lastT ∧
      L = cur :: pm2 s.lastT (dropLt (s.lastT + 1 + s.penA) la) (dropLt (s.lastT + 1 + s.penB) lb)

/-- the node stands on a sample beyond `M`; no side tracks anything any more -/
def nodeB (oa : Ops α) (ob : Ops β) (Ta : α → List Sample → Prop) (Ba : α → Prop)
    (Tb : β → List Sample → Prop) (Bb : β → Prop) (s : Node α β) : Prop :=
  NodeSt oa ob Ta Ba Tb Bb s [] [] ∧ s.lastIsA = s.useA ∧
    (if s.lastIsA then s.aval = true ∧ Ba s.a ∧ oa.atT s.a = some s.lastT ∧ s.penA = 0
     else s.bval = true ∧ Bb s.b ∧ ob.atT s.b = some s.lastT ∧ s.penB = 0)

def nodeRem (ra : α → Nat) (rb : β → Nat) (s : Node α β) : Nat :=
  remOf ra s.a s.aval + remOf rb s.b s.bval

/-- what the next `Next` of a node whose sides follow `la`, `lb` will find -/
def nodeFut (s : Node α β) (la lb : List Sample) : List Sample :=
  pm2 s.lastT (dropLt (s.lastT + 1 + s.penA) la) (dropLt (s.lastT + 1 + s.penB) lb)

/-- the side in use stands on the last emitted timestamp with no penalty pending -/
def NodePos (oa : Ops α) (ob : Ops β) (s : Node α β) : Prop :=
  s.lastIsA = s.useA ∧
  (s.lastIsA = true → s.aval = true ∧ oa.atT s.a = some s.lastT ∧ s.penA = 0) ∧
  (s.lastIsA = false → s.bval = true ∧ ob.atT s.b = some s.lastT ∧ s.penB = 0)

/-- a positioned node that follows `L`: `nodeT` (`L ≠ []`) and `nodeB` (`L = []`) in one — what the side in
    use stands on is the head of `L`, or, `L` spent, a sample beyond `M` with both sides spent -/
def NodeLive (oa : Ops α) (ob : Ops β) (Ta : α → List Sample → Prop) (Ba : α → Prop)
    (Tb : β → List Sample → Prop) (Bb : β → Prop) (s : Node α β) (L : List Sample) : Prop :=
  ∃ la lb, NodeSt oa ob Ta Ba Tb Bb s la lb ∧ NodePos oa ob s ∧
    L.head? = (if s.lastIsA then la else lb).head? ∧ L.tail = nodeFut s la lb ∧
    (L = [] → la = [] ∧ lb = []) ∧ ∀ x, L.head? = some x → x.t = s.lastT

/-- what a `Next` leaves: a live node, or a dead one, which still knows that both its sides are spent
    (`adjustAtValue` runs after a failed `Next` too) -/
def NodeCh (oa : Ops α) (ob : Ops β) (Ta : α → List Sample → Prop) (Ba : α → Prop)
    (Tb : β → List Sample → Prop) (Bb : β → Prop) (s : Node α β) (ok : Bool) (L : List Sample) : Prop :=
  ok = true ∧ NodeLive oa ob Ta Ba Tb Bb s L ∨ ok = false ∧ L = [] ∧ NodeSt oa ob Ta Ba Tb Bb s [] []

theorem NodeSt.nbad (ha : TrackM oa M Ta Ba ra) (hb : TrackM ob M Tb Bb rb) {s : Node α β}
    {la lb : List Sample} (h : NodeSt oa ob Ta Ba Tb Bb s la lb) : (nodeOps oa ob true).bad s = false := by
  show (s.bad || oa.bad s.a || ob.bad s.b) = false
  rw [h.1, h.2.1.nbad ha, h.2.2.nbad hb]; rfl

/-- `NodeLive` is the status of a live node as a side of the node above it -/
theorem nodeLive_iff (ha : TrackM oa M Ta Ba ra) (hb : TrackM ob M Tb Bb rb) {s : Node α β} {L : List Sample} :
    NodeLive oa ob Ta Ba Tb Bb s L ↔
      ChildSt (nodeOps oa ob true) (nodeT oa ob Ta Ba Tb Bb) (nodeB oa ob Ta Ba Tb Bb) s true L := by
  constructor
  · rintro ⟨la, lb, hst, hpos, hhd, htl, hnil, hT⟩
    cases L with
    | nil =>
      obtain ⟨rfl, rfl⟩ := hnil rfl
      refine Or.inr (Or.inl ⟨rfl, rfl, hst, hpos.1, ?_⟩)
      split
      · obtain ⟨hav, hat, hp⟩ := hpos.2.1 ‹_›
        exact ⟨hav, ((hav ▸ hst.2.1).of_nil rfl).resolve_left nofun, hat, hp⟩
      · obtain ⟨hbv, hat, hp⟩ := hpos.2.2 (Bool.eq_false_iff.mpr ‹_›)
        exact ⟨hbv, ((hbv ▸ hst.2.2).of_nil rfl).resolve_left nofun, hat, hp⟩
    | cons x tl =>
      refine Or.inl ⟨List.cons_ne_nil _ _, rfl, la, lb, hst, hpos.1, ?_, x, hhd.symm, hT x rfl, congrArg (List.cons x) htl⟩
      split
      · exact (hpos.2.1 ‹_›).2.2
      · exact (hpos.2.2 (Bool.eq_false_iff.mpr ‹_›)).2.2
  · rintro (⟨_, _, la, lb, hst, hsame, hpen, cur, hcur, hct, hL⟩ | ⟨hL, _, hst, hsame, hch⟩ | ⟨_, hf, _⟩)
    · refine ⟨la, lb, hst, ⟨hsame, fun hl => ?_, fun hl => ?_⟩, by rw [hL]; exact hcur.symm, by rw [hL]; rfl,
        fun h => (by rw [hL] at h; cases h), fun x hx => by rw [hL] at hx; cases hx; exact hct⟩
      · rw [if_pos hl] at hcur hpen
        exact ⟨(hst.2.1.at_head ha hcur).1, hct ▸ (hst.2.1.at_head ha hcur).2, hpen⟩
      · rw [if_neg (Bool.eq_false_iff.mp hl)] at hcur hpen
        exact ⟨(hst.2.2.at_head hb hcur).1, hct ▸ (hst.2.2.at_head hb hcur).2, hpen⟩
    · subst hL
      refine ⟨[], [], hst, ⟨hsame, fun hl => ?_, fun hl => ?_⟩, by rw [ite_self],
        (pm2_eq_nil.mpr ⟨rfl, rfl⟩).symm, fun _ => ⟨rfl, rfl⟩, fun x hx => by cases hx⟩
      · obtain ⟨h1, _, h3⟩ := (if_pos hl).mp hch
        exact ⟨h1, h3⟩
      · obtain ⟨h1, _, h3⟩ := (if_neg (Bool.eq_false_iff.mp hl)).mp hch
        exact ⟨h1, h3⟩
    · cases hf

theorem NodeCh.child (ha : TrackM oa M Ta Ba ra) (hb : TrackM ob M Tb Bb rb) {s : Node α β} {ok : Bool}
    {L : List Sample} (h : NodeCh oa ob Ta Ba Tb Bb s ok L) :
    ChildSt (nodeOps oa ob true) (nodeT oa ob Ta Ba Tb Bb) (nodeB oa ob Ta Ba Tb Bb) s ok L := by
  rcases h with ⟨rfl, h⟩ | ⟨rfl, hL, h⟩
  · exact (nodeLive_iff ha hb).mp h
  · exact Or.inr (Or.inr ⟨hL, rfl, h.nbad ha hb⟩)

theorem NodeCh.nbad (ha : TrackM oa M Ta Ba ra) (hb : TrackM ob M Tb Bb rb) {s : Node α β} {ok : Bool}
    {L : List Sample} (h : NodeCh oa ob Ta Ba Tb Bb s ok L) : (nodeOps oa ob true).bad s = false := by
  rcases h with ⟨_, _, _, hst, _⟩ | ⟨_, _, hst⟩
  · exact hst.nbad ha hb
  · exact hst.nbad ha hb

/-- side `a` is picked: it is live on `x`, and the other side has nothing earlier to show -/
theorem nodeLive_pickA {s : Node α β} {la lb : List Sample} (hst : NodeSt oa ob Ta Ba Tb Bb s la lb)
    (hav : s.aval = true) {x : Sample} (hat : oa.atT s.a = some x.t) (hx : Front M la x) (pb : Int)
    (hpb : lb = [] ∨ pb = pen s.lastT x.t) (hle : ∀ y, lb.head? = some y → x.t ≤ y.t) (hnil : la = [] → lb = []) :
    NodeLive oa ob Ta Ba Tb Bb { s with useA := true, penB := pb, penA := 0, lastT := x.t, lastIsA := true }
      (pm2 s.lastT la lb) := by
  refine ⟨la, lb, hst, ⟨rfl, fun _ => ⟨hav, hat, rfl⟩, nofun⟩, ?_⟩
  cases la with
  | nil =>
    obtain rfl := hnil rfl
    rw [pm2_eq_nil.mpr ⟨rfl, rfl⟩]
    exact ⟨rfl, (pm2_eq_nil.mpr ⟨rfl, rfl⟩).symm, fun _ => ⟨rfl, rfl⟩, nofun⟩
  | cons x' ta =>
    cases hx.head_eq rfl
    rw [pm2_pickA hle]
    refine ⟨rfl, ?_, nofun, fun _ h => by cases h; rfl⟩
    show pm2 x.t (dropLt (x.t + 1) ta) (dropLt (x.t + 1 + pen s.lastT x.t) lb) =
      pm2 x.t (dropLt (x.t + 1 + 0) (x :: ta)) (dropLt (x.t + 1 + pb) lb)
    rw [Int.add_zero, dropLt_cons_lt (Int.lt_succ x.t)]
    rcases hpb with rfl | rfl <;> rfl

theorem nodeLive_pickB {s : Node α β} {la lb : List Sample} (hst : NodeSt oa ob Ta Ba Tb Bb s la lb)
    (hbv : s.bval = true) {y : Sample} (hat : ob.atT s.b = some y.t) (hy : Front M lb y) (pa : Int)
    (hpa : la = [] ∨ pa = pen s.lastT y.t) (hlt : ∀ x, la.head? = some x → y.t < x.t) (hnil : lb = [] → la = []) :
    NodeLive oa ob Ta Ba Tb Bb { s with useA := false, penA := pa, penB := 0, lastT := y.t, lastIsA := false }
      (pm2 s.lastT la lb) := by
  refine ⟨la, lb, hst, ⟨rfl, nofun, fun _ => ⟨hbv, hat, rfl⟩⟩, ?_⟩
  cases lb with
  | nil =>
    obtain rfl := hnil rfl
    rw [pm2_eq_nil.mpr ⟨rfl, rfl⟩]
    exact ⟨rfl, (pm2_eq_nil.mpr ⟨rfl, rfl⟩).symm, fun _ => ⟨rfl, rfl⟩, nofun⟩
  | cons y' tb =>
    cases hy.head_eq rfl
    rw [pm2_pickB hlt]
    refine ⟨rfl, ?_, nofun, fun _ h => by cases h; rfl⟩
    show pm2 y.t (dropLt (y.t + 1 + pen s.lastT y.t) la) (dropLt (y.t + 1) tb) =
      pm2 y.t (dropLt (y.t + 1 + pa) la) (dropLt (y.t + 1 + 0) (y :: tb))
    rw [Int.add_zero, dropLt_cons_lt (Int.lt_succ y.t)]
    rcases hpa with rfl | rfl <;> rfl

theorem nodeChoose_track (ha : TrackM oa M Ta Ba ra) (hb : TrackM ob M Tb Bb rb) (s : Node α β)
    {la lb : List Sample} (hst : NodeSt oa ob Ta Ba Tb Bb s la lb) :
    NodeCh oa ob Ta Ba Tb Bb (nodeChoose oa ob s).1 (nodeChoose oa ob s).2 (pm2 s.lastT la lb) ∧
    nodeRem ra rb (nodeChoose oa ob s).1 = nodeRem ra rb s := by
  have dead : ∀ {b : Bool} {p : Prop}, b = false → b = true → p := fun h h' => Bool.noConfusion (h.symm.trans h')
  cases hav : s.aval with
  | false =>
    obtain rfl : la = [] := (hav ▸ hst.2.1).nil_of_false
    cases hbv : s.bval with
    | false =>
      obtain rfl : lb = [] := (hbv ▸ hst.2.2).nil_of_false
      rw [nodeChoose_none hav hbv]
      exact ⟨Or.inr ⟨rfl, pm2_eq_nil.mpr ⟨rfl, rfl⟩, hst⟩, rfl⟩
    | true =>
      obtain ⟨y, _, hatB, hy⟩ := (hbv ▸ hst.2.2).at hb
      rw [nodeChoose_b hbv hatB (dead hav)]
      exact ⟨Or.inl ⟨rfl, nodeLive_pickB hst hbv hatB hy _ (Or.inl rfl) nofun fun _ => rfl⟩, rfl⟩
  | true =>
    obtain ⟨x, _, hatA, hx⟩ := (hav ▸ hst.2.1).at ha
    cases hbv : s.bval with
    | false =>
      obtain rfl : lb = [] := (hbv ▸ hst.2.2).nil_of_false
      rw [nodeChoose_a hav hatA (dead hbv)]
      exact ⟨Or.inl ⟨rfl, nodeLive_pickA hst hav hatA hx _ (Or.inl rfl) nofun fun _ => rfl⟩, rfl⟩
    | true =>
      obtain ⟨y, _, hatB, hy⟩ := (hbv ▸ hst.2.2).at hb
      by_cases hle : x.t ≤ y.t
      · rw [nodeChoose_a hav hatA fun _ => ⟨_, hatB, hle⟩]
        exact ⟨Or.inl ⟨rfl, nodeLive_pickA hst hav hatA hx _ (Or.inr (if_pos hbv)) (fun _ h => hy.head_eq h ▸ hle)
          (hx.nil_of_le hy hle)⟩, rfl⟩
      · rw [nodeChoose_b hbv hatB fun _ => ⟨_, hatA, Int.not_le.mp hle⟩]
        exact ⟨Or.inl ⟨rfl, nodeLive_pickB hst hbv hatB hy _ (Or.inr (if_pos hav))
          (fun _ h => hx.head_eq h ▸ Int.not_le.mp hle) (hy.nil_of_le hx (Int.le_of_lt (Int.not_le.mp hle)))⟩, rfl⟩

/-- no side gains a sample, and the side in use — standing on `lastT`, sought to at least `lastT + 1` — loses one -/
theorem nodeStep_track (ha : TrackM oa M Ta Ba ra) (hb : TrackM ob M Tb Bb rb) (s : Node α β)
    {la lb : List Sample} (hst : NodeSt oa ob Ta Ba Tb Bb s la lb) :
    NodeCh oa ob Ta Ba Tb Bb (nodeStep oa ob s).1 (nodeStep oa ob s).2 (nodeFut s la lb) ∧
    nodeRem ra rb (nodeStep oa ob s).1 ≤ nodeRem ra rb s ∧
    (NodePos oa ob s → nodeRem ra rb (nodeStep oa ob s).1 < nodeRem ra rb s) := by
  obtain ⟨a1, a2, a3⟩ := hst.2.1.seekIf ha (s.lastT + 1 + s.penA)
  obtain ⟨b1, b2, b3⟩ := hst.2.2.seekIf hb (s.lastT + 1 + s.penB)
  -- `a1`, `b1` speak of `stepA oa s`, `stepB ob s` (`stepA_eq`, `stepB_eq`)
  obtain ⟨h1, h2⟩ := nodeChoose_track ha hb
    { s with a := (stepA oa s).1, b := (stepB ob s).1, aval := (stepA oa s).2, bval := (stepB ob s).2 }
    ⟨hst.1, a1, b1⟩
  unfold nodeStep
  rw [h2]
  refine ⟨h1, Nat.add_le_add a2 b2, fun hpos => ?_⟩
  cases hl : s.lastIsA with
  | true =>
    obtain ⟨hav, hat, hp⟩ := hpos.2.1 hl
    exact Nat.add_lt_add_of_lt_of_le (a3 hav _ hat (by omega)) b2
  | false =>
    obtain ⟨hbv, hat, hp⟩ := hpos.2.2 hl
    exact Nat.add_lt_add_of_le_of_lt a2 (b3 hbv _ hat (by omega))

theorem nodeRem_adjust (ha : TrackM oa M Ta Ba ra) (hb : TrackM ob M Tb Bb rb) (v : Int) (s : Node α β) :
    nodeRem ra rb (nodeAdjust oa ob v s) = nodeRem ra rb s := by
  rw [nodeAdjust_eq]
  unfold nodeRem
  rw [remOf_adjust ha, remOf_adjust hb]

theorem NodeCh.adjust (ha : TrackM oa M Ta Ba ra) (hb : TrackM ob M Tb Bb rb) (v : Int) {s : Node α β}
    {ok : Bool} {L : List Sample} (h : NodeCh oa ob Ta Ba Tb Bb s ok L) :
    NodeCh oa ob Ta Ba Tb Bb (nodeAdjust oa ob v s) ok L := by
  rw [nodeAdjust_eq]
  have hst : ∀ {la lb}, NodeSt oa ob Ta Ba Tb Bb s la lb → NodeSt oa ob Ta Ba Tb Bb
      { s with a := if s.aval then oa.adjust v s.a else s.a, b := if s.bval then ob.adjust v s.b else s.b }
      la lb :=
    fun h => ⟨h.1, h.2.1.adjust ha v, h.2.2.adjust hb v⟩
  rcases h with ⟨hok, la, lb, h1, hpos, rest⟩ | ⟨hok, hL, h1⟩
  · refine Or.inl ⟨hok, la, lb, hst h1, ⟨hpos.1, fun hl => ?_, fun hl => ?_⟩, rest⟩
    · obtain ⟨h1, h2, h3⟩ := hpos.2.1 hl
      exact ⟨h1, (atT_adjust ha v _ _).trans h2, h3⟩
    · obtain ⟨h1, h2, h3⟩ := hpos.2.2 hl
      exact ⟨h1, (atT_adjust hb v _ _).trans h2, h3⟩
  · exact Or.inr ⟨hok, hL, hst h1⟩

theorem nodeAt_some (ha : TrackM oa M Ta Ba ra) (hb : TrackM ob M Tb Bb rb) {s : Node α β}
    {la lb : List Sample} (hst : NodeSt oa ob Ta Ba Tb Bb s la lb) (hsame : s.lastIsA = s.useA)
    (hc : ((s.useA && s.aval) || (!s.useA && s.bval)) = true) : ∃ x, nodeAt oa ob s = some x := by
  unfold nodeAt
  rw [hsame]
  cases hu : s.useA with
  | true =>
    rw [hu, Bool.true_and, Bool.not_true, Bool.false_and, Bool.or_false] at hc
    exact ((hc ▸ hst.2.1).at ha).imp fun _ => And.left
  | false =>
    rw [hu, Bool.false_and, Bool.not_false, Bool.true_and, Bool.false_or] at hc
    exact ((hc ▸ hst.2.2).at hb).imp fun _ => And.left

theorem nodeNext_track (ha : TrackM oa M Ta Ba ra) (hb : TrackM ob M Tb Bb rb) (s : Node α β)
    {la lb : List Sample} (hst : NodeSt oa ob Ta Ba Tb Bb s la lb) (hsame : s.lastIsA = s.useA) :
    NodeCh oa ob Ta Ba Tb Bb (nodeNext oa ob s).1 (nodeNext oa ob s).2 (nodeFut s la lb) ∧
    nodeRem ra rb (nodeNext oa ob s).1 ≤ nodeRem ra rb s ∧
    (NodePos oa ob s → nodeRem ra rb (nodeNext oa ob s).1 < nodeRem ra rb s) :=
  nodeNext_of_step
    (P := fun r => NodeCh oa ob Ta Ba Tb Bb r.1 r.2 _ ∧ nodeRem ra rb r.1 ≤ _ ∧ (_ → nodeRem ra rb r.1 < _))
    (nodeAt_some ha hb hst hsame) (nodeStep_track ha hb s hst) fun v r h => by
      show _ ∧ nodeRem ra rb (nodeAdjust oa ob v r.1) ≤ _ ∧ (_ → nodeRem ra rb (nodeAdjust oa ob v r.1) < _)
      rw [nodeRem_adjust ha hb]
      exact ⟨h.1.adjust ha hb v, h.2⟩

theorem nodeLive_next (ha : TrackM oa M Ta Ba ra) (hb : TrackM ob M Tb Bb rb) {s : Node α β} {L : List Sample}
    (hc : NodeLive oa ob Ta Ba Tb Bb s L) :
    NodeCh oa ob Ta Ba Tb Bb (nodeNext oa ob s).1 (nodeNext oa ob s).2 L.tail ∧
    nodeRem ra rb (nodeNext oa ob s).1 < nodeRem ra rb s := by
  obtain ⟨la, lb, hst, hpos, _, htl, _⟩ := hc
  obtain ⟨h1, _, h3⟩ := nodeNext_track ha hb s hst hpos.1
  exact ⟨htl ▸ h1, h3 hpos⟩

theorem nodePos_atT {s : Node α β} (h : NodePos oa ob s) :
    nodeAtT oa ob s = some s.lastT := by
  unfold nodeAtT
  rw [← h.1]
  cases hl : s.lastIsA with
  | true => exact (h.2.1 hl).2.1
  | false => exact (h.2.2 hl).2.1

/-- `ChildSt.at` for the node; its side in use is live, so the node holds a sample -/
theorem nodeLive_at (ha : TrackM oa M Ta Ba ra) (hb : TrackM ob M Tb Bb rb) {s : Node α β} {L : List Sample}
    (hc : NodeLive oa ob Ta Ba Tb Bb s L) :
    ∃ x, nodeAt oa ob s = some x ∧ nodeAtT oa ob s = some x.t ∧ x.t = s.lastT ∧ Front M L x ∧
      1 ≤ nodeRem ra rb s := by
  obtain ⟨la, lb, hst, hpos, hhd, _⟩ := hc
  unfold nodeAt nodeAtT nodeRem
  rw [← hpos.1]
  cases hl : s.lastIsA with
  | true =>
    rw [hl, if_pos rfl] at hhd
    obtain ⟨hav, hat, _⟩ := hpos.2.1 hl
    have hca := hst.2.1
    rw [hav] at hca ⊢
    obtain ⟨x, hxs, hxt, hx⟩ := hca.at ha
    exact ⟨x, hxs, hxt, Option.some.inj (hxt.symm.trans hat), hx.of_head hhd,
      Nat.le_trans (ha.remPos _ hca.valid) (Nat.le_add_right _ _)⟩
  | false =>
    rw [hl, if_neg Bool.false_ne_true] at hhd
    obtain ⟨hbv, hat, _⟩ := hpos.2.2 hl
    have hcb := hst.2.2
    rw [hbv] at hcb ⊢
    obtain ⟨x, hxs, hxt, hx⟩ := hcb.at hb
    exact ⟨x, hxs, hxt, Option.some.inj (hxt.symm.trans hat), hx.of_head hhd,
      Nat.le_trans (hb.remPos _ hcb.valid) (Nat.le_add_left _ _)⟩

theorem nodeRem_le_fuel (ha : TrackM oa M Ta Ba ra) (hb : TrackM ob M Tb Bb rb) {s : Node α β}
    {la lb : List Sample} (hst : NodeSt oa ob Ta Ba Tb Bb s la lb) :
    nodeRem ra rb s ≤ oa.fuel s.a + ob.fuel s.b :=
  Nat.add_le_add (remOf_le_fuel ha hst.2.1) (remOf_le_fuel hb hst.2.2)

/-- the branch `AtT() ≥ t` of the `Seek` loop, `if it.useA { return it.a.Seek(ts) }; return it.b.Seek(ts)`, for
    `ts = lastT`; `aval` / `bval` are not updated -/
def nodeSeekUse (oa : Ops α) (ob : Ops β) (s : Node α β) : Node α β × Bool :=
  if s.useA then ({ s with a := (oa.seek s.lastT s.a).1 }, (oa.seek s.lastT s.a).2)
  else ({ s with b := (ob.seek s.lastT s.b).1 }, (ob.seek s.lastT s.b).2)

/-- the side in use is sought to where it stands (`ChildSt.seekHere`): the node follows what it followed -/
theorem nodeLive_seekUse (ha : TrackM oa M Ta Ba ra) (hb : TrackM ob M Tb Bb rb) {s : Node α β} {L : List Sample}
    (hc : NodeLive oa ob Ta Ba Tb Bb s L) :
    ChildSt (nodeOps oa ob true) (nodeT oa ob Ta Ba Tb Bb) (nodeB oa ob Ta Ba Tb Bb)
      (nodeSeekUse oa ob s).1 (nodeSeekUse oa ob s).2 L ∧
    nodeRem ra rb (nodeSeekUse oa ob s).1 ≤ nodeRem ra rb s ∧
    ((nodeSeekUse oa ob s).2 = true → nodeAtT oa ob (nodeSeekUse oa ob s).1 = some s.lastT) := by
  obtain ⟨la, lb, hst, hpos, hhd, htl, hnil, hT⟩ := hc
  unfold nodeSeekUse nodeRem
  rcases Bool.eq_false_or_eq_true s.useA with hu | hu
  · have hl := hpos.1.trans hu
    obtain ⟨hav, hat, hp⟩ := hpos.2.1 hl
    have hca := hst.2.1
    rw [if_pos hu]
    rw [hav] at hca ⊢
    obtain ⟨h1, h2, h3⟩ := hca.seekHere ha hat
    refine ⟨?_, Nat.add_le_add_right h2 _, fun hok => (if_pos hu).trans (h3 hok)⟩
    cases hok : (oa.seek s.lastT s.a).2 with
    | true =>
      rw [hok] at h1
      exact (nodeLive_iff ha hb).mp ⟨la, lb, ⟨hst.1, h1, hst.2.2⟩,
        ⟨hpos.1, fun _ => ⟨rfl, h3 hok, hp⟩, fun h => Bool.noConfusion (hl.symm.trans h)⟩, hhd, htl, hnil, hT⟩
    | false =>
      rw [hok] at h1
      refine Or.inr (Or.inr ⟨List.head?_eq_none_iff.mp (by rw [hhd, if_pos hl, h1.nil_of_false]; rfl), rfl, ?_⟩)
      show (s.bad || oa.bad (oa.seek s.lastT s.a).1 || ob.bad s.b) = false
      rw [hst.1, h1.nbad ha, hst.2.2.nbad hb]; rfl
  · have hu' := Bool.eq_false_iff.mp hu
    have hl := hpos.1.trans hu
    obtain ⟨hbv, hat, hp⟩ := hpos.2.2 hl
    have hcb := hst.2.2
    rw [if_neg hu']
    rw [hbv] at hcb ⊢
    obtain ⟨h1, h2, h3⟩ := hcb.seekHere hb hat
    refine ⟨?_, Nat.add_le_add_left h2 _, fun hok => (if_neg hu').trans (h3 hok)⟩
    cases hok : (ob.seek s.lastT s.b).2 with
    | true =>
      rw [hok] at h1
      exact (nodeLive_iff ha hb).mp ⟨la, lb, ⟨hst.1, hst.2.1, h1⟩,
        ⟨hpos.1, fun h => Bool.noConfusion (h.symm.trans hl), fun _ => ⟨rfl, h3 hok, hp⟩⟩, hhd, htl, hnil, hT⟩
    | false =>
      rw [hok] at h1
      refine Or.inr (Or.inr ⟨List.head?_eq_none_iff.mp
        (by rw [hhd, if_neg (Bool.eq_false_iff.mp hl), h1.nil_of_false]; rfl), rfl, ?_⟩)
      show (s.bad || oa.bad s.a || ob.bad (ob.seek s.lastT s.b).1) = false
      rw [hst.1, hst.2.1.nbad ha, h1.nbad hb]; rfl

theorem nodeSeekLoop_track (ha : TrackM oa M Ta Ba ra) (hb : TrackM ob M Tb Bb rb) (t : Int) (n : Nat)
    {s : Node α β} {L : List Sample} (hc : NodeLive oa ob Ta Ba Tb Bb s L) (hn : nodeRem ra rb s + 1 ≤ n) :
    ChildSt (nodeOps oa ob true) (nodeT oa ob Ta Ba Tb Bb) (nodeB oa ob Ta Ba Tb Bb)
      (nodeSeekLoop oa ob t n s).1 (nodeSeekLoop oa ob t n s).2 (dropLt t L) ∧
    nodeRem ra rb (nodeSeekLoop oa ob t n s).1 ≤ nodeRem ra rb s ∧
    (s.lastT < t → nodeRem ra rb (nodeSeekLoop oa ob t n s).1 < nodeRem ra rb s) ∧
    (t ≤ s.lastT → (nodeSeekLoop oa ob t n s).2 = true →
      nodeAtT oa ob (nodeSeekLoop oa ob t n s).1 = some s.lastT) := by
  induction n generalizing s L with
  | zero => exact absurd hn (Nat.not_succ_le_zero _)
  | succ n ih =>
    have ⟨_, _, _, hpos, _, _, _, hhd⟩ := hc
    unfold nodeSeekLoop
    simp only [nodePos_atT hpos]
    by_cases hge : s.lastT ≥ t
    · simp only [hge, if_true]
      rw [dropLt_eq_self (fun x hx => by rw [hhd x hx]; exact hge)]
      obtain ⟨h1, h2, h3⟩ := nodeLive_seekUse ha hb hc
      exact ⟨h1, h2, fun h => absurd h (Int.not_lt.mpr hge), fun _ => h3⟩
    · -- `simp only [hge]` decides the loop's test and, with it, the premise `t ≤ s.lastT` of the last conjunct
      simp only [hge, if_false]
      obtain ⟨hnext, hlt⟩ := nodeLive_next ha hb hc
      have hD : dropLt t L = dropLt t L.tail := by
        cases L with
        | nil => rfl
        | cons x tl => exact dropLt_cons_lt (hhd x rfl ▸ Int.not_le.mp hge)
      rw [hD]
      rcases hnext with ⟨hok, hlive⟩ | ⟨hok, hL, hdead⟩
      · rw [hok]
        simp only [if_true]
        obtain ⟨i1, i2, _⟩ := ih hlive (Nat.le_trans hlt (Nat.le_of_succ_le_succ hn))
        exact ⟨i1, Nat.le_trans i2 (Nat.le_of_lt hlt), fun _ => Nat.lt_of_le_of_lt i2 hlt, fun h => h.elim⟩
      · rw [hok, hL]
        simp only [Bool.false_eq_true, if_false]
        exact ⟨Or.inr (Or.inr ⟨rfl, rfl, hdead.nbad ha hb⟩), Nat.le_of_lt hlt, fun _ => hlt, fun h => h.elim⟩

theorem nodeT_forall {P : Sample → Prop} (hPa : ∀ c l, Ta c l → ∀ x ∈ l, P x) (hPb : ∀ c l, Tb c l → ∀ x ∈ l, P x)
    {s : Node α β} {L : List Sample} (h : nodeT oa ob Ta Ba Tb Bb s L) : ∀ x ∈ L, P x := by
  obtain ⟨la, lb, hst, _, _, cur, hcur, _, rfl⟩ := h
  have hA : ∀ x ∈ la, P x := fun x hx => hPa _ _ (hst.2.1.of_ne (List.ne_nil_of_mem hx)).2 x hx
  have hB : ∀ x ∈ lb, P x := fun x hx => hPb _ _ (hst.2.2.of_ne (List.ne_nil_of_mem hx)).2 x hx
  refine List.forall_mem_cons.mpr ⟨?_, fun x hx => (pm2_mem hx).elim (fun h => hA x (mem_of_mem_dropLt h))
    fun h => hB x (mem_of_mem_dropLt h)⟩
  have hm := List.mem_of_mem_head? hcur
  split at hm
  · exact hA _ hm
  · exact hB _ hm

theorem node_trackM (ha : TrackM oa M Ta Ba ra) (hb : TrackM ob M Tb Bb rb) (hM : minT ≤ M) :
    TrackM (nodeOps oa ob true) M (nodeT oa ob Ta Ba Tb Bb) (nodeB oa ob Ta Ba Tb Bb) (nodeRem ra rb) := by
  refine TrackM.of_live (Lv := NodeLive oa ob Ta Ba Tb Bb) (nodeLive_iff ha hb) ?_ ?_ ?_ ?_
  · intro s L hT
    refine ⟨?_, fun x hx => ⟨nodeT_forall ha.tLower hb.tLower hT x hx, nodeT_forall ha.tLe hb.tLe hT x hx⟩⟩
    obtain ⟨_, _, _, _, _, cur, _, _, hL⟩ := hT
    rw [hL]; exact List.cons_ne_nil _ _
  · intro s L hc
    have ⟨_, _, hst, _⟩ := hc
    obtain ⟨x, hxs, hxt, _, hx, hpos⟩ := nodeLive_at ha hb hc
    have := nodeRem_le_fuel ha hb hst
    exact ⟨hst.nbad ha hb, hpos, Nat.le_succ_of_le this, x, hxs, hxt, hx⟩
  · -- `Seek` on a positioned node is the loop, with fuel to spare
    intro s L t hc
    have ⟨_, _, hst, hpos, _⟩ := hc
    -- `lastT` is the timestamp of a sample, so the repaired `Seek` does not take its `lastT == math.MinInt64` branch
    have hne : s.lastT ≠ minT := by
      obtain ⟨x, _, _, hxt, h, _⟩ := nodeLive_at ha hb hc
      exact hxt ▸ Int.ne_of_gt (h.elim (fun h => h.2.1) fun h => Int.lt_of_le_of_lt hM h.2)
    have hfuel := nodeRem_le_fuel ha hb hst
    rw [nodeOps_seek_fixed]
    unfold nodeSeekFixed
    rw [if_neg hne]
    obtain ⟨h1, h2, h3⟩ := nodeSeekLoop_track ha hb t (nodeFuel oa ob s + 1) hc
      (Nat.succ_le_succ (Nat.le_succ_of_le hfuel))
    refine ⟨h1, h2, fun x hat hok => ?_⟩
    cases Option.some.inj (hat.symm.trans (nodePos_atT hpos))
    exact ⟨h3.1, fun hle => h3.2 hle hok⟩
  · intro s v
    refine ⟨fun L hc => ((NodeCh.adjust ha hb v (Or.inl ⟨rfl, hc⟩)).resolve_right fun h => nomatch h.1).2,
      nodeRem_adjust ha hb v s, ?_⟩
    show nodeAtT oa ob (nodeAdjust oa ob v s) = nodeAtT oa ob s
    rw [nodeAdjust_eq]
    unfold nodeAtT
    exact congr (congrArg _ (atT_adjust ha v _ _)) (atT_adjust hb v _ _)

theorem nodeGo_track (ha : TrackM oa M Ta Ba ra) (hb : TrackM ob M Tb Bb rb) (n : Nat) {s : Node α β}
    {L : List Sample} (hc : NodeCh oa ob Ta Ba Tb Bb (nodeNext oa ob s).1 (nodeNext oa ob s).2 L)
    (hn : nodeRem ra rb (nodeNext oa ob s).1 + 1 ≤ n) :
    ∃ extra, drainChecked.go (nodeOps oa ob true) (n + 1) s = some (L ++ extra) ∧ ∀ x ∈ extra, M < x.t := by
  induction n generalizing s L with
  | zero => exact absurd hn (Nat.not_succ_le_zero _)
  | succ n ih =>
    have hbad := hc.nbad ha hb
    rcases hc with ⟨hok, hc⟩ | ⟨hok, hL, _⟩
    · obtain ⟨x, hxs, _, _, hx, _⟩ := nodeLive_at ha hb hc
      obtain ⟨hnext, hlt⟩ := nodeLive_next ha hb hc
      obtain ⟨extra, he, hall⟩ := ih hnext (Nat.le_trans hlt (Nat.le_of_succ_le_succ hn))
      rw [drainChecked_go_step (o := nodeOps oa ob true) (r := (nodeNext oa ob s).1) (Prod.ext rfl hok) hbad hxs, he]
      rcases hx with ⟨hx, _⟩ | ⟨hx, hxM⟩
      · obtain ⟨tl, rfl⟩ := List.head?_eq_some_iff.mp hx
        exact ⟨extra, rfl, hall⟩
      · subst hx
        exact ⟨x :: extra, rfl, List.forall_mem_cons.mpr ⟨hxM, hall⟩⟩
    · rw [drainChecked_go_stop (o := nodeOps oa ob true) (r := (nodeNext oa ob s).1) (Prod.ext rfl hok) hbad, hL]
      exact ⟨[], rfl, fun _ h => by cases h⟩

end node

/-- `GoodN` up to `M`: a fresh iterator whose first `Next` leaves it following `L` up to `M` (as a side of a node sees
    it) and that, read with `Next` by `drainChecked`, yields `L` followed only by samples beyond `M` -/
def GoodD (i : AnyIt) (M : Int) (L : List Sample) : Prop :=
  (∃ (T : i.σ → List Sample → Prop) (B : i.σ → Prop) (rem : i.σ → Nat),
      TrackM i.ops M T B rem ∧ ChildSt i.ops T B (i.ops.next i.st).1 (i.ops.next i.st).2 L) ∧
  ∃ extra, drainChecked i = some (L ++ extra) ∧ ∀ x ∈ extra, M < x.t

/-- the fold step: the dedup node over two good iterators is good for the penalty merge -/
theorem node_goodD {M : Int} (hM : minT ≤ M) {p q : AnyIt} {La Lb : List Sample} (hp : GoodD p M La)
    (hq : GoodD q M Lb) :
    GoodD { σ := Node p.σ q.σ, ops := nodeOps p.ops q.ops true, st := nodeNew p.ops q.ops p.st q.st } M
      (pm2 minT La Lb) := by
  obtain ⟨⟨Ta, Ba, ra, ha, ia⟩, _⟩ := hp
  obtain ⟨⟨Tb, Bb, rb, hb, ib⟩, _⟩ := hq
  have hst : NodeSt p.ops q.ops Ta Ba Tb Bb (nodeNew p.ops q.ops p.st q.st) La Lb :=
    ⟨rfl, ia, ib⟩
  -- nothing has been emitted, no penalty is pending: the first `Seek`s skip nothing
  have hfut : nodeFut (nodeNew p.ops q.ops p.st q.st) La Lb = pm2 minT La Lb := by
    show pm2 minT (dropLt (minT + 1 + 0) La) (dropLt (minT + 1 + 0) Lb) = _
    rw [Int.add_zero,
      dropLt_all_ge fun x hx => Int.add_one_le_of_lt (ha.tLower _ _ (hst.2.1.of_ne (List.ne_nil_of_mem hx)).2 x hx),
      dropLt_all_ge fun x hx => Int.add_one_le_of_lt (hb.tLower _ _ (hst.2.2.of_ne (List.ne_nil_of_mem hx)).2 x hx)]
  obtain ⟨hc, hle, _⟩ := nodeNext_track ha hb _ hst rfl
  rw [hfut] at hc
  have hfuel := nodeRem_le_fuel ha hb hst
  refine ⟨⟨_, _, _, node_trackM ha hb hM, hc.child ha hb⟩, ?_⟩
  show ∃ extra, drainChecked.go (nodeOps p.ops q.ops true) (nodeFuel p.ops q.ops (nodeNew p.ops q.ops p.st q.st) + 1 + 1)
    (nodeNew p.ops q.ops p.st q.st) = _ ∧ _
  exact nodeGo_track ha hb _ hc (Nat.succ_le_succ (Nat.le_succ_of_le (Nat.le_trans hle hfuel)))

/-- `chunkSeries.Iterator` over a row of time-sorted chunks, read with `Next`: exactly the row's window -/
theorem chunkSeriesIt_drain (qmint qmaxt : Int) (c : List Sample) (cs : List (List Sample))
    (hc : ChunkOK c) (hcs : ∀ d ∈ cs, ChunkOK d) (hs : ∀ d ∈ c :: cs, SSorted d) :
    (chunkSeriesIt qmint qmaxt (c :: cs)).map drainChecked = some (some (rowWindow qmint qmaxt (c :: cs))) := by
  obtain ⟨V, abs, h, hi⟩ := cs_goodN c cs hc hcs
  exact congrArg some (bnd_drain h qmint qmaxt hi (unionFrom_sorted hs).1)

theorem row_goodD (qmint qmaxt : Int) (c : List Sample) (cs : List (List Sample))
    (hc : ChunkOK c) (hcs : ∀ d ∈ cs, ChunkOK d) (hs : ∀ d ∈ c :: cs, SSorted d) :
    ∃ it, chunkSeriesIt qmint qmaxt (c :: cs) = some it ∧ GoodD it qmaxt (rowWindow qmint qmaxt (c :: cs)) := by
  refine ⟨_, rfl, ?_⟩
  obtain ⟨V, abs, h, hi⟩ := cs_goodN c cs hc hcs
  have hLs : SSorted (unionFrom 0 (c :: cs)) := (unionFrom_sorted hs).1
  refine ⟨⟨bndT V abs qmint qmaxt, bndB V abs qmint qmaxt, bndRem abs, bnd_trackM qmint qmaxt h,
    bnd_first qmint qmaxt h hi hLs⟩, [], ?_, by simp⟩
  rw [List.append_nil]
  exact bnd_drain h qmint qmaxt hi hLs

theorem foldIts_goodD {M : Int} (hM : minT ≤ M) : ∀ (ps : List (AnyIt × List Sample)), ps ≠ [] →
    (∀ p ∈ ps, GoodD p.1 M p.2) →
    ∃ it, foldIts true (ps.map (·.1)) = some it ∧ GoodD it M (pmFoldL (ps.map (·.2))) := by
  intro ps hne hg
  obtain ⟨p, ps, rfl⟩ := List.exists_cons_of_ne_nil hne
  obtain ⟨hp, hps⟩ := List.forall_mem_cons.mp hg
  refine ⟨_, rfl, ?_⟩
  simp only [List.map_cons, pmFoldL, List.foldl_map]
  exact List.foldl_rel (r := fun it L => GoodD it M L) hp fun q hq _ _ hacc => node_goodD hM hacc (hps q hq)

end Thanos.Dedup
