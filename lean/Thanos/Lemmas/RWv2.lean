import Thanos.Model.RWv2
/-
  C26: `translateV2ToV1` step by step.  The specification reads a reference list as (name, value) pairs (`pairsOf`,
  `lookupPairs`) and asks that every paired reference lie inside the symbol table (`RefsInRange`, `TSInRange`,
  `ReqInRange`).  Every step of the translation is `OkIff`: `.ok` of what the request describes if its references
  are in range, the one error `errOf checked` if not.  `resolve_okIff` is the base case; `mapE_spec` lifts a step
  through a loop, for the exemplars of a series here and for the series of a request in Props/C26.
-/
namespace Thanos.RWv2

/-- the (name, value) reference pairs of a reference list; an unpaired last reference describes
    nothing -/
def pairsOf : List Nat → List (Nat × Nat)
  | a :: b :: rest => (a, b) :: pairsOf rest
  | _ => []

def lookupAll (symbols : List Sym) : List (Nat × Nat) → Option (List (Sym × Sym))
  | [] => some []
  | p :: ps =>
    match symbols[p.1]?, symbols[p.2]?, lookupAll symbols ps with
    | some n, some v, some more => some ((n, v) :: more)
    | _, _, _ => none

/-- the labels a reference list describes; `none` if a paired reference points outside the table -/
def lookupPairs (symbols : List Sym) (refs : List Nat) : Option (List (Sym × Sym)) :=
  lookupAll symbols (pairsOf refs)

/-- every reference that `symbolizedLabels` dereferences is inside the table -/
def RefsInRange (symbols : List Sym) (refs : List Nat) : Prop :=
  ∀ p, p ∈ pairsOf refs → p.1 < symbols.length ∧ p.2 < symbols.length

def TSInRange (symbols : List Sym) (t : TS2) : Prop :=
  RefsInRange symbols t.refs ∧ ∀ e, e ∈ t.exemplars → RefsInRange symbols e.refs

def ReqInRange (symbols : List Sym) (req : List TS2) : Prop := ∀ t, t ∈ req → TSInRange symbols t

/-- lists of equal length, related by `R` position by position -/
def AllPairs {α β : Type} (R : α → β → Prop) : List α → List β → Prop
  | [], [] => True
  | a :: as, b :: bs => R a b ∧ AllPairs R as bs
  | _, _ => False

def FaithfulExemplar (symbols : List Sym) (e : Exemplar2) (e' : Exemplar1) : Prop :=
  lookupPairs symbols e.refs = some e'.labels ∧ e'.value = e.value ∧ e'.ts = e.ts

/-- `o` is the v1 series that the v2 series `t` describes -/
def Faithful (symbols : List Sym) (t : TS2) (o : TS1) : Prop :=
  lookupPairs symbols t.refs = some o.labels ∧
  o.samples = t.samples.map (fun s => ⟨s.value, s.ts⟩) ∧
  o.hists = t.hists.map (·.h) ∧
  AllPairs (FaithfulExemplar symbols) t.exemplars o.exemplars

/-- what `sym` gives for a reference outside the table: the error of the bounds test (400), or the index panic -/
def errOf (checked : Bool) : Err := if checked then .badRequest else .panic

theorem lookupAll_isSome {symbols : List Sym} {ps : List (Nat × Nat)} :
    (∃ ls, lookupAll symbols ps = some ls) ↔ ∀ p, p ∈ ps → p.1 < symbols.length ∧ p.2 < symbols.length := by
  induction ps with
  | nil => simp [lookupAll]
  | cons p ps ih =>
    rw [List.forall_mem_cons, ← ih, lookupAll]
    constructor
    · rintro ⟨ls, h⟩
      split at h
      · rename_i n v more h1 h2 h3
        exact ⟨⟨(List.getElem?_eq_some_iff.mp h1).1, (List.getElem?_eq_some_iff.mp h2).1⟩, more, h3⟩
      · cases h
    · rintro ⟨⟨h1, h2⟩, ls', h3⟩
      exact ⟨(symbols[p.1], symbols[p.2]) :: ls', by
        simp only [List.getElem?_eq_getElem h1, List.getElem?_eq_getElem h2, h3]⟩

theorem lookupPairs_isSome {symbols : List Sym} {refs : List Nat} :
    (∃ ls, lookupPairs symbols refs = some ls) ↔ RefsInRange symbols refs := lookupAll_isSome

theorem resolve_spec (checked : Bool) (symbols : List Sym) : ∀ (refs : List Nat),
    resolve checked symbols refs =
      match lookupPairs symbols refs with
      | some ls => .ok ls
      | none => .error (errOf checked)
  | [] => rfl
  | [_] => rfl
  | a :: b :: rest => by
    rw [resolve, resolve_spec checked symbols rest]
    unfold sym lookupPairs
    rw [pairsOf, lookupAll]
    cases symbols[a]? with
    | none => rfl
    | some n =>
      cases symbols[b]? with
      | none => rfl
      | some v => cases lookupAll symbols (pairsOf rest) <;> rfl

/-- `r` is `.ok` of some `b` with `R b` if `P` holds, and the error `e` if not -/
structure OkIff {β : Type} (P : Prop) (r : Except Err β) (R : β → Prop) (e : Err) : Prop where
  ok : P → ∃ b, r = .ok b ∧ R b
  err : ¬ P → r = .error e

theorem resolve_okIff (checked : Bool) (symbols : List Sym) (refs : List Nat) :
    OkIff (RefsInRange symbols refs) (resolve checked symbols refs) (lookupPairs symbols refs = some ·)
      (errOf checked) := by
  rw [resolve_spec]
  refine ⟨fun h => ?_, fun h => ?_⟩
  · obtain ⟨ls, hls⟩ := lookupPairs_isSome.mpr h
    exact ⟨ls, by rw [hls], hls⟩
  · cases hl : lookupPairs symbols refs with
    | none => rfl
    | some ls => exact absurd (lookupPairs_isSome.mp ⟨ls, hl⟩) h

theorem mapE_spec {α β : Type} {f : α → Except Err β} {P : α → Prop} {R : α → β → Prop} {e : Err}
    (hf : ∀ a, OkIff (P a) (f a) (R a) e) (l : List α) :
    OkIff (∀ a, a ∈ l → P a) (mapE f l) (AllPairs R l) e := by
  induction l with
  | nil => exact ⟨fun _ => ⟨[], rfl, trivial⟩, fun h => absurd (fun _ h' => nomatch h') h⟩
  | cons a as ih =>
    obtain ⟨ih1, ih2⟩ := ih
    rw [List.forall_mem_cons]
    by_cases ha : P a
    · obtain ⟨b, hb, hr⟩ := (hf a).ok ha
      refine ⟨fun hall => ?_, fun hno => ?_⟩
      · obtain ⟨bs, hbs, hrs⟩ := ih1 hall.2
        exact ⟨b :: bs, by simp only [mapE, hb, hbs], hr, hrs⟩
      · simp only [mapE, hb, ih2 fun hall => hno ⟨ha, hall⟩]
    · exact ⟨fun hall => absurd hall.1 ha, fun _ => by simp only [mapE, (hf a).err ha]⟩

theorem translateExemplar_spec (checked : Bool) (symbols : List Sym) (e : Exemplar2) :
    OkIff (RefsInRange symbols e.refs) (translateExemplar checked symbols e) (FaithfulExemplar symbols e)
      (errOf checked) := by
  obtain ⟨r1, r2⟩ := resolve_okIff checked symbols e.refs
  refine ⟨fun h => ?_, fun h => by simp only [translateExemplar, r2 h]⟩
  obtain ⟨ls, h1, h2⟩ := r1 h
  exact ⟨⟨ls, e.value, e.ts⟩, by simp only [translateExemplar, h1], h2, rfl, rfl⟩

theorem translateTS_spec (checked : Bool) (symbols : List Sym) (t : TS2) :
    OkIff (TSInRange symbols t) (translateTS checked symbols t) (Faithful symbols t) (errOf checked) := by
  obtain ⟨m1, m2⟩ := mapE_spec (translateExemplar_spec checked symbols) t.exemplars
  obtain ⟨r1, r2⟩ := resolve_okIff checked symbols t.refs
  by_cases hr : RefsInRange symbols t.refs
  · obtain ⟨ls, h1, h2⟩ := r1 hr
    refine ⟨fun h => ?_, fun h => ?_⟩
    · obtain ⟨es, h3, h4⟩ := m1 h.2
      exact ⟨⟨ls, _, es, _⟩, by simp only [translateTS, h1, h3], h2, rfl, rfl, h4⟩
    · simp only [translateTS, h1, m2 fun he => h ⟨hr, he⟩]
  · exact ⟨fun h => absurd h.1 hr, fun _ => by simp only [translateTS, r2 hr]⟩

end Thanos.RWv2
