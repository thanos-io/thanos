import Thanos.Model.Uvarint
/-
  The equations of `uvarint` and `unuvarintAux`, and the decoder run on what the encoder wrote:
  all of it (`unuvarintAux_uvarint`: value and length); a read that gets an answer does not depend on what
  follows (`unuvarintAux_append`), so a proper prefix reads as `n = 0` (`unuvarint_cut`).
-/
namespace Thanos.Uvarint

theorem uvarintF_lt {n : Nat} (h : n < 128) : ∀ f, uvarintF f n = [n]
  | 0 => rfl
  | _ + 1 => if_pos h

theorem uvarintF_ge {n : Nat} (h : ¬ n < 128) (f : Nat) :
    uvarintF (f + 1) n = (n % 128 + 128) :: uvarintF f (n / 128) := if_neg h

theorem div128_lt {n : Nat} (hn : ¬ n < 128) : n / 128 < n :=
  Nat.div_lt_self (Nat.lt_of_lt_of_le (by decide) (Nat.le_of_not_lt hn)) (by decide)

theorem div128_le {n f : Nat} (hn : ¬ n < 128) (h : n ≤ f + 1) : n / 128 ≤ f :=
  Nat.le_of_lt_succ (Nat.lt_of_lt_of_le (div128_lt hn) h)

theorem uvarintF_fuel : ∀ (f f' n : Nat), n ≤ f → n ≤ f' → uvarintF f n = uvarintF f' n
  | f, f', n, h, h' =>
    if hn : n < 128 then (uvarintF_lt hn f).trans (uvarintF_lt hn f').symm
    else
      match f, f' with
      | 0, _ => absurd (Nat.lt_of_le_of_lt h (by decide)) hn
      | _, 0 => absurd (Nat.lt_of_le_of_lt h' (by decide)) hn
      | f + 1, f' + 1 => by
        rw [uvarintF_ge hn, uvarintF_ge hn, uvarintF_fuel f f' (n / 128) (div128_le hn h) (div128_le hn h')]

/-- the defining equation of `binary.PutUvarint` -/
theorem uvarint_eq (n : Nat) :
    uvarint n = if n < 128 then [n] else (n % 128 + 128) :: uvarint (n / 128) := by
  unfold uvarint
  split
  · rename_i h; exact uvarintF_lt h n
  · rename_i h
    match n with
    | 0 => exact absurd (by decide) h
    | m + 1 => rw [uvarintF_ge h, uvarintF_fuel m ((m + 1) / 128) _ (div128_le h (Nat.le_refl _)) (Nat.le_refl _)]

theorem uvarint_ne_nil (n : Nat) : uvarint n ≠ [] := by
  rw [uvarint_eq]; split <;> exact List.cons_ne_nil _ _

theorem uvarint_length_pos (n : Nat) : 0 < (uvarint n).length :=
  List.length_pos_iff.mpr (uvarint_ne_nil n)

theorem uvarint_zero : uvarint 0 = [0] := rfl

theorem uvarint_two : uvarint 2 = [2] := rfl

theorem uvarint_length_one_iff (n : Nat) : (uvarint n).length = 1 ↔ n < 128 := by
  rw [uvarint_eq]
  by_cases h : n < 128
  · simp [h]
  · simp only [h, if_false, List.length_cons, iff_false]
    have := uvarint_length_pos (n / 128)
    omega

theorem uvarint_lt_256 (n : Nat) : ∀ b ∈ uvarint n, b < 256 := by
  induction n using Nat.strongRecOn with
  | _ n ih =>
    rw [uvarint_eq]
    split
    · rename_i h
      intro b hb
      rw [List.mem_singleton.mp hb]
      exact Nat.lt_trans h (by decide)
    · rename_i h
      intro b hb
      rcases List.mem_cons.mp hb with rfl | hb
      · exact Nat.add_lt_add_right (Nat.mod_lt n (by decide)) 128
      · exact ih (n / 128) (div128_lt h) b hb

-- the two ways `binary.Uvarint` gets past a byte that is in range

theorem unuvarintAux_last {i b : Nat} (x : Nat) (bs : List Nat) (hb : b < 128) (hi : i ≤ 9)
    (h9 : i = 9 → b ≤ 1) : unuvarintAux i x (b :: bs) = (x + b * 2 ^ (7 * i), (i : Int) + 1) := by
  rw [unuvarintAux, if_neg (Nat.ne_of_lt (Nat.lt_succ_of_le hi)), if_pos hb,
    if_neg fun h => Nat.not_lt.mpr (h9 h.1) h.2]

theorem unuvarintAux_more {i b : Nat} (x : Nat) (bs : List Nat) (hb : ¬ b < 128) (hi : i ≤ 9) :
    unuvarintAux i x (b :: bs) = unuvarintAux (i + 1) (x + b % 128 * 2 ^ (7 * i)) bs := by
  rw [unuvarintAux, if_neg (Nat.ne_of_lt (Nat.lt_succ_of_le hi)), if_neg hb]

/-- `n < 2 ^ (64 - 7 * i)`: the value fits the bits left after `i` bytes -/
theorem fits_step {n i : Nat} (hn : n < 2 ^ (64 - 7 * i)) (hi : i ≤ 9) (h : ¬ n < 128) :
    i + 1 ≤ 9 ∧ n / 128 < 2 ^ (64 - 7 * (i + 1)) := by
  have hi8 : i + 1 ≤ 9 := by
    rcases Nat.lt_or_eq_of_le hi with h9 | rfl
    · exact h9
    · exact absurd (Nat.lt_trans hn (by decide)) h
  refine ⟨hi8, Nat.div_lt_of_lt_mul ?_⟩
  have : 64 - 7 * i = 7 + (64 - 7 * (i + 1)) := by omega
  rwa [this, Nat.pow_add] at hn

theorem acc_step (n p : Nat) : n % 128 * p + n / 128 * (p * 128) = n * p := by
  rw [Nat.mul_comm p, ← Nat.mul_assoc, ← Nat.add_mul, Nat.mul_comm _ 128, Nat.mod_add_div]

theorem unuvarintAux_uvarint (n : Nat) : ∀ (i x : Nat) (rest : List Nat), i ≤ 9 →
    n < 2 ^ (64 - 7 * i) →
    unuvarintAux i x (uvarint n ++ rest) = (x + n * 2 ^ (7 * i), (i : Int) + (uvarint n).length) := by
  induction n using Nat.strongRecOn with
  | _ n ih =>
    intro i x rest hi hn
    rw [uvarint_eq]
    split
    · rename_i h
      exact unuvarintAux_last x rest h hi (by rintro rfl; exact Nat.le_of_lt_succ hn)
    · rename_i h
      obtain ⟨hi', hdiv⟩ := fits_step hn hi h
      rw [List.cons_append, unuvarintAux_more x _ (Nat.not_lt.mpr (Nat.le_add_left _ _)) hi,
        ih (n / 128) (div128_lt h) (i + 1) _ rest hi' hdiv, Nat.add_mod_right, Nat.mod_mod,
        Nat.mul_succ, Nat.pow_add, Nat.add_assoc, acc_step, List.length_cons]
      congr 1
      omega

theorem unuvarint_uvarint (n : Nat) (rest : List Nat) (hn : n < 2 ^ 64) :
    unuvarint (uvarint n ++ rest) = (n, ((uvarint n).length : Int)) := by
  have := unuvarintAux_uvarint n 0 0 rest (Nat.zero_le _) hn
  rwa [Nat.mul_zero, Nat.pow_zero, Nat.mul_one, Nat.zero_add, Int.natCast_zero, Int.zero_add] at this

/-- `.2 = 0` is `binary.Uvarint`'s "buffer too small" -/
theorem unuvarintAux_append (c : List Nat) (bs : List Nat) (i x : Nat) (h : (unuvarintAux i x bs).2 ≠ 0) :
    unuvarintAux i x (bs ++ c) = unuvarintAux i x bs ∧ (unuvarintAux i x bs).2.toNat ≤ i + bs.length := by
  -- no byte; an 11th byte; a last byte (`< 128`) that overflows, or not; a continuation byte
  fun_induction unuvarintAux i x bs with
  | case1 => exact absurd rfl h
  | case2 x b bs => exact ⟨by rw [List.cons_append, unuvarintAux, if_pos rfl], Nat.zero_le _⟩
  | case3 i x b bs hi hb h9 =>
    exact ⟨by rw [List.cons_append, unuvarintAux, if_neg hi, if_pos hb, if_pos h9],
      by rw [Int.toNat_of_nonpos (by omega)]; exact Nat.zero_le _⟩
  | case4 i x b bs hi hb h9 =>
    exact ⟨by rw [List.cons_append, unuvarintAux, if_neg hi, if_pos hb, if_neg h9],
      Nat.add_le_add_left (Nat.succ_pos _) i⟩
  | case5 i x b bs hi hb ih =>
    obtain ⟨ih1, ih2⟩ := ih h
    exact ⟨by rw [List.cons_append, unuvarintAux, if_neg hi, if_neg hb, ih1],
      by rw [List.length_cons, ← Nat.add_assoc, Nat.add_right_comm]; exact ih2⟩

theorem unuvarint_append {bs : List Nat} {x : Nat} {n : Int} (hu : unuvarint bs = (x, n)) (hn : n ≠ 0)
    (c : List Nat) : unuvarint (bs ++ c) = (x, n) ∧ n.toNat ≤ bs.length := by
  obtain ⟨h1, h2⟩ := unuvarintAux_append c bs 0 0 (show (unuvarint bs).2 ≠ 0 by rw [hu]; exact hn)
  rw [show unuvarintAux 0 0 bs = (x, n) from hu, Nat.zero_add] at h2
  exact ⟨h1.trans hu, h2⟩

/-- not used below: what the decoder does on a cut-off encoding.  Any outcome but `n = 0` would also be the outcome
    of reading all of `uvarint x`, within the prefix -/
theorem unuvarint_cut (x : Nat) (hx : x < 2 ^ 64) (buf more : List Nat)
    (h : uvarint x = buf ++ more) (hmore : more ≠ []) : (unuvarint buf).2 = 0 := by
  refine Decidable.byContradiction fun hn => ?_
  obtain ⟨h1, h2⟩ := unuvarint_append (bs := buf) rfl hn more
  have h3 := unuvarint_uvarint x [] hx
  rw [List.append_nil, h, h1] at h3
  rw [(Prod.mk.inj h3).2, Int.toNat_natCast, List.length_append] at h2
  exact Nat.lt_irrefl _ (Nat.lt_of_lt_of_le (Nat.lt_add_of_pos_right (List.length_pos_iff.mpr hmore)) h2)

end Thanos.Uvarint
