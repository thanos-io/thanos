import Thanos.Model.Sharding
/-
  For C44: the analyzer alone, on every expression.  An analysis denotes the set of labels the stores still
  hash, and a scope intersects that set with its own — `L` for a `by`, the complement of `L` for a `without`
  (`hashes_scopeToLabels`).  The walk only ever shrinks that set and adds to the written labels, so a
  sharding that is below the last state (`Below`) was below every state on the way: one induction along the
  walk (`walk_ok`) shows that it is compatible with every node the callback acted on (`Expr.OK`, the callback's
  cases read as conditions on the sharding).  `analyze_ok`: what the analyzer returns is OK for the expression.
-/
namespace Thanos.Sharding

/-- the functions the analyzer walks through like any node: not those it special-cases, and not `scalar`, `time`,
    `pi`, whose calls the parser types as scalars (`isScalar_call`) -/
def plainFn (name : String) : Bool :=
  !(name = "label_join" || name = "label_replace" || name = "absent_over_time" || name = "absent" ||
    name = "scalar" || name = "histogram_quantile" || name = "time" || name = "pi")

theorem isScalar_call {name : String} (h : plainFn name = true) (args : List Expr) : isScalar (.call name args) = false := by
  simp only [plainFn, Bool.not_eq_true', Bool.or_eq_false_iff, decide_eq_false_iff_not] at h
  simp [isScalar, h]

theorem mem_intersect {a b : List String} {x : String} : x ∈ intersect a b ↔ x ∈ a ∧ x ∈ b := by
  fun_cases intersect a b with
  | case1 h => rcases h with h | h <;> simp [List.isEmpty_iff.mp h]
  | case2 => simp

theorem mem_withoutL {a b : List String} {x : String} : x ∈ withoutL a b ↔ x ∈ a ∧ x ∉ b := by
  fun_cases withoutL a b with
  | case1 h => simp [List.isEmpty_iff.mp h]
  | case2 _ h => simp [List.isEmpty_iff.mp h]
  | case3 => simp

theorem mem_unionL {a b : List String} {x : String} : x ∈ unionL a b ↔ x ∈ a ∨ x ∈ b := by
  cases a <;> cases b <;> simp [unionL, or_assoc]

theorem shardByLabel_eq (K : List String) (n : String) (b : Bool) : shardByLabel K n b = (K.contains n == b) := by
  unfold shardByLabel
  cases b <;> cases K.contains n <;> rfl

/-- label `n` is among those the analysis lets the stores hash; before the first scope (nil
    labels) nothing is excluded yet -/
def Analysis.hashes (a : Analysis) (n : String) : Bool :=
  match a.labels with
  | none => true
  | some K => shardByLabel K n a.by_

theorem scopeToLabels_some (K L : List String) (ab b : Bool) :
    scopeToLabels ⟨some K, ab⟩ L b =
      match ab, b with
      | true, true => ⟨some (intersect K L), true⟩
      | false, false => ⟨some (unionL K L), false⟩
      | true, false => ⟨some (withoutL K L), true⟩
      | false, true => ⟨some (withoutL L K), true⟩ := by
  cases ab <;> cases b <;> rfl

/-- the four list operations of `scopeToLabels` are the four ways of writing the intersection of
    the hashed set with the scope's own -/
theorem hashes_scopeToLabels (a : Analysis) (L : List String) (b : Bool) (n : String) :
    (scopeToLabels a L b).hashes n = (a.hashes n && (L.contains n == b)) := by
  obtain ⟨_ | K, ab⟩ := a
  · simp [scopeToLabels, Analysis.hashes, shardByLabel_eq]
  · rw [scopeToLabels_some, Bool.eq_iff_iff]
    cases ab <;> cases b <;>
      simp [Analysis.hashes, shardByLabel_eq, mem_intersect, mem_withoutL, mem_unionL, and_comm]

/-- the metric name is where the engine and the analyzer disagree: a `by` sharding must not use
    it, a `without` sharding must exclude it -/
def NameSafe (K : List String) (by_ : Bool) : Prop :=
  if by_ then "__name__" ∉ K else "__name__" ∈ K

section
variable {K : List String} {by_ c : Bool}

theorem contains_beq_iff {l : List String} {n : String} {b : Bool} : (l.contains n == b) = true ↔ (n ∈ l ↔ b = true) := by
  cases b <;> simp

theorem not_hashed_name (h : NameSafe K by_) : shardByLabel K "__name__" by_ = false := by
  cases by_ <;> simpa [NameSafe, shardByLabel_eq] using h

/-- every hashed label is in `L` iff the scope is a `by` -/
def Agrees (K : List String) (by_ : Bool) (L : List String) (g : Bool) : Prop :=
  ∀ n, shardByLabel K n by_ = true → (n ∈ L ↔ g = true)

/-- the sharding `(K, by_)` is below the walker's state: the walk is live, in variant `c` of the analyzer, and
    every label the stores hash is still hashed by the analysis so far and written by no node so far -/
def Below (K : List String) (by_ c : Bool) (st : St) : Prop :=
  st.ok = true ∧ st.cv = c ∧ ∀ n, shardByLabel K n by_ = true → st.an.hashes n = true ∧ n ∉ st.dyn

theorem Below.scope {st : St} {L : List String} {g : Bool}
    (h : Below K by_ c { st with an := scopeToLabels st.an L g }) : Agrees K by_ L g ∧ Below K by_ c st := by
  have h3 := fun n hn => Bool.and_eq_true_iff.mp ((hashes_scopeToLabels st.an L g n).symm.trans (h.2.2 n hn).1)
  exact ⟨fun n hn => contains_beq_iff.mp (h3 n hn).2, h.1, h.2.1, fun n hn => ⟨(h3 n hn).1, (h.2.2 n hn).2⟩⟩

theorem Below.dyn {st : St} {d : String}
    (h : Below K by_ c { st with dyn := st.dyn ++ [d] }) : shardByLabel K d by_ = false ∧ Below K by_ c st :=
  ⟨Bool.eq_false_iff.mpr fun hd => (h.2.2 d hd).2 (List.mem_append_right _ (List.mem_singleton_self d)),
    h.1, h.2.1, fun n hn => ⟨(h.2.2 n hn).1, fun hm => (h.2.2 n hn).2 (List.mem_append_left _ hm)⟩⟩

mutual
/-- every node of the expression, as the analyzer's callback reads it, leaves the hashed labels alone -/
def Expr.OK (K : List String) (by_ c : Bool) : Expr → Prop
  | .par e => e.OK K by_ c
  | .sub e _ => e.OK K by_ c
  | .agg op mode L param e =>
    Agrees K by_ L (mode != .without) ∧
      (c = true ∧ op = "count_values" → ∃ d, paramLabel param = some d ∧ shardByLabel K d by_ = false) ∧ e.OK K by_ c ∧
      match param with
      | some p => p.OK K by_ c
      | none => True
  | .bin _ m L l r =>
    ((isScalar l || isScalar r) = false → Agrees K by_ (if m == .on then L else L ++ ["__name__"]) (m == .on)) ∧
      l.OK K by_ c ∧ r.OK K by_ c
  | .call name args =>
    (name = "label_join" ∨ name = "label_replace" → ∃ d, dstLabel args = some d ∧ shardByLabel K d by_ = false) ∧
      (name = "histogram_quantile" → Agrees K by_ ["le"] false) ∧ OKs K by_ c args
  | _ => True

def OKs (K : List String) (by_ c : Bool) : List Expr → Prop
  | [] => True
  | e :: es => e.OK K by_ c ∧ OKs K by_ c es
end

/-- a dead state is returned as it is, and nothing is below it -/
theorem Below.live {st st' : St} (h : Below K by_ c (if st.ok = true then st' else st)) : Below K by_ c st' := by
  split at h
  · exact h
  · exact absurd h.1 ‹_›

/-- the label `count_values` writes is not hashed -/
theorem Below.countValues {st : St} {op : String} {param : Option Expr}
    (h : Below K by_ c (if st.cv = true ∧ op = "count_values" then
        match paramLabel param with
        | some d => { st with dyn := st.dyn ++ [d] }
        | none => { st with ok := false }
      else st)) :
    Below K by_ c st ∧ (c = true ∧ op = "count_values" → ∃ d, paramLabel param = some d ∧ shardByLabel K d by_ = false) := by
  split at h
  · split at h
    · have h' := h.dyn
      exact ⟨h'.2, fun _ => ⟨_, ‹_›, h'.1⟩⟩
    · exact absurd h.1 Bool.false_ne_true
  · exact ⟨h, fun hop => absurd (h.2.1 ▸ hop) ‹_›⟩

/-- the same with the test negated, as the walk writes it on composite nodes -/
theorem Below.live' {st st' : St} (h : Below K by_ c (if ¬st.ok = true then st else st')) : Below K by_ c st' :=
  Below.live (ite_not (st.ok = true) st st' ▸ h)

mutual
/-- Read backwards along the walk: what is below the state after a node is below the state after each of its
    children, last child first, then below the state after the node's own action (whence the node's clause of
    `OK`), then below the state before the node.  The states are never written out: `walk st (.agg …)` unfolds
    by definition to its `if`s, and `Below.live`, `.countValues`, `.scope`, `.dyn` take them off one at a time. -/
theorem walk_ok : ∀ (e : Expr) (st : St), Below K by_ c (walk st e) → Below K by_ c st ∧ e.OK K by_ c
  | .sel _, _, h | .mat _ _, _, h | .num _, _, h | .str _, _, h => ⟨h, trivial⟩
  | .par e, st, h => walk_ok e st (Below.live h)
  | .sub e _, st, h => walk_ok e st (Below.live h)
  | .agg op mode L none e, st, h => by
    have ⟨h2, he⟩ := walk_ok e _ (Below.live' h)
    have ⟨h1, hc⟩ := Below.countValues (param := none) h2
    exact ⟨h1.scope.2, h1.scope.1, hc, he, trivial⟩
  | .agg op mode L (some p) e, st, h => by
    have ⟨h3, hp⟩ := walk_ok p _ (Below.live' h).live
    have ⟨h2, he⟩ := walk_ok e _ h3
    have ⟨h1, hc⟩ := Below.countValues (param := some p) h2
    exact ⟨h1.scope.2, h1.scope.1, hc, he, hp⟩
  | .bin _ m L l r, st, h => by
    have ⟨h1, hr⟩ := walk_ok r _ (Below.live' h).live
    have ⟨h2, hl⟩ := walk_ok l _ h1
    split at h2
    · exact ⟨h2, fun hs => absurd ‹_› (ne_true_of_eq_false hs), hl, hr⟩
    · exact ⟨h2.scope.2, fun _ => h2.scope.1, hl, hr⟩
  | .call name args, st, h => by
    have h := Below.live' h
    by_cases hl : name = "label_join" ∨ name = "label_replace"
    · rw [if_pos hl] at h
      split at h
      · have ⟨h1, ha⟩ := walkList_ok args _ h
        exact ⟨h1.dyn.2, fun _ => ⟨_, ‹_›, h1.dyn.1⟩, fun hq => by simp [hq] at hl, ha⟩
      · exact absurd h.1 Bool.false_ne_true
    · rw [if_neg hl] at h
      by_cases ha : name = "absent_over_time" ∨ name = "absent" ∨ name = "scalar"
      · rw [if_pos ha] at h
        exact absurd h.1 Bool.false_ne_true
      · rw [if_neg ha] at h
        by_cases hq : name = "histogram_quantile"
        · rw [if_pos hq] at h
          have ⟨h1, ha⟩ := walkList_ok args _ h
          exact ⟨h1.scope.2, fun hn => absurd hn hl, fun _ => h1.scope.1, ha⟩
        · rw [if_neg hq] at h
          have ⟨h1, ha⟩ := walkList_ok args _ h
          exact ⟨h1, fun hn => absurd hn hl, fun h => absurd h hq, ha⟩

theorem walkList_ok : ∀ (es : List Expr) (st : St), Below K by_ c (walkList st es) → Below K by_ c st ∧ OKs K by_ c es
  | [], _, h => ⟨h, trivial⟩
  | e :: es, st, h =>
    have ⟨h1, h2⟩ := walkList_ok es _ (Below.live h)
    have ⟨h3, h4⟩ := walk_ok e st h1
    ⟨h3, h4, h2⟩
end

theorem analyze_ok {e : Expr} (ha : analyze e = ⟨some K, by_⟩) : e.OK K by_ true := by
  unfold analyze analyzeWith at ha
  -- `c` := the variant flag of the last state; by `walk_ok` it is that of the first, `true`
  have h := walk_ok (K := K) (by_ := by_) (c := (walk ⟨⟨none, false⟩, [], true, true⟩ e).cv) e ⟨⟨none, false⟩, [], true, true⟩
  generalize walk ⟨⟨none, false⟩, [], true, true⟩ e = st at ha h
  dsimp only at ha
  split at ha
  · cases ha
  · have h := h ⟨Decidable.of_not_not ‹_›, rfl, fun n hn => ?_⟩
    · have hc : true = st.cv := h.1.2.1
      exact hc ▸ h.2
    split at ha
    · exact ⟨by rw [ha]; exact hn, by simp [List.isEmpty_iff.mp ‹_›]⟩
    · have h := (hashes_scopeToLabels st.an st.dyn false n).symm
      rw [ha] at h
      have h2 := Bool.and_eq_true_iff.mp (h.trans hn)
      exact ⟨h2.1, by simpa using h2.2⟩

end

/-! No lemma reads these: `scopeToLabels` folded over a list of scopes; the walk over string literals. -/

def foldScopes (a : Analysis) (scs : List (List String × Bool)) : Analysis :=
  scs.foldl (fun a sc => scopeToLabels a sc.1 sc.2) a

theorem foldScopes_append (a : Analysis) (s1 s2 : List (List String × Bool)) :
    foldScopes a (s1 ++ s2) = foldScopes (foldScopes a s1) s2 := by
  simp [foldScopes, List.foldl_append]

theorem walkList_strs (st : St) (xs : List String) : walkList st (xs.map Expr.str) = st := by
  induction xs with
  | nil => rfl
  | cons x xs ih =>
    simp only [List.map_cons, walkList, walk]
    split
    · exact ih
    · rfl

end Thanos.Sharding
